/-
  C06 — tap: the printed address and witnesses verify, whatever leaf is spent.

  Model: `Btcdeb/Model/Tap.lean` (tap.cpp: `Tap.run`, `Tap.mainArgs`; with --tx and --txin `Tap.runTx`, whose `Tap.calcSighash` is
         `configure_tx_txin` of Model/Spend.lean, then `Instance::calc_sighash` on top of Model/Sighash.lean).  The model has the
         merge pass twice, as the literal `erase`+overwrite loop `mergeFor` and as the pairing recursion `mergePass`: `mergeFor_eq`.
  Spec:  `Btcdeb/Spec/Taproot.lean` (`bip341Valid`), `Btcdeb/Spec/TapTree.lean` (script tree, Merkle root, path table,
         `isOutputKey`, `controlBlock`).
  Debugger: `Btcdeb/Model/Session.lean` (`Tce.init`, `Tce.iterate`), run to its end by `Tap.tceRun`.

  Parameters (trusted shape, proved for the concrete instance): the tagged hash returns 32 bytes (`Hash32`; proved for
  SHA-256: `glue_hash32`), and a key made by `tweakAdd` passes the oracle's `tweakCheck` with the reported parity
  (`Agree`, `AgreeTce`; proved for `Crypto.xonlyTweakAdd` vs `Glue.tapOracle` / `Glue.tapCtx`: `glue_agree`, `glue_agreeTce`).
  `bech32m : hrp → witness version → program → Option String` is a parameter of `Tap.run` (`none` = the encoder's assertion on
  an upper-case prefix); the concrete one is `Tap.bech32mAddress` = `bech32::Encode(BECH32M, ..)` of Model/Encodings.lean, whose
  agreement with BIP350 is C14's `bech32_encode_spec`.  The address statements say `bech32m hrp 1 outputKey = some address`.

  All statements are for ALL lists of scripts and ALL leaf indices; the `*_concrete` theorems are the same for the
  SHA-256 / secp256k1 instance, with no hypothesis on the hash or the curve left; the `example`s at the end (five scripts, two
  equal, one empty, the leftover leaf spent; then the same with --tx and --txin) show that the hypotheses are satisfiable together.
  Hypotheses worth noting: the spent output must BE `OP_1 <output key>` (tap itself only checks that the scriptPubKey ends with
  the key, tap.cpp:397-405); the witness limits of `configure_tx_txin` (items ≤ 520 bytes, < 1000 arguments); `toBool outputKey`
  in the round trip (a key is never all zero; stated because `Tap.Ctx` is abstract).
-/
import Btcdeb.Model.Tap
import Btcdeb.Spec.TapTree
import BtcdebProofs.Lemmas.TapSpend
import BtcdebProofs.Properties.C05
import BtcdebProofs.Properties.C14
namespace Btcdeb.Proofs.C06
open Btcdeb Btcdeb.Model Btcdeb.Model.Tap Btcdeb.Spec Btcdeb.Proofs.TapTree

/-- the hash function returns 32 bytes (`uint256`) -/
def Hash32 (cx : Tap.Ctx) : Prop := ∀ tag m, (cx.taggedHash tag m).length = 32

/-- tap's hashing / tweaking and the oracle BIP341 is stated over agree: same tagged hash, and a key produced
    by `tweakAdd` passes `tweakCheck` with the parity that was reported.
    (`Tap.Ctx` is what the `tap` tool calls; `C05.Agree` is the corresponding relation between what the debugger calls,
    `TapCtx`, and the oracle: the digest and round trip clauses, where tap runs the debugger's `configure_tx_txin`, assume
    that one, the script path round trip both.) -/
structure Agree (cx : Tap.Ctx) (o : TapOracle) : Prop where
  hash : ∀ tag m, o.taggedHash tag m = cx.taggedHash tag m
  tweak : ∀ p t q odd, cx.tweakAdd p t = some (q, odd) → o.tweakCheck q p t odd = true

/-- the same between tap's functions and what the debugger's `TaprootCommitmentEnv` calls (`CheckTapTweak` hashes the
    Merkle root itself); no oracle is involved -/
structure AgreeTce (cx : Tap.Ctx) (tc : TapCtx) : Prop where
  hash : ∀ tag m, tc.taggedHash tag m = cx.taggedHash tag m
  tweak : ∀ p k q odd, cx.tweakAdd p (cx.taggedHash "TapTweak" (p ++ k)) = some (q, odd) →
    tc.checkTapTweak q p k odd = true

@[simp] theorem hash_leaf (i : Nat) (h : Bytes) : (Node.leaf i h).hash = h := rfl
@[simp] theorem hash_branch (l r : Node) (h : Bytes) : (Node.branch l r h).hash = h := rfl

def WF (cx : Tap.Ctx) (scripts : List Bytes) : Node → Prop
  | .leaf i h => ∃ s, scripts[i]? = some s ∧ h = leafHash cx s
  | .branch l r h => WF cx scripts l ∧ WF cx scripts r ∧ h = branchHash cx l.hash r.hash

theorem compactSize_eq_varint (n : Nat) : Model.compactSize n = varint n := rfl

section WellFormed
variable {cx : Tap.Ctx} {o : TapOracle} {scripts : List Bytes}

theorem leafHash_eq (hag : Agree cx o) (s : Bytes) :
    leafHash cx s = tapLeafHash o 0xc0 s := by
  simp only [leafHash, tapLeafHash, hag.hash, compactSize_eq_varint]; rfl

theorem branchHash_eq (hag : Agree cx o) (a b : Bytes) :
    branchHash cx a b = tapBranchHash o a b := by
  rw [tapBranchHash_comm]
  simp only [branchHash, tapBranchHash, hag.hash, lexLt_eq_bytesLt]

theorem wf_hash_eq_root (hag : Agree cx o) :
    ∀ {t : Node}, WF cx scripts t → t.hash = (t.toTree scripts).root o
  | .leaf i h, hw => by
    obtain ⟨s, hs, rfl⟩ := hw
    simp [Node.toTree, TapTree.root, leafHash_eq hag, List.getD, hs]
  | .branch l r h, hw => by
    obtain ⟨hl, hr, rfl⟩ := hw
    simp [Node.toTree, TapTree.root, branchHash_eq hag, wf_hash_eq_root hag hl, wf_hash_eq_root hag hr]

theorem prove_leaf {j i : Nat} {h : Bytes} {p : List Bytes} (hp : (Node.leaf j h).prove i = some p) : j = i ∧ p = [] := by
  simp only [Node.prove] at hp
  split at hp
  · next hji => exact ⟨hji, (Option.some.inj hp).symm⟩
  · cases hp

theorem prove_branch {l r : Node} {h : Bytes} {i : Nat} {p : List Bytes} (hp : (Node.branch l r h).prove i = some p) :
    (∃ q, l.prove i = some q ∧ p = q ++ [r.hash]) ∨ (∃ q, r.prove i = some q ∧ p = q ++ [l.hash]) := by
  simp only [Node.prove] at hp
  split at hp
  · next q hq => exact Or.inl ⟨q, hq, (Option.some.inj hp).symm⟩
  · split at hp
    · next q hq => exact Or.inr ⟨q, hq, (Option.some.inj hp).symm⟩
    · cases hp

theorem prove_length_le (i : Nat) : ∀ {t : Node} {p : List Bytes}, t.prove i = some p → p.length ≤ t.height
  | .leaf j h, p, hp => by rw [(prove_leaf hp).2]; exact Nat.zero_le _
  | .branch l r h, p, hp => by
    rcases prove_branch hp with ⟨q, hq, rfl⟩ | ⟨q, hq, rfl⟩ <;>
      have := prove_length_le i hq <;>
      simp only [List.length_append, List.length_singleton, Node.height] <;> omega

theorem prove_isSome_of_mem (i : Nat) : ∀ {t : Node}, i ∈ t.indices → ∃ p, t.prove i = some p
  | .leaf j h, hm => by
    simp only [Node.indices, List.mem_singleton] at hm
    exact ⟨[], by simp only [Node.prove, hm, if_true]⟩
  | .branch l r h, hm => by
    simp only [Node.indices, List.mem_append] at hm
    simp only [Node.prove]
    cases hl : l.prove i with
    | some p => exact ⟨_, rfl⟩
    | none =>
      rcases hm with hm | hm
      · obtain ⟨p, hp⟩ := prove_isSome_of_mem i hm; rw [hl] at hp; cases hp
      · obtain ⟨p, hp⟩ := prove_isSome_of_mem i hm; rw [hp]; exact ⟨_, rfl⟩

theorem prove_mem_paths (hag : Agree cx o) (i : Nat) :
    ∀ {t : Node} {p : List Bytes}, WF cx scripts t → t.prove i = some p →
      (0xc0, scripts.getD i [], p) ∈ (t.toTree scripts).paths o
  | .leaf j h, p, _, hp => by
    obtain ⟨rfl, rfl⟩ := prove_leaf hp
    exact List.mem_singleton.2 rfl
  | .branch l r h, p, ⟨hl, hr, _⟩, hp => by
    simp only [Node.toTree, TapTree.paths, List.mem_append, List.mem_map]
    rcases prove_branch hp with ⟨q, hq, rfl⟩ | ⟨q, hq, rfl⟩
    · exact Or.inl ⟨_, prove_mem_paths hag i hl hq, by rw [wf_hash_eq_root hag hr]⟩
    · exact Or.inr ⟨_, prove_mem_paths hag i hr hq, by rw [wf_hash_eq_root hag hl]⟩

end WellFormed

def idx (l : List Node) : List Nat := l.flatMap Node.indices

@[simp] theorem idx_nil : idx [] = [] := rfl
@[simp] theorem idx_cons (t : Node) (l : List Node) : idx (t :: l) = t.indices ++ idx l := by simp [idx]
@[simp] theorem idx_append (a b : List Node) : idx (a ++ b) = idx a ++ idx b := by simp [idx]
@[simp] theorem indices_mkBranch (cx : Tap.Ctx) (l r : Node) : (mkBranch cx l r).indices = l.indices ++ r.indices := rfl
@[simp] theorem indices_mkLeaf (cx : Tap.Ctx) (i : Nat) (s : Bytes) : (mkLeaf cx i s).indices = [i] := rfl
@[simp] theorem height_mkBranch (cx : Tap.Ctx) (l r : Node) : (mkBranch cx l r).height = max l.height r.height + 1 := rfl
@[simp] theorem height_mkLeaf (cx : Tap.Ctx) (i : Nat) (s : Bytes) : (mkLeaf cx i s).height = 0 := rfl

section Construction
variable {cx : Tap.Ctx} {scripts : List Bytes}

theorem wf_mkBranch {l r : Node} (hl : WF cx scripts l) (hr : WF cx scripts r) :
    WF cx scripts (mkBranch cx l r) := ⟨hl, hr, rfl⟩

@[simp] theorem mergePass_nil (cx : Tap.Ctx) : mergePass cx [] = [] := rfl
@[simp] theorem mergePass_one (cx : Tap.Ctx) (x : Node) : mergePass cx [x] = [x] := rfl
@[simp] theorem mergePass_two (cx : Tap.Ctx) (x y : Node) (l : List Node) :
    mergePass cx (x :: y :: l) = mkBranch cx x y :: mergePass cx l := rfl

theorem mergeFor_eq (cx : Tap.Ctx) : ∀ (fuel : Nat) (pre rest : List Node), rest.length ≤ fuel →
    mergeFor cx fuel pre.length (pre ++ rest) = pre ++ mergePass cx rest
  | 0, pre, rest, h => by
    have : rest = [] := List.length_eq_zero_iff.mp (by omega)
    subst this; simp [mergeFor]
  | fuel + 1, pre, [], _ => by simp [mergeFor]
  | fuel + 1, pre, [x], _ => by simp [mergeFor]
  | fuel + 1, pre, x :: y :: rest, h => by
    have ih := mergeFor_eq cx fuel (pre ++ [mkBranch cx x y]) rest (by simp at h; omega)
    simp only [mergeFor, List.length_append, List.length_cons]
    rw [if_pos (by omega)]
    have h1 : (pre ++ x :: y :: rest)[pre.length]? = some x := by simp
    have h2 : (pre ++ x :: y :: rest)[pre.length + 1]? = some y := by
      rw [List.getElem?_append_right (by omega)]; simp
    rw [h1, h2]
    simp only
    have h3 : (pre ++ x :: y :: rest).eraseIdx pre.length = pre ++ y :: rest := by
      rw [List.eraseIdx_append_of_length_le (by omega)]; simp
    have h4 : (pre ++ y :: rest).set pre.length (mkBranch cx x y) = pre ++ mkBranch cx x y :: rest := by
      rw [List.set_append_right _ _ (by omega)]; simp
    rw [h3, h4]
    simpa using ih

theorem mergeLoop_succ (cx : Tap.Ctx) (fuel : Nat) (l : List Node) :
    mergeLoop cx (fuel + 1) l = if l.length > 1 then mergeLoop cx fuel (mergePass cx l) else l := by
  have := mergeFor_eq cx l.length [] l (Nat.le_refl _)
  simp only [List.length_nil, List.nil_append] at this
  simp only [mergeLoop, this]

theorem mergePass_forall {P Q : Node → Prop} (carried : ∀ t, P t → Q t)
    (paired : ∀ x y, P x → P y → Q (mkBranch cx x y)) : ∀ l : List Node, (∀ t ∈ l, P t) → ∀ t ∈ mergePass cx l, Q t
  | [], _ => fun _ ht => nomatch ht
  | [x], h => by
    rw [mergePass_one, List.forall_mem_singleton]
    exact carried x (h x (List.mem_singleton.2 rfl))
  | x :: y :: rest, h => by
    simp only [List.forall_mem_cons] at h
    simp only [mergePass_two, List.forall_mem_cons]
    exact ⟨paired x y h.1 h.2.1, mergePass_forall carried paired rest h.2.2⟩

theorem mergePass_idx (cx : Tap.Ctx) : ∀ l : List Node, idx (mergePass cx l) = idx l
  | [] => rfl
  | [x] => rfl
  | x :: y :: rest => by simp [mergePass_idx cx rest]

theorem mergePass_length (cx : Tap.Ctx) : ∀ l : List Node, (mergePass cx l).length = (l.length + 1) / 2
  | [] => rfl
  | [x] => by simp
  | x :: y :: rest => by simp only [mergePass_two, List.length_cons, mergePass_length cx rest]; omega

theorem mergePass_append_even (cx : Tap.Ctx) : ∀ (a b : List Node), a.length % 2 = 0 →
    mergePass cx (a ++ b) = mergePass cx a ++ mergePass cx b
  | [], b, _ => rfl
  | [x], b, h => by simp at h
  | x :: y :: a, b, h => by
    simp only [List.cons_append, mergePass_two, mergePass_append_even cx a b (by simp at h; omega)]

theorem mergeLoop_induct {P : List Node → Prop} (pass : ∀ l, 1 < l.length → P l → P (mergePass cx l)) :
    ∀ (fuel : Nat) (l : List Node), P l → P (mergeLoop cx fuel l)
  | 0, _, h => h
  | fuel + 1, l, h => by
    rw [mergeLoop_succ]; split
    · next hl => exact mergeLoop_induct pass fuel _ (pass l hl h)
    · exact h

theorem mergeLoop_length (cx : Tap.Ctx) : ∀ (fuel : Nat) (l : List Node), l.length ≤ fuel + 1 →
    (mergeLoop cx fuel l).length = min l.length 1
  | 0, l, h => by simp only [mergeLoop]; omega
  | fuel + 1, l, h => by
    rw [mergeLoop_succ]; split
    · rw [mergeLoop_length cx fuel _ (by rw [mergePass_length]; omega), mergePass_length]; omega
    · omega

/-- What the merge passes preserve, for a tree of height at most `H` over all the scripts.  Every node is well formed and
    together they hold the leaves `0 .. n-1` in order.  Heights: with `k` passes to go the list is `init ++ [last]`, the
    nodes of `init` have height at most `h`, where `h + k ≤ H`, and `last` counts for `w` nodes: for one if it is no
    higher than the others, for two if it is one level higher (the leftover leaf baked into the right-most pair); the
    count fits into `2^k`.  A pass halves the count: a `last` of weight two is absorbed because the count of the
    others is rounded up. -/
structure Inv (cx : Tap.Ctx) (scripts : List Bytes) (H : Nat) (l : List Node) : Prop where
  wf : ∀ t ∈ l, WF cx scripts t
  idx : idx l = List.range scripts.length
  height : ∃ (h k w : Nat) (init : List Node) (last : Node), l = init ++ [last] ∧ h + k ≤ H ∧
    (∀ t ∈ init, t.height ≤ h) ∧ last.height + 1 ≤ h + w ∧ 1 ≤ w ∧ w ≤ 2 ∧ init.length + w ≤ 2 ^ k

theorem Inv.mergePass {H : Nat} {l : List Node} (hl : 1 < l.length)
    (inv : Inv cx scripts H l) : Inv cx scripts H (mergePass cx l) := by
  obtain ⟨h, k, w, init, last, rfl, hH, hinit, hlast, hw1, hw2, hk⟩ := inv.height
  refine ⟨mergePass_forall (fun _ ht => ht) (fun _ _ => wf_mkBranch) _ inv.wf, (mergePass_idx cx _).trans inv.idx, ?_⟩
  simp only [List.length_append, List.length_singleton] at hl
  obtain ⟨k, rfl⟩ : ∃ k', k = k' + 1 := by
    cases k with
    | zero => omega
    | succ k => exact ⟨k, rfl⟩
  rw [Nat.pow_succ] at hk
  have hpass : ∀ a : List Node, (∀ t ∈ a, t.height ≤ h) → ∀ t ∈ Tap.mergePass cx a, t.height ≤ h + 1 :=
    mergePass_forall (fun _ ht => Nat.le_succ_of_le ht) (fun x y hx hy => by rw [height_mkBranch]; omega)
  by_cases hpar : init.length % 2 = 0
  · -- `last` is carried and from now on counts for one
    exact ⟨h + 1, k, 1, Tap.mergePass cx init, last, mergePass_append_even cx init [last] hpar, by omega,
      hpass init hinit, by omega, Nat.le_refl 1, by omega, by rw [mergePass_length]; omega⟩
  · -- `last` is paired with its left neighbour `x` and keeps its weight
    have hne : init ≠ [] := by intro h0; subst h0; simp at hpar
    obtain ⟨init, x, rfl⟩ : ∃ init' x, init = init' ++ [x] :=
      ⟨init.dropLast, init.getLast hne, (List.dropLast_concat_getLast hne).symm⟩
    rw [List.forall_mem_append, List.forall_mem_singleton] at hinit
    simp only [List.length_append, List.length_singleton] at hpar hk
    refine ⟨h + 1, k, w, Tap.mergePass cx init, mkBranch cx x last, ?_, by omega, hpass init hinit.1,
      by rw [height_mkBranch]; omega, hw1, hw2, by rw [mergePass_length]; omega⟩
    rw [List.append_assoc, mergePass_append_even cx init _ (by omega)]
    rfl

theorem Inv.height_le {H : Nat} {root : Node} (inv : Inv cx scripts H [root]) :
    root.height ≤ H := by
  obtain ⟨h, k, w, init, last, hl, hH, _, hlast, _, hw2, hk⟩ := inv.height
  cases init with
  | cons a init => cases init <;> simp at hl
  | nil =>
    cases hl
    cases k with
    | zero => simp at hk; omega
    | succ k => omega

/-- invariant of the loop over the scripts when `i` scripts have been consumed: pairs in `br`, a single leaf pending -/
structure LoopInv (cx : Tap.Ctx) (scripts : List Bytes) (i : Nat) (br : List Node) (pend : Option Node) : Prop where
  wf : ∀ t ∈ br ++ pend.toList, WF cx scripts t
  idx : idx (br ++ pend.toList) = List.range i
  hbr : ∀ t ∈ br, t.height ≤ 1
  hpend : ∀ p ∈ pend, p.height = 0
  len : 2 * br.length + pend.toList.length = i

theorem leafLoop_inv : ∀ (rest : List Bytes) (i : Nat) (br : List Node) (pend : Option Node),
    scripts.drop i = rest → i ≤ scripts.length → LoopInv cx scripts i br pend →
    LoopInv cx scripts scripts.length (leafLoop cx i rest br pend).1 (leafLoop cx i rest br pend).2
  | [], i, br, pend, hd, hi, inv => by
    cases Nat.le_antisymm hi (List.drop_eq_nil_iff.mp hd)
    exact inv
  | s :: rest, i, br, pend, hd, _, inv => by
    have hs : scripts[i]? = some s := by
      have := congrArg (fun l => l[0]?) hd
      simpa [List.getElem?_drop] using this
    have hlt : i < scripts.length := (List.getElem?_eq_some_iff.mp hs).1
    have hd' : scripts.drop (i + 1) = rest := by
      have := congrArg (fun l => l.drop 1) hd
      simpa [List.drop_drop] using this
    have hleaf : WF cx scripts (mkLeaf cx i s) := ⟨s, hs, rfl⟩
    have hwf := inv.wf
    have hidx := inv.idx
    have hlen := inv.len
    cases pend with
    | some p =>
      simp only [Option.toList_some, List.forall_mem_append, List.forall_mem_singleton, idx_append, idx_cons, idx_nil,
        List.append_nil, List.length_singleton] at hwf hidx hlen
      refine leafLoop_inv rest (i + 1) _ none hd' hlt ⟨?_, ?_, ?_, (fun _ hp => nomatch hp), ?_⟩
      · simp only [Option.toList_none, List.append_nil, List.forall_mem_append, List.forall_mem_singleton]
        exact ⟨hwf.1, wf_mkBranch hwf.2 hleaf⟩
      · simp only [Option.toList_none, List.append_nil, idx_append, idx_cons, idx_nil, indices_mkBranch, indices_mkLeaf,
          List.range_succ, ← hidx, List.append_assoc]
      · simp only [List.forall_mem_append, List.forall_mem_singleton, height_mkBranch, height_mkLeaf,
          inv.hpend p rfl]
        exact ⟨inv.hbr, Nat.le_refl 1⟩
      · simp only [Option.toList_none, List.length_append, List.length_singleton, List.length_nil]; omega
    | none =>
      simp only [Option.toList_none, List.append_nil, List.length_nil] at hwf hidx hlen
      refine leafLoop_inv rest (i + 1) _ (some (mkLeaf cx i s)) hd' hlt ⟨?_, ?_, inv.hbr, ?_, ?_⟩
      · simp only [Option.toList_some, List.forall_mem_append, List.forall_mem_singleton]
        exact ⟨hwf, hleaf⟩
      · simp only [Option.toList_some, idx_append, idx_cons, idx_nil, indices_mkLeaf, List.append_nil, List.range_succ, hidx]
      · intro p hp; cases hp; rfl
      · simp only [Option.toList_some, List.length_singleton]; omega

theorem bakeLeftover_inv {br : List Node} {pend : Option Node}
    (inv : LoopInv cx scripts scripts.length br pend) (hn : 1 ≤ scripts.length) (k : Nat) (hk : scripts.length ≤ 2 ^ k) :
    Inv cx scripts k (bakeLeftover cx br pend) := by
  have hwf := inv.wf
  have hidx := inv.idx
  have hlen := inv.len
  rcases List.eq_nil_or_concat br with rfl | ⟨init, last, rfl⟩
  · -- at most one script
    cases pend with
    | none => simp at hlen; omega
    | some p => exact ⟨hwf, hidx, 0, k, 1, [], p, rfl, by omega, (fun _ ht => nomatch ht), by have := inv.hpend p rfl; omega, by omega,
        by omega, by simpa using Nat.one_le_two_pow⟩
  · rw [List.concat_eq_append] at hwf hidx hlen ⊢
    have hbr := inv.hbr
    rw [List.concat_eq_append, List.forall_mem_append, List.forall_mem_singleton] at hbr
    obtain ⟨k, rfl⟩ : ∃ k', k = k' + 1 := by
      cases k with
      | zero => simp at hlen hk; omega
      | succ k => exact ⟨k, rfl⟩
    rw [Nat.pow_succ] at hk
    cases pend with
    | none =>
      simp only [Option.toList_none, List.append_nil, List.length_append, List.length_singleton, List.length_nil] at hwf hidx hlen
      exact ⟨hwf, hidx, 1, k, 1, init, last, rfl, by omega, hbr.1, by omega, by omega, by omega, by omega⟩
    | some p =>
      simp only [Option.toList_some, List.forall_mem_append, List.forall_mem_singleton, List.length_append,
        List.length_singleton] at hwf hlen
      refine ⟨?_, ?_, 1, k, 2, init, mkBranch cx last p, ?_, by omega, hbr.1, ?_, by omega, by omega, by omega⟩
      · simp only [bakeLeftover, List.getLast?_append, List.getLast?_singleton, Option.some_or, List.dropLast_concat,
          List.forall_mem_append, List.forall_mem_singleton]
        exact ⟨hwf.1.1, wf_mkBranch hwf.1.2 hwf.2⟩
      · simpa [bakeLeftover] using hidx
      · simp [bakeLeftover]
      · rw [height_mkBranch, inv.hpend p rfl]; omega

/-- The loop over the scripts ends in `LoopInv` (`leafLoop_inv`); baking the leftover leaf into the right-most pair turns
    that, for every `k` with `n ≤ 2^k`, into `Inv … k` (`bakeLeftover_inv`); every merge pass keeps `Inv` (`Inv.mergePass`),
    and as many passes as there are nodes leave exactly one (`mergeLoop_length`). -/
theorem buildTree_spec (cx : Tap.Ctx) (scripts : List Bytes) (hne : scripts ≠ []) :
    ∃ root, buildTree cx scripts = some root ∧ WF cx scripts root ∧ root.indices = List.range scripts.length ∧
      ∀ k, scripts.length ≤ 2 ^ k → root.height ≤ k := by
  have hn : 1 ≤ scripts.length := List.length_pos_iff.mpr hne
  have inv := leafLoop_inv (cx := cx) (scripts := scripts) scripts 0 [] none rfl (Nat.zero_le _)
    ⟨(fun _ ht => nomatch ht), rfl, (fun _ ht => nomatch ht), (fun _ hp => nomatch hp), rfl⟩
  unfold buildTree
  generalize leafLoop cx 0 scripts [] none = st at inv
  obtain ⟨br, pend⟩ := st
  have start := bakeLeftover_inv inv hn
  simp only
  generalize bakeLeftover cx br pend = l at start
  have hbig : scripts.length ≤ 2 ^ scripts.length := Nat.le_of_lt Nat.lt_two_pow_self
  have stop := fun k hk => mergeLoop_induct (fun _ => Inv.mergePass) l.length l (start k hk)
  have big := stop _ hbig
  have hlen : 1 ≤ l.length := by
    obtain ⟨_, _, _, _, _, rfl, _⟩ := (start _ hbig).height
    simp
  have h1 : (mergeLoop cx l.length l).length = 1 := by
    rw [mergeLoop_length cx l.length l (by omega)]; omega
  match hm : mergeLoop cx l.length l, h1 with
  | [root], _ =>
    rw [hm] at stop big
    exact ⟨root, rfl, big.wf root (List.mem_singleton.2 rfl), by simpa using big.idx, fun k hk => (stop k hk).height_le⟩

theorem buildTree_some {root : Node} (h : buildTree cx scripts = some root) :
    WF cx scripts root ∧ root.indices = List.range scripts.length ∧ ∀ k, scripts.length ≤ 2 ^ k → root.height ≤ k := by
  have hne : scripts ≠ [] := by rintro rfl; cases h
  obtain ⟨root', hb, hspec⟩ := buildTree_spec cx scripts hne
  rw [h] at hb; cases hb
  exact hspec

end Construction

def oracleOf (cx : Tap.Ctx) : TapOracle where
  taggedHash := cx.taggedHash
  tweakCheck := fun q p t odd => cx.tweakAdd p t == some (q, odd)

theorem agree_oracleOf (cx : Tap.Ctx) : Agree cx (oracleOf cx) :=
  ⟨fun _ _ => rfl, fun p t q odd h => by simp [oracleOf, h]⟩

theorem Agree.hash32 {cx : Tap.Ctx} {o : TapOracle} (hag : Agree cx o) (h32 : Hash32 cx) (tag : String) (m : Bytes) :
    (o.taggedHash tag m).length = 32 := by rw [hag.hash]; exact h32 tag m

section Control
variable {cx : Tap.Ctx} {scripts : List Bytes} {root : Node} {i : Nat} {path : List Bytes} {internal : Bytes}
  (h32 : Hash32 cx) (hw : WF cx scripts root) (hp : root.prove i = some path) (hk : internal.length = 32)
include h32 hw hp hk

/-- what BIP341 and the debugger read off the emitted control block: its size, the internal key, and — from leaf version 0xc0,
    the script and the path — the Merkle root, which is the hash of the node the path was emitted for -/
theorem control_spec {o : TapOracle} (hag : Agree cx o) (odd : Bool) :
    (controlByte odd :: (internal ++ path.flatten)).length = 33 + 32 * path.length ∧
    ((controlByte odd :: (internal ++ path.flatten)).drop 1).take 32 = internal ∧
    controlRoot o (controlByte odd :: (internal ++ path.flatten)) (scripts.getD i []) = root.hash := by
  -- the path is an entry of BIP341's path table of the tree this node stands for
  obtain ⟨hroot, hall, _⟩ := paths_spec (hag.hash32 h32) (prove_mem_paths hag i hw hp)
  obtain ⟨hlen, hint, hcr⟩ := controlRoot_cons o (controlByte odd) internal path (scripts.getD i []) hk hall
  refine ⟨hlen, hint, hcr.trans ?_⟩
  rw [wf_hash_eq_root hag hw, ← hroot]
  cases odd <;> rfl

theorem tce_accepts {tc : TapCtx} (hag : AgreeTce cx tc) {q : Bytes} {odd : Bool}
    (ht : cx.tweakAdd internal (cx.taggedHash "TapTweak" (internal ++ root.hash)) = some (q, odd))
    (fuel : Nat) (hf : path.length < fuel) :
    tceRun tc fuel (Tce.init tc (controlByte odd :: (internal ++ path.flatten)) q (scripts.getD i [])) = .done := by
  obtain ⟨hlen, hint, hcr⟩ := control_spec h32 hw hp hk (agree_oracleOf cx) odd
  have hrun := Tce.run_init tc (oracleOf cx) hag.hash (controlByte odd :: (internal ++ path.flatten)) q (scripts.getD i [])
  rw [hlen, hint, hcr, List.headD_cons, show ((controlByte odd).toNat % 2 == 1) = odd by cases odd <;> rfl,
    hag.tweak _ _ _ _ ht, if_pos rfl, show (33 + 32 * path.length - 33) / 32 = path.length by omega] at hrun
  rw [Tce.tceRun_eq_run, show fuel = path.length + 1 + (fuel - (path.length + 1)) by omega,
    C05.C05_run_fuel_mono tc _ _ _ (by rw [hrun]; exact nofun), hrun]

end Control

/-- the checks of `run`, in its order, with what it computes on the way -/
structure RunOk (cx : Tap.Ctx) (bech : String → Nat → Bytes → Option String) (hrp : String) (spk : Option Bytes)
    (internal : Bytes) (scripts : List Bytes) (sel : Option (Nat × List Bytes))
    (root : Node) (ctl q : Bytes) (odd : Bool) (address : String) : Prop where
  keyLength : internal.length = 32
  count : 1 ≤ scripts.length ∧ scripts.length ≤ 1024
  index : indexOutOfRange sel scripts.length = false
  valid : firstInvalid 0 scripts = none
  tree : buildTree cx scripts = some root
  control : controlTail internal root sel = .ok ctl
  parse : cx.xonlyParse internal = true
  tweak : cx.tweakAdd internal (cx.taggedHash "TapTweak" (internal ++ root.hash)) = some (q, odd)
  spk : spkMismatch spk q = false
  address : bech hrp 1 q = some address

section Run
variable {cx : Tap.Ctx} {bech : String → Nat → Bytes → Option String} {hrp : String} {spk : Option Bytes} {internal : Bytes}
  {scripts : List Bytes} {sel : Option (Nat × List Bytes)}

theorem controlTail_error {root : Node} {e : Err} (h : controlTail internal root sel = .error e) : e = .spendingLeaf := by
  unfold controlTail at h
  split at h
  · cases h
  · split at h <;> cases h
    rfl

theorem run_cases :
    match run cx bech hrp spk internal scripts sel with
    | .ok out => ∃ root ctl q odd address, RunOk cx bech hrp spk internal scripts sel root ctl q odd address ∧
        out = finish address scripts root.hash (cx.taggedHash "TapTweak" (internal ++ root.hash)) q odd ctl sel
    | .error e => e = .addressAssert → ∃ q, bech hrp 1 q = none := by
  unfold run
  by_cases hk : internal.length ≠ 32
  · rw [if_pos hk]; exact nofun
  rw [if_neg hk]
  by_cases hc : (decide (scripts.length < 1) || decide (scripts.length > 1024)) = true
  · rw [if_pos hc]; exact nofun
  rw [if_neg hc]
  by_cases hi : indexOutOfRange sel scripts.length = true
  · rw [if_pos hi]; exact nofun
  rw [if_neg hi]
  rcases hv : firstInvalid 0 scripts with _ | k <;> simp only
  rotate_left
  · exact nofun
  rcases hb : buildTree cx scripts with _ | root <;> simp only
  · exact nofun
  rcases hctl : controlTail internal root sel with e | ctl <;> simp only
  · exact fun h => nomatch ((controlTail_error hctl).symm.trans h)
  by_cases hx : (!cx.xonlyParse internal) = true
  · rw [if_pos hx]; exact nofun
  rw [if_neg hx]
  rcases ht : cx.tweakAdd internal (cx.taggedHash "TapTweak" (internal ++ root.hash)) with _ | ⟨q, odd⟩ <;> simp only
  · exact nofun
  by_cases hm : spkMismatch spk q = true
  · rw [if_pos hm]; exact nofun
  rw [if_neg hm]
  rcases ha : bech hrp 1 q with _ | address <;> simp only
  · exact fun _ => ⟨q, ha⟩
  simp only [Bool.or_eq_true, decide_eq_true_eq, not_or, Nat.not_lt] at hc
  exact ⟨root, ctl, q, odd, address,
    ⟨Decidable.not_not.mp hk, hc, by simpa using hi, hv, hb, hctl, by simpa using hx, ht, by simpa using hm, ha⟩, rfl⟩

theorem run_ok_iff {out : Output} :
    run cx bech hrp spk internal scripts sel = .ok out ↔
    ∃ root ctl q odd address, RunOk cx bech hrp spk internal scripts sel root ctl q odd address ∧
      out = finish address scripts root.hash (cx.taggedHash "TapTweak" (internal ++ root.hash)) q odd ctl sel := by
  constructor
  · intro h
    have := run_cases (cx := cx) (bech := bech) (hrp := hrp) (spk := spk) (internal := internal) (scripts := scripts) (sel := sel)
    rwa [h] at this
  · rintro ⟨root, ctl, q, odd, address, r, rfl⟩
    have hc : ¬ (scripts.length < 1 ∨ scripts.length > 1024) := by have := r.count; omega
    simp only [run, r.keyLength, r.index, r.valid, r.tree, r.control, r.parse, r.tweak, r.spk, r.address, hc,
      ne_eq, not_true_eq_false, if_false, Bool.or_eq_true, decide_eq_true_eq, Bool.not_true, Bool.false_eq_true]

theorem run_ne_addressAssert (hb : ∀ q, bech hrp 1 q ≠ none) :
    run cx bech hrp spk internal scripts sel ≠ .error .addressAssert := by
  intro h
  have := run_cases (cx := cx) (bech := bech) (hrp := hrp) (spk := spk) (internal := internal) (scripts := scripts) (sel := sel)
  rw [h] at this
  obtain ⟨q, hq⟩ := this rfl
  exact hb q hq

theorem finish_key (address : String) (rootHash tweak q : Bytes) (odd : Bool) (ctl : Bytes) :
    (finish address scripts rootHash tweak q odd ctl sel).address = address ∧
    (finish address scripts rootHash tweak q odd ctl sel).outputKey = q ∧
    (finish address scripts rootHash tweak q odd ctl sel).odd = odd ∧
    (finish address scripts rootHash tweak q odd ctl sel).root = rootHash ∧
    (finish address scripts rootHash tweak q odd ctl sel).tweak = tweak := by
  cases sel <;> exact ⟨rfl, rfl, rfl, rfl, rfl⟩

variable {root : Node} {ctl q : Bytes} {odd : Bool} {address : String}

theorem RunOk.wf (r : RunOk cx bech hrp spk internal scripts sel root ctl q odd address) : WF cx scripts root :=
  (buildTree_some r.tree).1

theorem RunOk.path {i : Nat} {args : List Bytes}
    (r : RunOk cx bech hrp spk internal scripts (some (i, args)) root ctl q odd address) :
    ∃ path, root.prove i = some path ∧ ctl = internal ++ path.flatten ∧ path.length ≤ 10 := by
  have h := r.control
  simp only [controlTail] at h
  split at h
  · cases h
  · next path hp =>
    cases h
    exact ⟨path, hp, rfl, Nat.le_trans (prove_length_le i hp) ((buildTree_some r.tree).2.2 10 r.count.2)⟩

end Run

theorem toTree_leaves (scripts : List Bytes) : ∀ t : Node,
    (t.toTree scripts).leaves = t.indices.map (fun i => (0xc0, scripts.getD i []))
  | .leaf i h => rfl
  | .branch l r h => by simp [Node.toTree, TapTree.leaves, Node.indices, toTree_leaves scripts l, toTree_leaves scripts r]

theorem toTree_height (scripts : List Bytes) : ∀ t : Node, (t.toTree scripts).height = t.height
  | .leaf i h => rfl
  | .branch l r h => by simp [Node.toTree, TapTree.height, Node.height, toTree_height scripts l, toTree_height scripts r]

/-- **The tree.**  For every non-empty list of scripts the pairing loop ends with one tree; the hash it stores in the
    root is the BIP341 Merkle root of that tree; the leaves of the tree are exactly the given scripts (leaf version
    0xc0), in command line order, each once; its height is at most `k` whenever `n ≤ 2^k` (so `⌈log2 n⌉`). -/
theorem tap_tree_is_bip341_tree {cx : Tap.Ctx} {o : TapOracle} (hag : Agree cx o) (scripts : List Bytes) (hne : scripts ≠ []) :
    ∃ root, buildTree cx scripts = some root ∧
      root.hash = (root.toTree scripts).root o ∧
      (root.toTree scripts).leaves = scripts.map (fun s => (0xc0, s)) ∧
      ∀ k, scripts.length ≤ 2 ^ k → (root.toTree scripts).height ≤ k := by
  obtain ⟨root, hb, hw, hidx, hh⟩ := buildTree_spec cx scripts hne
  refine ⟨root, hb, wf_hash_eq_root hag hw, ?_, ?_⟩
  · rw [toTree_leaves, hidx]; exact ListAux.range_map_getD scripts [] (fun s => (0xc0, s))
  · intro k hk; rw [toTree_height]; exact hh k hk

/-- **Control block, any number of scripts.**  For every non-empty list of at most `2^128` scripts (BIP341 cannot
    commit to more in any tree), every leaf index and every 32-byte internal key: the path `Prove` emits for the leaf
    is at most 128 long, is an entry of the BIP341 path table of the tree, and the control block
    `(0xc0 | parity) ‖ internal key ‖ path` with the script verifies under BIP341 against any key the tweak of
    the internal key by the root produces. -/
theorem tap_control_verifies_any_count {cx : Tap.Ctx} {o : TapOracle} (hag : Agree cx o) (h32 : Hash32 cx)
    (scripts : List Bytes) (hne : scripts ≠ []) (hn : scripts.length ≤ 2 ^ 128) (i : Nat) (hi : i < scripts.length)
    (internal : Bytes) (hk : internal.length = 32) :
    ∃ root path, buildTree cx scripts = some root ∧ root.prove i = some path ∧ path.length ≤ 128 ∧
      (0xc0, scripts.getD i [], path) ∈ (root.toTree scripts).paths o ∧
      ∀ q odd, cx.tweakAdd internal (cx.taggedHash "TapTweak" (internal ++ root.hash)) = some (q, odd) →
        bip341Valid o (controlByte odd :: (internal ++ path.flatten)) (scripts.getD i []) q = true := by
  obtain ⟨root, hb, hw, hidx, hh⟩ := buildTree_spec cx scripts hne
  obtain ⟨path, hp⟩ := prove_isSome_of_mem i (t := root) (by rw [hidx]; simpa using hi)
  have hlen : path.length ≤ 128 := Nat.le_trans (prove_length_le i hp) (hh 128 hn)
  have hmem := prove_mem_paths hag i hw hp
  refine ⟨root, path, hb, hp, hlen, hmem, fun q odd ht => ?_⟩
  -- tap's control block is BIP341's for this entry of the path table, and the table verifies
  rw [show controlByte odd :: (internal ++ path.flatten) = controlBlock 0xc0 odd internal path by cases odd <;> rfl]
  refine controlBlock_valid (hag.hash32 h32) hmem hlen (by cases odd <;> decide) hk ?_
  rw [← wf_hash_eq_root hag hw, isOutputKey, hag.hash]
  exact hag.tweak _ _ _ _ ht

/-- **Control block, the tool.**  Whenever `tap` succeeds in tapscript mode (script index `i`, any spend arguments),
    the script it prints is script `i`, the witness is the spend arguments followed by script and control block, and
    (control block, script) verify under BIP341 against the output key it prints (= the program of the address). -/
theorem tap_control_verifies {cx : Tap.Ctx} {o : TapOracle} (hag : Agree cx o) (h32 : Hash32 cx)
    {bech : String → Nat → Bytes → Option String} {hrp : String} {spk : Option Bytes} {internal : Bytes} {scripts : List Bytes} {i : Nat}
    {args : List Bytes} {out : Output} (h : run cx bech hrp spk internal scripts (some (i, args)) = .ok out) :
    ∃ control script, out.control = some control ∧ out.script = some script ∧ scripts[i]? = some script ∧
      out.witness = args ++ [script, control] ∧ bech hrp 1 out.outputKey = some out.address ∧
      bip341Valid o control script out.outputKey = true := by
  obtain ⟨root, ctl, q, odd, address, r, rfl⟩ := run_ok_iff.mp h
  obtain ⟨path, hp, rfl, _⟩ := r.path
  have hi : i < scripts.length := by simpa [indexOutOfRange] using r.index
  obtain ⟨root', path', hb, hp', _, _, hv⟩ := tap_control_verifies_any_count hag h32 scripts
    (List.ne_nil_of_length_pos (by omega)) (Nat.le_trans r.count.2 (by decide)) i hi internal r.keyLength
  rw [r.tree] at hb; cases hb
  rw [hp] at hp'; cases hp'
  exact ⟨_, _, rfl, rfl, by simp [List.getD, List.getElem?_eq_getElem hi], rfl, r.address, hv q odd r.tweak⟩

/-- **Debugger.**  Constructing the debugger's `TaprootCommitmentEnv` on what `tap` printed (control block, output key
    as the witness program, script) and calling `Iterate()` until it stops answering `Processing` ends in `Done`
    (for any bound on the number of calls above the path length). -/
theorem tap_accepted_by_debugger {cx : Tap.Ctx} {tc : TapCtx} (hag : AgreeTce cx tc) (h32 : Hash32 cx)
    {bech : String → Nat → Bytes → Option String} {hrp : String} {spk : Option Bytes} {internal : Bytes} {scripts : List Bytes} {i : Nat}
    {args : List Bytes} {out : Output} (h : run cx bech hrp spk internal scripts (some (i, args)) = .ok out) :
    ∃ control script, out.control = some control ∧ out.script = some script ∧
      ∀ fuel, (control.length - 33) / 32 < fuel →
        tceRun tc fuel (Tce.init tc control out.outputKey script) = .done := by
  obtain ⟨root, ctl, q, odd, address, r, rfl⟩ := run_ok_iff.mp h
  obtain ⟨path, hp, rfl, _⟩ := r.path
  refine ⟨_, _, rfl, rfl, fun fuel hf => tce_accepts h32 r.wf hp r.keyLength hag r.tweak fuel ?_⟩
  rw [(control_spec h32 r.wf hp r.keyLength (agree_oracleOf cx) odd).1] at hf
  omega

/-- **Address.**  For a valid leaf index the address, the output key, its parity, the Merkle root and the tweak do
    not depend on whether a leaf is selected for spending, nor on which leaf or with which arguments: the runs
    succeed or fail alike and agree on all of these. -/
theorem tap_address_independent_of_selection (cx : Tap.Ctx) (bech : String → Nat → Bytes → Option String) (hrp : String)
    (spk : Option Bytes) (internal : Bytes) (scripts : List Bytes) (i : Nat) (args : List Bytes) (hi : i < scripts.length) :
    (run cx bech hrp spk internal scripts (some (i, args))).map (fun o => (o.address, o.outputKey, o.odd, o.root, o.tweak)) =
    (run cx bech hrp spk internal scripts none).map (fun o => (o.address, o.outputKey, o.odd, o.root, o.tweak)) := by
  have h1 : indexOutOfRange (some (i, args)) scripts.length = false := by simp [indexOutOfRange]; omega
  have h2 : indexOutOfRange none scripts.length = false := rfl
  unfold run
  by_cases hk : internal.length ≠ 32
  · rw [if_pos hk, if_pos hk]
  rw [if_neg hk, if_neg hk]
  by_cases hc : (decide (scripts.length < 1) || decide (scripts.length > 1024)) = true
  · rw [if_pos hc, if_pos hc]
  rw [if_neg hc, if_neg hc, h1, h2, if_neg Bool.false_ne_true, if_neg Bool.false_ne_true]
  rcases firstInvalid 0 scripts with _ | k
  rotate_left
  · rfl
  rcases hb : buildTree cx scripts with _ | root
  · rfl
  -- the selected leaf is in the tree, so `Prove` finds it
  obtain ⟨path, hp⟩ := prove_isSome_of_mem i (t := root) (by rw [(buildTree_some hb).2.1]; simpa using hi)
  simp only [controlTail, hp]
  by_cases hx : (!cx.xonlyParse internal) = true
  · rw [if_pos hx, if_pos hx]
  rw [if_neg hx, if_neg hx]
  rcases cx.tweakAdd internal (cx.taggedHash "TapTweak" (internal ++ root.hash)) with _ | ⟨q, odd⟩
  · rfl
  simp only
  by_cases hm : spkMismatch spk q = true
  · rw [if_pos hm, if_pos hm]
  rw [if_neg hm, if_neg hm]
  rcases bech hrp 1 q with _ | address <;> rfl

/-- **Output key.**  Whenever `tap` succeeds (with or without a selected leaf), the address it prints is
    `bech32m(hrp, 1, q)` where `q` (with the reported parity) is the BIP341 output key of the internal key and of the
    Merkle root of a BIP341 script tree whose leaves are exactly the given scripts, in order. -/
theorem tap_address_is_bip341_output_key {cx : Tap.Ctx} {o : TapOracle} (hag : Agree cx o)
    {bech : String → Nat → Bytes → Option String} {hrp : String} {spk : Option Bytes} {internal : Bytes} {scripts : List Bytes}
    {sel : Option (Nat × List Bytes)} {out : Output} (h : run cx bech hrp spk internal scripts sel = .ok out) :
    ∃ tree : TapTree, tree.leaves = scripts.map (fun s => (0xc0, s)) ∧ tree.height ≤ 10 ∧ out.root = tree.root o ∧
      isOutputKey o internal (tree.root o) out.outputKey out.odd = true ∧ bech hrp 1 out.outputKey = some out.address := by
  obtain ⟨root, ctl, q, odd, address, r, rfl⟩ := run_ok_iff.mp h
  obtain ⟨root', hb, hroot, hleaves, hh⟩ := tap_tree_is_bip341_tree hag scripts (List.ne_nil_of_length_pos (by have := r.count; omega))
  rw [r.tree] at hb; cases hb
  obtain ⟨ka, kq, ko, kr, _⟩ := finish_key (scripts := scripts) (sel := sel) address root.hash (cx.taggedHash "TapTweak" (internal ++ root.hash)) q odd ctl
  rw [ka, kq, ko, kr]
  refine ⟨root.toTree scripts, hleaves, hh 10 r.count.2, hroot, ?_, r.address⟩
  have := hag.tweak _ _ _ _ r.tweak
  rwa [← hag.hash, hroot] at this

/-- **Totality.**  With a 32-byte internal key that parses and can be tweaked, 1..1024 scripts that all pass
    `HasValidOps`, a leaf index in range (or none), an encoder that returns an address for this prefix and no spent
    output to compare the key with, the tool succeeds. -/
theorem tap_run_ok (cx : Tap.Ctx) (bech : String → Nat → Bytes → Option String) (hrp : String) (internal : Bytes)
    (scripts : List Bytes) (sel : Option (Nat × List Bytes)) (hk : internal.length = 32)
    (hn1 : 1 ≤ scripts.length) (hn2 : scripts.length ≤ 1024) (hi : ∀ i a, sel = some (i, a) → i < scripts.length)
    (hv : firstInvalid 0 scripts = none) (hx : cx.xonlyParse internal = true)
    (ht : ∀ r, (cx.tweakAdd internal (cx.taggedHash "TapTweak" (internal ++ r))).isSome)
    (hb32 : ∀ q, (bech hrp 1 q).isSome) :
    ∃ out, run cx bech hrp none internal scripts sel = .ok out := by
  obtain ⟨root, hb, _, hidx, _⟩ := buildTree_spec cx scripts (List.ne_nil_of_length_pos hn1)
  obtain ⟨ctl, hctl⟩ : ∃ ctl, controlTail internal root sel = .ok ctl := by
    match sel, hi with
    | none, _ => exact ⟨_, rfl⟩
    | some (i, a), hi =>
      obtain ⟨path, hp⟩ := prove_isSome_of_mem i (t := root) (by rw [hidx]; simpa using hi i a rfl)
      exact ⟨internal ++ path.flatten, by simp only [controlTail, hp]⟩
  have hio : indexOutOfRange sel scripts.length = false := by
    match sel, hi with
    | none, _ => rfl
    | some (i, a), hi => have := hi i a rfl; simp only [indexOutOfRange, decide_eq_false_iff_not]; omega
  obtain ⟨⟨q, odd⟩, htq⟩ := Option.isSome_iff_exists.mp (ht root.hash)
  obtain ⟨address, hba⟩ := Option.isSome_iff_exists.mp (hb32 q)
  exact ⟨_, run_ok_iff.mpr ⟨root, ctl, q, odd, address, ⟨hk, ⟨hn1, hn2⟩, hio, hv, hb, hctl, hx, htq, rfl, hba⟩, rfl⟩⟩

theorem firstInvalid_none : ∀ (k : Nat) (scripts : List Bytes), firstInvalid k scripts = none → ∀ s ∈ scripts, hasValidOps s = true
  | _, [], _, s, hs => by simp at hs
  | k, a :: rest, h, s, hs => by
    simp only [firstInvalid] at h
    split at h
    · next hv =>
      simp only [List.mem_cons] at hs
      rcases hs with rfl | hs
      · exact hv
      · exact firstInvalid_none (k + 1) rest h s hs
    · cases h

theorem setWitness_single (tx : Tx) (inp : TxIn) (w : List Bytes) (hv : tx.vin = [inp]) (hw : w ≠ []) :
    (setWitness tx 0 w).vin = [{ inp with witness := w }] := by
  have : w.isEmpty = false := by cases w <;> simp_all
  simp [setWitness, hv, this]

/-- the BIP341 message does not contain witness data -/
theorem bip341Digest_setWitness (sha : Bytes → Bytes) (tx : Tx) (inp : TxIn) (w : List Bytes) (hv : tx.vin = [inp]) (hw : w ≠ [])
    (nIn ht : Nat) (spent : List TxOut) (annex : Option Bytes) (ext : Option Spec.TapExt) :
    Spec.bip341Digest sha (setWitness tx 0 w) nIn ht spent annex ext = Spec.bip341Digest sha tx nIn ht spent annex ext := by
  have h1 := setWitness_single tx inp w hv hw
  have h2 : (setWitness tx 0 w).version = tx.version ∧ (setWitness tx 0 w).lockTime = tx.lockTime ∧ (setWitness tx 0 w).vout = tx.vout :=
    ⟨rfl, rfl, rfl⟩
  unfold Spec.bip341Digest Spec.bip341SigMsg
  rw [h1, h2.1, h2.2.1, h2.2.2, hv]
  cases nIn with
  | zero => simp only [List.getElem?_cons_zero]; cases spent[0]? <;> rfl
  | succ n => simp

/-- the first witness item tap writes: the `--sig` signature, else the placeholder -/
def firstItem (premadeSig : Bytes) : Bytes := if premadeSig.length ≠ 0 then premadeSig else placeholderSignature

theorem txWitness_eq (premadeSig : Bytes) (o : Output) : txWitness premadeSig o = firstItem premadeSig :: o.witness := rfl

theorem bip341Digest_txWitness (sha : Bytes → Bytes) (tx : Tx) (inp : TxIn) (hv : tx.vin = [inp]) (premadeSig : Bytes) (out : Output)
    (nIn ht : Nat) (spent : List TxOut) (annex : Option Bytes) (ext : Option Spec.TapExt) :
    Spec.bip341Digest sha (setWitness tx 0 (txWitness premadeSig out)) nIn ht spent annex ext =
      Spec.bip341Digest sha tx nIn ht spent annex ext :=
  bip341Digest_setWitness sha tx inp _ hv (List.cons_ne_nil _ _) nIn ht spent annex ext

/-- BIP342 extension of the message for the spent leaf (key version 0, no OP_CODESEPARATOR executed: tap forces the position
    to 0xffffffff), none for the key path -/
def extOf (o : TapOracle) (scripts : List Bytes) (sel : Option (Nat × List Bytes)) : Option Spec.TapExt :=
  match sel with
  | none => none
  | some (i, _) => some { leafHash := tapLeafHash o 0xc0 (scripts.getD i []), codesepPos := 0xFFFFFFFF }

/-- **Digest.**  Let `tap` succeed on (internal key, scripts, selection) with `--tx`/`--txin` given, where the spending
    transaction has ONE input (with an empty scriptSig) and the output it spends is the P2TR output `OP_1 <output key>` of
    the address tap prints; the `--sig` signature (if any) is at most 520 bytes and the spend arguments are fewer than 1000
    items of at most 520 bytes (the limits `configure_tx_txin` enforces on the witness).  Then `configure_tx_txin` accepts
    the transaction tap builds, and the signature hash tap reports is the BIP341 digest (hash type 0x00, no annex) of the
    transaction tap outputs, with all spent outputs = that one output: the key path message when no leaf is selected, the
    BIP342 script path message for the selected leaf (TapLeaf hash of the printed script, key version 0, code separator
    position 0xffffffff) otherwise.  `runTx` = the whole run: it returns exactly this digest and this transaction. -/
theorem tap_sighash_is_bip341 {cx : Tap.Ctx} (h32 : Hash32 cx) (hc : HashCtx) (tc : TapCtx) (o : TapOracle)
    (hag : Btcdeb.Proofs.C05.Agree tc o) (cr : SigCrypto)
    {bech : String → Nat → Bytes → Option String} {hrp : String} {internal : Bytes} {scripts : List Bytes}
    {sel : Option (Nat × List Bytes)} {out : Output}
    (tx txin : Tx) (inp : TxIn) (vout : Nat) (spent : TxOut) (premadeSig : Bytes)
    (hrun : run cx bech hrp (some spent.scriptPubKey) internal scripts sel = .ok out)
    (hvin : tx.vin = [inp]) (hss : inp.scriptSig = []) (hspent : txin.vout[vout]? = some spent)
    (hspk : spent.scriptPubKey = 0x51 :: 0x20 :: out.outputKey) (hkl : out.outputKey.length = 32)
    (hsig : premadeSig.length ≤ 520)
    (hargs : ∀ i a, sel = some (i, a) → a.length < 1000 ∧ ∀ x ∈ a, x.length ≤ 520) :
    calcSighash hc tc cr (setWitness tx 0 (txWitness premadeSig out)) txin 0 vout =
        .ok (Spec.bip341Digest cr.sha256 (setWitness tx 0 (txWitness premadeSig out)) 0 0x00 [spent] none (extOf o scripts sel)) ∧
    runTx cx hc tc cr bech hrp tx txin 0 vout premadeSig internal scripts sel =
        .ok { out := out,
              sighash := Spec.bip341Digest cr.sha256 (setWitness tx 0 (txWitness premadeSig out)) 0 0x00 [spent] none (extOf o scripts sel),
              tx := setWitness tx 0 (txWitness premadeSig out) } := by
  have hfl : (firstItem premadeSig).length ≤ 520 := by
    unfold firstItem; split
    · exact hsig
    · simp [placeholderSignature]
  have hv' := setWitness_single tx inp (txWitness premadeSig out) hvin (List.cons_ne_nil _ _)
  have hcalc : calcSighash hc tc cr (setWitness tx 0 (txWitness premadeSig out)) txin 0 vout =
      .ok (Spec.bip341Digest cr.sha256 (setWitness tx 0 (txWitness premadeSig out)) 0 0x00 [spent] none (extOf o scripts sel)) := by
    obtain ⟨root, ctl, q, odd, address, r, hout⟩ := run_ok_iff.mp hrun
    cases sel with
    | none =>
      have hw : out.witness = [] := by rw [hout]; rfl
      exact TapSpend.M.calcSighash_keypath hc tc cr _ txin { inp with witness := txWitness premadeSig out } vout spent
        out.outputKey (firstItem premadeSig) hv' hss (by simp [txWitness_eq, hw]) hspent hspk hkl
    | some s =>
      obtain ⟨i, args⟩ := s
      obtain ⟨path, hp, rfl, hpl⟩ := r.path
      have hlen := (control_spec h32 r.wf hp r.keyLength (agree_oracleOf cx) odd).1
      obtain ⟨ha1, ha2⟩ := hargs i args rfl
      have hi : i < scripts.length := by simpa [indexOutOfRange] using r.index
      have hvo : hasValidOps (scripts.getD i []) = true :=
        firstInvalid_none 0 scripts r.valid _ (ListAux.getD_mem scripts i hi)
      have hwit : out.witness = args ++ [scripts.getD i [], controlByte odd :: (internal ++ path.flatten)] := by rw [hout]; rfl
      have hleaf : (Tce.init tc (controlByte odd :: (internal ++ path.flatten)) out.outputKey (scripts.getD i [])).leaf =
          tapLeafHash o 0xc0 (scripts.getD i []) :=
        (C05.C05_leaf_hash tc o hag _ _ _).1.trans (by cases odd <;> exact congrArg (tapLeafHash o · _) (by simp only [List.headD_cons]; rfl))
      have := TapSpend.M.calcSighash_scriptpath hc tc cr _ txin { inp with witness := txWitness premadeSig out } vout spent
        out.outputKey (firstItem premadeSig :: args) (scripts.getD i []) (controlByte odd :: (internal ++ path.flatten))
        hv' hss (by simp [txWitness_eq, hwit]) hspent hspk hkl path.length hlen (Nat.le_trans hpl (by decide))
        (by cases odd <;> simp [byteAt, controlByte]) (by simp; omega)
        (by intro x hx; simp only [List.mem_cons] at hx; rcases hx with rfl | hx; exact hfl; exact ha2 x hx) hvo
      rw [this, hleaf]; rfl
  refine ⟨hcalc, ?_⟩
  unfold runTx
  rw [List.getD_eq_getElem?_getD, hspent, Option.getD_some, hrun]
  simp only [hcalc]

/-- **More than one input (or none).**  `Instance::calc_sighash` refuses such a spending transaction
    with a diagnostic ("cannot compute the taproot signature hash of a transaction with N inputs", exit 1) — or
    `configure_tx_txin` has refused it before.  No assertion is reached. -/
theorem tap_sighash_multi_input_refused (hc : HashCtx) (tc : TapCtx) (cr : SigCrypto) (tx txin : Tx) (idx vout : Nat)
    (w : List Bytes) (hn : tx.vin.length ≠ 1) :
    calcSighash hc tc cr (setWitness tx idx w) txin idx vout = .error .configure ∨
    calcSighash hc tc cr (setWitness tx idx w) txin idx vout = .error .inputCount := by
  have hl : (setWitness tx idx w).vin.length ≠ 1 := by simpa [setWitness] using hn
  unfold calcSighash
  cases configureTxTxin hc tc (setWitness tx idx w) txin idx vout _ with
  | none => exact Or.inl rfl
  | some c => right; simp only; rw [if_pos hl]

/-- **Never abnormal, for every number of inputs and every witness.**  Whenever the input in question has an empty scriptSig
    and spends a P2TR output `OP_1 <32 bytes>` (what tap's own check of the scriptPubKey and the address it printed stand
    for), computing the signature hash ends in a digest, in `configure_tx_txin`'s refusal, in the input-count refusal or in
    "Failed to generate schnorr signature hash!" — never in an assertion of `Init` / `SignatureHashSchnorr`. -/
theorem tap_sighash_never_abnormal (hc : HashCtx) (tc : TapCtx) (cr : SigCrypto) (tx txin : Tx) (idx vout : Nat)
    (inp : TxIn) (spent : TxOut) (key : Bytes)
    (hi : tx.vin[idx]? = some inp) (hss : inp.scriptSig = []) (hs : txin.vout[vout]? = some spent)
    (hspk : spent.scriptPubKey = 0x51 :: 0x20 :: key) (hk : key.length = 32) (k : String) :
    calcSighash hc tc cr tx txin idx vout ≠ .error (.step (.abnormal k)) :=
  TapSpend.M.calcSighash_never_abnormal_p2tr hc tc cr tx txin idx vout inp spent key hi hss hs hspk k

/-- for a prefix that passes tap's check and a witness version below 32, `bech32::Encode` neither asserts nor indexes
    outside its character set -/
theorem bech32mAddress_of_hrpOk (hrp : String) (v : Nat) (prog : Bytes) (h : hrpOk hrp = true) (hv : v < 32) :
    bech32mAddress hrp v prog ≠ none := by
  have hup : ∀ c ∈ hrp.toUTF8.toList, ¬ (65 ≤ c.toNat ∧ c.toNat ≤ 90) := by
    simp only [hrpOk, Bool.and_eq_true, List.all_eq_true, decide_eq_true_eq, Bool.not_eq_true'] at h
    intro c hc hcc
    have := (h.2 c hc).2
    simp [hcc.1, hcc.2] at this
  have h85 := (Btcdeb.C14.convertBits_8_5 (prog.map UInt8.toNat) (by
    intro x hx; simp only [List.mem_map] at hx; obtain ⟨b, _, rfl⟩ := hx; exact b.toNat_lt)).1
  have hvals : ∀ x ∈ (UInt8.ofNat v :: ((convertBits 8 5 true (prog.map UInt8.toNat)).1.map UInt8.ofNat)), x.toNat < 32 := by
    intro x hx
    simp only [List.mem_cons, List.mem_map] at hx
    rcases hx with rfl | ⟨d, hd, rfl⟩
    · simp [UInt8.toNat_ofNat']; omega
    · have := h85 d hd; simp [UInt8.toNat_ofNat']; omega
  have := Btcdeb.C14.bech32_encode_spec .BECH32M (by decide) hrp.toUTF8.toList _ hup hvals
  unfold bech32mAddress
  simp only [this]
  simp

theorem readScripts_ne_addressAssert (vcx : VCtx) : ∀ (l : List Bytes) (i : Nat),
    mainArgs.readScripts vcx i l ≠ .error (.tap .addressAssert)
  | [], i => by simp [mainArgs.readScripts]
  | a :: rest, i => by
    intro h
    unfold mainArgs.readScripts at h
    split at h; · cases h
    split at h; · cases h
    split at h
    · next e he => cases h; exact readScripts_ne_addressAssert vcx rest (i + 1) he
    · cases h

/-- the last part of `main`: reading the scripts, then `run` -/
theorem mainArgs_tail {cx : Tap.Ctx} (vcx : VCtx) {hrp : String} (hb : ∀ q, bech32mAddress hrp 1 q ≠ none) (internal : Bytes)
    (scriptArgs : List Bytes) (sel : Option (Nat × List Bytes)) :
    (match mainArgs.readScripts vcx 0 scriptArgs with
      | .error e => .error e
      | .ok scripts =>
        match run cx bech32mAddress hrp none internal scripts sel with
        | .error e => .error (.tap e)
        | .ok o => .ok o) ≠ (.error (.tap .addressAssert) : Except ArgErr Output) := by
  rcases hr : mainArgs.readScripts vcx 0 scriptArgs with e | scripts <;> simp only
  · intro h; cases h; exact readScripts_ne_addressAssert vcx _ 0 hr
  rcases hrun : run cx bech32mAddress hrp none internal scripts sel with e | o <;> simp only
  · intro h; cases h; exact run_ne_addressAssert hb hrun
  · exact nofun

/-- **`Err.addressAssert` is unreachable from `main`**: the prefix is checked (`hrpOk`) before any argument is decoded -/
theorem mainArgs_never_addressAssert (cx : Tap.Ctx) (vcx : VCtx) (hrp : String) (l : List Bytes) :
    mainArgs cx vcx bech32mAddress hrp l ≠ .error (.tap .addressAssert) := by
  unfold mainArgs
  by_cases h0 : l.length < 3
  · rw [if_pos h0]; exact nofun
  rw [if_neg h0]
  by_cases hok : (!hrpOk hrp) = true
  · rw [if_pos hok]; exact nofun
  rw [if_neg hok]
  have hb : ∀ q, bech32mAddress hrp 1 q ≠ none :=
    fun q => bech32mAddress_of_hrpOk hrp 1 q (by simpa using hok) (by decide)
  rcases tryHexArg (l.getD 0 []) with _ | internal
  · exact nofun
  simp only
  by_cases hlen : internal.length ≠ 32
  · rw [if_pos hlen]; exact nofun
  rw [if_neg hlen]
  by_cases hcnt : (decide (atolSize (l.getD 1 []) < 1) || decide (atolSize (l.getD 1 []) > 1024)) = true
  · rw [if_pos hcnt]; exact nofun
  rw [if_neg hcnt]
  by_cases hmiss : l.length < 2 + atolSize (l.getD 1 [])
  · rw [if_pos hmiss]; exact nofun
  rw [if_neg hmiss]
  rcases List.drop (2 + atolSize (l.getD 1 [])) l with _ | ⟨idx, args⟩ <;> simp only
  · exact mainArgs_tail vcx hb internal _ none
  by_cases hidx : atolSize idx ≥ atolSize (l.getD 1 [])
  · rw [if_pos hidx]; exact nofun
  rw [if_neg hidx]
  rcases mapMExcept (fun a => if (a == "%SIG%".toUTF8.toList) = true then Except.ok placeholderSignature else valueData vcx a)
    args with e | vs <;> simp only
  · exact nofun
  · exact mainArgs_tail vcx hb internal _ _

def crOf (p : Spec.Prims) : SigCrypto := { sha256 := p.sha256, ecdsaVerify := p.ecdsaVerify, schnorrVerify := p.schnorrVerify }

/-- **Round trip, key path.**  Run tap without a selected leaf on a single-input transaction spending the P2TR output of
    the printed address (placeholder signature); take any 64-byte `sig` that verifies under the printed output key over the
    signature hash tap reported; run tap again with `--sig=sig`.  The transaction it then outputs carries the witness
    `[sig]`, and that input validates under Bitcoin's rules (`Spec.verifyScript` with the BIP341 signature oracle of this
    transaction and spent output) for every flag set containing WITNESS and TAPROOT.
    (`toBool outputKey`: the key is not all zero, which holds for every point of the curve; stated because `Tap.Ctx` is abstract.) -/
theorem tap_roundtrip_keypath {cx : Tap.Ctx} (h32 : Hash32 cx) (hc : HashCtx) (tc : TapCtx) (o : TapOracle)
    (hag : Btcdeb.Proofs.C05.Agree tc o) (p : Spec.Prims) (flags : Nat)
    {bech : String → Nat → Bytes → Option String} {hrp : String} {internal : Bytes} {scripts : List Bytes} {out : Output}
    (tx txin : Tx) (inp : TxIn) (vout : Nat) (spent : TxOut) (sig : Bytes)
    (hrun : run cx bech hrp (some spent.scriptPubKey) internal scripts none = .ok out)
    (hvin : tx.vin = [inp]) (hss : inp.scriptSig = []) (hspent : txin.vout[vout]? = some spent)
    (hspk : spent.scriptPubKey = 0x51 :: 0x20 :: out.outputKey) (hkl : out.outputKey.length = 32)
    (hnz : Spec.toBool out.outputKey = true)
    (hw : hasFlag flags Flag.WITNESS = true) (ht : hasFlag flags Flag.TAPROOT = true) (hsl : sig.length = 64) :
    ∃ r1, runTx cx hc tc (crOf p) bech hrp tx txin 0 vout [] internal scripts none = .ok r1 ∧
      (p.schnorrVerify out.outputKey r1.sighash sig = true →
        ∃ r2, runTx cx hc tc (crOf p) bech hrp tx txin 0 vout sig internal scripts none = .ok r2 ∧
          r2.tx.vin = [{ inp with witness := [sig] }] ∧
          Spec.verifyScript (Spec.spendCtx p r2.tx 0 spent.value [spent]) flags inp.scriptSig spent.scriptPubKey [sig] = .ok ()) := by
  have hno : ∀ i a, (none : Option (Nat × List Bytes)) = some (i, a) → a.length < 1000 ∧ ∀ x ∈ a, x.length ≤ 520 := by
    intro i a h; cases h
  obtain ⟨_, h1⟩ := tap_sighash_is_bip341 h32 hc tc o hag (crOf p) tx txin inp vout spent [] hrun hvin hss hspent hspk hkl (by simp) hno
  obtain ⟨_, h2⟩ := tap_sighash_is_bip341 h32 hc tc o hag (crOf p) tx txin inp vout spent sig hrun hvin hss hspent hspk hkl (by omega) hno
  refine ⟨_, h1, ?_⟩
  intro hver
  refine ⟨_, h2, ?_, ?_⟩
  · obtain ⟨_, _, _, _, _, _, hout⟩ := run_ok_iff.mp hrun
    have : txWitness sig out = [sig] := by simp [hout, txWitness, finish, hsl]
    rw [this]
    exact setWitness_single tx inp [sig] hvin (by simp)
  · simp only [extOf] at hver
    rw [show (crOf p).sha256 = p.sha256 from rfl, bip341Digest_txWitness _ tx inp hvin] at hver
    rw [hss, hspk]
    apply TapSpend.S.keypath_roundtrip p flags _ spent out.outputKey sig hw ht hkl hnz hsl
    rw [bip341Digest_txWitness _ tx inp hvin]
    exact hver

/-- **Round trip, script path**, for a leaf of the form `<32-byte key k> OP_CHECKSIG` spent without further arguments: the
    same statement, with `sig` verifying under `k` over the reported (BIP342) signature hash; the transaction tap then
    outputs carries the witness `[sig, script, control block]` and validates. -/
theorem tap_roundtrip_scriptpath {cx : Tap.Ctx} (h32 : Hash32 cx) (hc : HashCtx) (tc : TapCtx) (p : Spec.Prims)
    (hagt : Btcdeb.Proofs.C05.Agree tc p.tap) (hagc : Agree cx p.tap) (flags : Nat)
    {bech : String → Nat → Bytes → Option String} {hrp : String} {internal : Bytes} {scripts : List Bytes} {out : Output}
    (tx txin : Tx) (inp : TxIn) (vout : Nat) (spent : TxOut) (i : Nat) (k sig : Bytes)
    (hrun : run cx bech hrp (some spent.scriptPubKey) internal scripts (some (i, [])) = .ok out)
    (hleaf : scripts[i]? = some (0x20 :: (k ++ [0xac]))) (hk : k.length = 32)
    (hvin : tx.vin = [inp]) (hss : inp.scriptSig = []) (hspent : txin.vout[vout]? = some spent)
    (hspk : spent.scriptPubKey = 0x51 :: 0x20 :: out.outputKey) (hkl : out.outputKey.length = 32)
    (hnz : Spec.toBool out.outputKey = true)
    (hw : hasFlag flags Flag.WITNESS = true) (ht : hasFlag flags Flag.TAPROOT = true) (hsl : sig.length = 64) :
    ∃ r1, runTx cx hc tc (crOf p) bech hrp tx txin 0 vout [] internal scripts (some (i, [])) = .ok r1 ∧
      (p.schnorrVerify k r1.sighash sig = true →
        ∃ r2 control, runTx cx hc tc (crOf p) bech hrp tx txin 0 vout sig internal scripts (some (i, [])) = .ok r2 ∧
          out.control = some control ∧
          r2.tx.vin = [{ inp with witness := [sig, 0x20 :: (k ++ [0xac]), control] }] ∧
          Spec.verifyScript (Spec.spendCtx p r2.tx 0 spent.value [spent]) flags inp.scriptSig spent.scriptPubKey
            [sig, 0x20 :: (k ++ [0xac]), control] = .ok ()) := by
  have hno : ∀ j a, (some (i, ([] : List Bytes)) : Option (Nat × List Bytes)) = some (j, a) → a.length < 1000 ∧ ∀ x ∈ a, x.length ≤ 520 := by
    intro j a h; cases h; simp
  obtain ⟨_, h1⟩ := tap_sighash_is_bip341 h32 hc tc p.tap hagt (crOf p) tx txin inp vout spent [] hrun hvin hss hspent hspk hkl (by simp) hno
  obtain ⟨_, h2⟩ := tap_sighash_is_bip341 h32 hc tc p.tap hagt (crOf p) tx txin inp vout spent sig hrun hvin hss hspent hspk hkl (by omega) hno
  obtain ⟨control, script, hctl, hscr, hsi, hwit, _, hvalid⟩ := tap_control_verifies hagc h32 hrun
  have hscript : script = 0x20 :: (k ++ [0xac]) := by rw [hleaf] at hsi; cases hsi; rfl
  subst hscript
  have hgd : scripts.getD i [] = 0x20 :: (k ++ [0xac]) := by simp [List.getD, hleaf]
  refine ⟨_, h1, ?_⟩
  intro hver
  have hwit' : txWitness sig out = [sig, 0x20 :: (k ++ [0xac]), control] := by simp [txWitness, hwit, hsl]
  refine ⟨_, control, h2, hctl, ?_, ?_⟩
  · rw [hwit']; exact setWitness_single tx inp _ hvin (by simp)
  · simp only [extOf, hgd] at hver
    rw [show (crOf p).sha256 = p.sha256 from rfl, bip341Digest_txWitness _ tx inp hvin] at hver
    have hc0 : (control.headD 0).toNat = 0xc0 ∨ (control.headD 0).toNat = 0xc1 := by
      obtain ⟨_, _, _, odd, _, _, rfl⟩ := run_ok_iff.mp hrun
      cases hctl
      cases odd <;> simp [controlByte]
    rw [hss, hspk]
    apply TapSpend.S.scriptpath_roundtrip p flags _ spent out.outputKey k sig control hw ht hkl hnz hk hsl hc0 hvalid
    rw [bip341Digest_txWitness _ tx inp hvin]
    exact hver

/-- the check against the input transaction does not change the result: a run without transactions that succeeds also
    succeeds, with the same output, when the spent scriptPubKey ends with the output key -/
theorem run_with_spk {cx : Tap.Ctx} {bech : String → Nat → Bytes → Option String} {hrp : String} {internal : Bytes}
    {scripts : List Bytes} {sel : Option (Nat × List Bytes)} {out : Output}
    (h : run cx bech hrp none internal scripts sel = .ok out) (s : Bytes) (hm : spkMatches s out.outputKey = true) :
    run cx bech hrp (some s) internal scripts sel = .ok out := by
  obtain ⟨root, ctl, q, odd, address, r, rfl⟩ := run_ok_iff.mp h
  rw [(finish_key ..).2.1] at hm
  exact run_ok_iff.mpr ⟨root, ctl, q, odd, address, { r with spk := by simp [spkMismatch, hm] }, rfl⟩

theorem spkMatches_p2tr (key : Bytes) (hk : key.length = 32) : spkMatches (0x51 :: 0x20 :: key) key = true := by
  simp [spkMatches, hk]

theorem glue_hash32 : Hash32 Tap.glueCtx := fun _ _ => Crypto.sha256_length _

/-- a key made by `secp256k1_xonly_pubkey_tweak_add` passes `secp256k1_xonly_pubkey_tweak_add_check` with the parity of
    the serialised point: the oracle BIP341 is checked against (`Glue.tapOracle`) agrees with tap's functions -/
theorem glue_agree : Agree Tap.glueCtx Glue.tapOracle := by
  refine ⟨fun _ _ => rfl, ?_⟩
  intro p t q odd h
  simp only [Tap.glueCtx, Option.map_eq_some_iff, Prod.mk.injEq] at h
  obtain ⟨pt, hpt, rfl, rfl⟩ := h
  simp [Glue.tapOracle, Crypto.xonlyTweakAddCheck, hpt]

/-- the same for what `TaprootCommitmentEnv` calls (`XOnlyPubKey::CheckTapTweak`) -/
theorem glue_agreeTce : AgreeTce Tap.glueCtx Glue.tapCtx := by
  refine ⟨fun _ _ => rfl, ?_⟩
  intro p k q odd h
  simp only [Tap.glueCtx, Option.map_eq_some_iff, Prod.mk.injEq] at h
  obtain ⟨pt, hpt, rfl, rfl⟩ := h
  simp only [Glue.tapCtx, Crypto.checkTapTweak, Crypto.xonlyTweakAddCheck, Crypto.tapTweakHash, Option.getD_some]
  simp [hpt]

/-- C06 for the functions the tools are linked with: no hypothesis left but a successful run -/
theorem tap_control_verifies_concrete {bech : String → Nat → Bytes → Option String} {hrp : String} {spk : Option Bytes} {internal : Bytes}
    {scripts : List Bytes} {i : Nat} {args : List Bytes} {out : Output}
    (h : run Tap.glueCtx bech hrp spk internal scripts (some (i, args)) = .ok out) :
    ∃ control script, out.control = some control ∧ out.script = some script ∧ scripts[i]? = some script ∧
      out.witness = args ++ [script, control] ∧ bech hrp 1 out.outputKey = some out.address ∧
      bip341Valid Glue.tapOracle control script out.outputKey = true :=
  tap_control_verifies glue_agree glue_hash32 h

theorem tap_accepted_by_debugger_concrete {bech : String → Nat → Bytes → Option String} {hrp : String} {spk : Option Bytes} {internal : Bytes}
    {scripts : List Bytes} {i : Nat} {args : List Bytes} {out : Output}
    (h : run Tap.glueCtx bech hrp spk internal scripts (some (i, args)) = .ok out) :
    ∃ control script, out.control = some control ∧ out.script = some script ∧
      ∀ fuel, (control.length - 33) / 32 < fuel →
        tceRun Glue.tapCtx fuel (Tce.init Glue.tapCtx control out.outputKey script) = .done :=
  tap_accepted_by_debugger glue_agreeTce glue_hash32 h

theorem tap_address_is_bip341_output_key_concrete {bech : String → Nat → Bytes → Option String} {hrp : String} {spk : Option Bytes} {internal : Bytes}
    {scripts : List Bytes} {sel : Option (Nat × List Bytes)} {out : Output}
    (h : run Tap.glueCtx bech hrp spk internal scripts sel = .ok out) :
    ∃ tree : TapTree, tree.leaves = scripts.map (fun s => (0xc0, s)) ∧ tree.height ≤ 10 ∧ out.root = tree.root Glue.tapOracle ∧
      isOutputKey Glue.tapOracle internal (tree.root Glue.tapOracle) out.outputKey out.odd = true ∧
      bech hrp 1 out.outputKey = some out.address :=
  tap_address_is_bip341_output_key glue_agree h

theorem natToBytesBELoop_length : ∀ (len n : Nat) (acc : Bytes), (Crypto.natToBytesBELoop len n acc).length = len + acc.length
  | 0, _, _ => by simp [Crypto.natToBytesBELoop]
  | len + 1, n, acc => by simp [Crypto.natToBytesBELoop, natToBytesBELoop_length len]; omega

theorem glue_outputKey_length {p t q : Bytes} {odd : Bool} (h : Tap.glueCtx.tweakAdd p t = some (q, odd)) : q.length = 32 := by
  simp only [Tap.glueCtx, Option.map_eq_some_iff, Prod.mk.injEq] at h
  obtain ⟨pt, hpt, rfl, _⟩ := h
  cases pt with
  | infinity =>
    exfalso
    unfold Crypto.xonlyTweakAdd at hpt
    cases hp : Crypto.parseXOnly p with
    | none => simp [hp] at hpt
    | some pk =>
      simp only [hp] at hpt
      split at hpt
      · cases hpt
      · cases hm : Crypto.pointMulAdd2 1 pk (Crypto.bytesToNatBE t) Crypto.G with
        | infinity => simp [hm] at hpt
        | affine x y => simp [hm] at hpt
  | affine x y => simp [Crypto.xonlyBytes, Crypto.natToBytesBE, natToBytesBELoop_length]

/-- the digest clause for the functions the tools are linked with (SHA-256, secp256k1, `Glue.tapCtx`) -/
theorem tap_sighash_is_bip341_concrete
    {bech : String → Nat → Bytes → Option String} {hrp : String} {internal : Bytes} {scripts : List Bytes}
    {sel : Option (Nat × List Bytes)} {out : Output}
    (tx txin : Tx) (inp : TxIn) (vout : Nat) (spent : TxOut) (premadeSig : Bytes)
    (hrun : run Tap.glueCtx bech hrp (some spent.scriptPubKey) internal scripts sel = .ok out)
    (hvin : tx.vin = [inp]) (hss : inp.scriptSig = []) (hspent : txin.vout[vout]? = some spent)
    (hspk : spent.scriptPubKey = 0x51 :: 0x20 :: out.outputKey)
    (hsig : premadeSig.length ≤ 520)
    (hargs : ∀ i a, sel = some (i, a) → a.length < 1000 ∧ ∀ x ∈ a, x.length ≤ 520) :
    runTx Tap.glueCtx Tap.glueHashCtx Glue.tapCtx stdCrypto bech hrp tx txin 0 vout premadeSig internal scripts sel =
        .ok { out := out,
              sighash := Spec.bip341Digest Crypto.sha256 (setWitness tx 0 (txWitness premadeSig out)) 0 0x00 [spent] none
                           (extOf Glue.tapOracle scripts sel),
              tx := setWitness tx 0 (txWitness premadeSig out) } := by
  have hkl : out.outputKey.length = 32 := by
    obtain ⟨root, ctl, q, odd, address, r, rfl⟩ := run_ok_iff.mp hrun
    rw [(finish_key ..).2.1]; exact glue_outputKey_length r.tweak
  exact (tap_sighash_is_bip341 glue_hash32 Tap.glueHashCtx Glue.tapCtx Glue.tapOracle Btcdeb.Proofs.C05.glue_agree stdCrypto
    tx txin inp vout spent premadeSig hrun hvin hss hspent hspk hkl hsig hargs).2

/-- a toy instance (32-byte "hash", every key valid, the tweak is the new key) to run the statements on -/
def toyCtx : Tap.Ctx where
  taggedHash := fun _ m => List.replicate 31 0 ++ [UInt8.ofNat m.length]
  xonlyParse := fun _ => true
  tweakAdd := fun _ t => some (t, true)

theorem toy_hash32 : Hash32 toyCtx := fun _ _ => by simp [toyCtx]

theorem toy_run_ok : ∃ out, run toyCtx (fun _ _ _ => some "") "bcrt" none (List.replicate 32 7)
    [[0x51], [], [0x52, 0x53], [0x51], [0x54]] (some (4, [[1]])) = .ok out := by
  exact tap_run_ok toyCtx (fun _ _ _ => some "") "bcrt" (List.replicate 32 7)
    [[0x51], [], [0x52, 0x53], [0x51], [0x54]] (some (4, [[1]])) (by simp) (by simp) (by simp)
    (by intro i a h; cases h; simp)
    (by simp (disch := decide) [firstInvalid, Shapes.hasValidOps_nil, Shapes.hasValidOps_op]) rfl (fun _ => rfl) (fun _ => rfl)

/-- five scripts (two equal, one empty), the leftover one spent with one argument: the tool succeeds and its output
    verifies under BIP341 and in the debugger's check -/
example : ∃ out control script,
    run toyCtx (fun _ _ _ => some "") "bcrt" none (List.replicate 32 7) [[0x51], [], [0x52, 0x53], [0x51], [0x54]] (some (4, [[1]])) = .ok out ∧
    out.control = some control ∧ out.script = some script ∧ script = [0x54] ∧ out.witness = [[1], script, control] ∧
    bip341Valid (oracleOf toyCtx) control script out.outputKey = true ∧
    tceRun ⟨toyCtx.taggedHash, fun q p k odd => toyCtx.tweakAdd p (toyCtx.taggedHash "TapTweak" (p ++ k)) == some (q, odd)⟩ 4
      (Tce.init ⟨toyCtx.taggedHash, fun q p k odd => toyCtx.tweakAdd p (toyCtx.taggedHash "TapTweak" (p ++ k)) == some (q, odd)⟩
        control out.outputKey script) = .done := by
  obtain ⟨out, hrun⟩ := toy_run_ok
  obtain ⟨control, script, hc, hs, hsi, hw, _, hvalid⟩ := tap_control_verifies (agree_oracleOf toyCtx) toy_hash32 hrun
  have hag : AgreeTce toyCtx ⟨toyCtx.taggedHash, fun q p k odd => toyCtx.tweakAdd p (toyCtx.taggedHash "TapTweak" (p ++ k)) == some (q, odd)⟩ :=
    ⟨fun _ _ => rfl, fun p k q odd h => by simp [h]⟩
  obtain ⟨control', script', hc', hs', hdone⟩ := tap_accepted_by_debugger hag toy_hash32 hrun
  rw [hc] at hc'; cases hc'
  rw [hs] at hs'; cases hs'
  have hscript : script = [0x54] := by simpa using hsi.symm
  refine ⟨out, control, script, hrun, hc, hs, hscript, by simpa using hw, hvalid, ?_⟩
  apply hdone
  -- the path of leaf 4 in ((0 1) ((2 3) 4)) has two entries
  obtain ⟨root, ctl, q, odd, address, r, rfl⟩ := run_ok_iff.mp hrun
  obtain ⟨path, hp, rfl, _⟩ := r.path
  have hl := Nat.le_trans (prove_length_le 4 hp) ((buildTree_some r.tree).2.2 3 (by simp))
  have hlen := (control_spec toy_hash32 r.wf hp r.keyLength (agree_oracleOf toyCtx) odd).1
  cases hc
  rw [hlen]; omega

/-- the same five scripts with `--tx`/`--txin`: a one-input transaction spending the P2TR output of the printed key; the run
    succeeds and reports the BIP342 digest of the transaction it outputs -/
example : ∃ out tx txin r,
    run toyCtx (fun _ _ _ => some "") "bcrt" none (List.replicate 32 7) [[0x51], [], [0x52, 0x53], [0x51], [0x54]] (some (4, [[1]])) = .ok out ∧
    tx.vin.length = 1 ∧ (txin.vout.map (·.scriptPubKey)) = [0x51 :: 0x20 :: out.outputKey] ∧
    runTx toyCtx ⟨fun b => b, fun b => b, fun b => b⟩
      ⟨toyCtx.taggedHash, fun q p k odd => toyCtx.tweakAdd p (toyCtx.taggedHash "TapTweak" (p ++ k)) == some (q, odd)⟩
      ⟨fun b => b.take 32, fun _ _ _ => false, fun _ _ _ => false⟩ (fun _ _ _ => some "") "bcrt" tx txin 0 0 []
      (List.replicate 32 7) [[0x51], [], [0x52, 0x53], [0x51], [0x54]] (some (4, [[1]])) = .ok r ∧
    r.out = out ∧ (r.tx.vin.map (·.witness)) = [txWitness [] out] ∧
    r.sighash = Spec.bip341Digest (fun b => b.take 32) r.tx 0 0 txin.vout none
      (some { leafHash := tapLeafHash (oracleOf toyCtx) 0xc0 [0x54], codesepPos := 0xFFFFFFFF }) := by
  obtain ⟨out, hrun⟩ := toy_run_ok
  have hkl : out.outputKey.length = 32 := by
    obtain ⟨root, ctl, q, odd, address, r, rfl⟩ := run_ok_iff.mp hrun
    have htq := r.tweak
    simp only [toyCtx, Option.some.injEq, Prod.mk.injEq] at htq
    rw [(finish_key ..).2.1, ← htq.1]; simp
  let inp : TxIn := { prevout := ⟨List.replicate 32 1, 0⟩, scriptSig := [], sequence := 0xfffffffd, witness := [] }
  let tx : Tx := { version := 2, vin := [inp], vout := [⟨900, [0x51]⟩], lockTime := 0 }
  let spent : TxOut := ⟨1000, 0x51 :: 0x20 :: out.outputKey⟩
  let txin : Tx := { version := 2, vin := [], vout := [spent], lockTime := 0 }
  have hrun' := run_with_spk hrun spent.scriptPubKey (spkMatches_p2tr _ hkl)
  have hag : Btcdeb.Proofs.C05.Agree
      ⟨toyCtx.taggedHash, fun q p k odd => toyCtx.tweakAdd p (toyCtx.taggedHash "TapTweak" (p ++ k)) == some (q, odd)⟩ (oracleOf toyCtx) :=
    ⟨fun _ _ => rfl, fun _ _ _ _ => rfl⟩
  obtain ⟨_, h2⟩ := tap_sighash_is_bip341 toy_hash32 ⟨fun b => b, fun b => b, fun b => b⟩ _ (oracleOf toyCtx) hag
    ⟨fun b => b.take 32, fun _ _ _ => false, fun _ _ _ => false⟩ tx txin inp 0 spent [] hrun' rfl rfl rfl rfl hkl (by simp)
    (by intro i a h; cases h; simp)
  refine ⟨out, tx, txin, _, hrun, rfl, rfl, h2, rfl, ?_, rfl⟩
  simp [setWitness, tx, inp, txWitness]

end Btcdeb.Proofs.C06
