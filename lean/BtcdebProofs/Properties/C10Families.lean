/-
  C10 — closed-form boundary families on the SPECIFICATION (`Btcdeb/Spec/Script.lean`):
  for every k, `k × OP_1` succeeds exactly up to the 1000-element stack limit and `k × OP_NOP`
  exactly up to the 201-operation limit (legacy / segwit v0; no limit under tapscript), and the
  failures are STACK_SIZE resp. OP_COUNT.  Every flag set, every `pos`, every `after` component.
  Stated for instruction lists (`evalInstrs`) and for the byte scripts `51 … 51`, `61 … 61` (`evalScript`).
-/
import Btcdeb
import BtcdebProofs.Refine.Equations
import BtcdebProofs.Lemmas.Except
import BtcdebProofs.Lemmas.Instr
namespace Btcdeb.Proofs.C10
open Btcdeb Btcdeb.Spec

/-- the instruction OP_1 (0x51) -/
abbrev iOne : Instr := ⟨0x51, []⟩
/-- the instruction OP_NOP (0x61) -/
abbrev iNop : Instr := ⟨0x61, []⟩

private theorem ofNat_one : Opcode.ofNat 0x51 = .OP_1 := rfl
private theorem ofNat_nop : Opcode.ofNat 0x61 = .OP_NOP := rfl

theorem checkSize_ok (st : St) (h : st.stack.length + st.alt.length ≤ 1000) : checkSize st = .ok st := by
  unfold checkSize maxStackSize
  rw [if_neg (by omega)]

theorem checkSize_err (st : St) (h : 1000 < st.stack.length + st.alt.length) :
    checkSize st = .error .STACK_SIZE := by
  unfold checkSize maxStackSize
  rw [if_pos (by omega)]

theorem execInstr_one (cfg : Cfg) (after : Bytes) (pos : Nat) (st : St) (hx : st.cond.all id = true) :
    execInstr cfg iOne after pos st = checkSize { st with stack := encodeNum 1 :: st.stack } := by
  unfold execInstr countOp
  simp [hx, maxElementSize, ofNat_one, show disabled .OP_1 = false from rfl,
    Refine.execOp_smallInt (show smallInt .OP_1 = some 1 from rfl)]
  rfl

private theorem execOp_nop (cfg : Cfg) (e : Bool) (after : Bytes) (pos : Nat) (st : St) :
    execOp cfg .OP_NOP e after pos st = checkSize st := rfl

theorem execInstr_nop (cfg : Cfg) (after : Bytes) (pos : Nat) (st : St) :
    execInstr cfg iNop after pos st = countOp cfg 0x61 st >>= checkSize := by
  unfold execInstr
  simp [maxElementSize, ofNat_nop, show disabled .OP_NOP = false from rfl, execOp_nop]

theorem countOp_counted (cfg : Cfg) (op : Nat) (hop : 0x60 < op) (st : St)
    (hv : cfg.sigversion = .BASE ∨ cfg.sigversion = .WITNESS_V0) :
    countOp cfg op st =
      if st.opCount + 1 ≤ 201 then .ok { st with opCount := st.opCount + 1 } else .error .OP_COUNT := by
  have hc : (cfg.sigversion == .BASE || cfg.sigversion == .WITNESS_V0) = true := by rcases hv with h | h <;> simp [h]
  unfold countOp maxOpsPerScript
  rw [hc]
  by_cases h : st.opCount + 1 ≤ 201 <;> simp [h, hop]

theorem countOp_uncounted (cfg : Cfg) (op : Nat) (st : St) (hv : cfg.sigversion = .TAPSCRIPT) :
    countOp cfg op st = .ok st := by
  unfold countOp
  rw [hv]; rfl

theorem eval_ones (cfg : Cfg) (l : List (Instr × Bytes)) (hl : ∀ p ∈ l, p.1 = iOne) (pos : Nat) (st : St)
    (hx : st.cond.all id = true) (hinv : st.stack.length + st.alt.length ≤ 1000) :
    (evalInstrs cfg l pos st).2 =
      if st.stack.length + st.alt.length + l.length ≤ 1000
      then .ok { st with stack := List.replicate l.length (encodeNum 1) ++ st.stack }
      else .error .STACK_SIZE := by
  induction l generalizing pos st with
  | nil => simp [evalInstrs, hinv]
  | cons p rest ih =>
    obtain ⟨i, after⟩ := p
    have hi : i = iOne := hl (i, after) (by simp)
    subst hi
    have hrest : ∀ p ∈ rest, p.1 = iOne := fun p hp => hl p (by simp [hp])
    unfold evalInstrs
    rw [execInstr_one cfg after pos st hx]
    by_cases h1 : st.stack.length + st.alt.length + 1 ≤ 1000
    · rw [checkSize_ok _ (by simp; omega)]
      simp only []
      rw [ih hrest (pos + 1) { st with stack := encodeNum 1 :: st.stack } hx (by simp; omega)]
      simp only [List.length_cons]
      by_cases h2 : st.stack.length + st.alt.length + (rest.length + 1) ≤ 1000
      · rw [if_pos (by omega), if_pos h2, List.replicate_succ', List.append_assoc]; rfl
      · rw [if_neg (by omega), if_neg h2]
    · rw [checkSize_err _ (by simp; omega)]
      simp only [List.length_cons]
      rw [if_neg (by omega)]

theorem eval_nops_counted (cfg : Cfg) (hv : cfg.sigversion = .BASE ∨ cfg.sigversion = .WITNESS_V0) (l : List (Instr × Bytes))
    (hl : ∀ p ∈ l, p.1 = iNop) (pos : Nat) (st : St)
    (hinv : st.stack.length + st.alt.length ≤ 1000) (hop : st.opCount ≤ 201) :
    (evalInstrs cfg l pos st).2 =
      if st.opCount + l.length ≤ 201
      then .ok { st with opCount := st.opCount + l.length }
      else .error .OP_COUNT := by
  induction l generalizing pos st with
  | nil => simp [evalInstrs, hop]
  | cons p rest ih =>
    obtain ⟨i, after⟩ := p
    have hi : i = iNop := hl (i, after) (by simp)
    subst hi
    have hrest : ∀ p ∈ rest, p.1 = iNop := fun p hp => hl p (by simp [hp])
    unfold evalInstrs
    rw [execInstr_nop, countOp_counted cfg _ (by decide) st hv]
    by_cases h1 : st.opCount + 1 ≤ 201
    · rw [if_pos h1, Btcdeb.ok_bind, checkSize_ok _ (by simpa using hinv)]
      simp only []
      rw [ih hrest (pos + 1) { st with opCount := st.opCount + 1 } (by simpa using hinv) (by simpa using h1)]
      simp only [List.length_cons]
      by_cases h2 : st.opCount + (rest.length + 1) ≤ 201
      · rw [if_pos (by omega), if_pos h2]
        have : st.opCount + 1 + rest.length = st.opCount + (rest.length + 1) := by omega
        simp [this]
      · rw [if_neg (by omega), if_neg h2]
    · rw [if_neg h1, Btcdeb.error_bind]
      simp only [List.length_cons]
      rw [if_neg (by omega)]

theorem eval_nops_uncounted (cfg : Cfg) (hv : cfg.sigversion = .TAPSCRIPT) (l : List (Instr × Bytes))
    (hl : ∀ p ∈ l, p.1 = iNop) (pos : Nat) (st : St)
    (hinv : st.stack.length + st.alt.length ≤ 1000) :
    (evalInstrs cfg l pos st).2 = .ok st := by
  induction l generalizing pos with
  | nil => simp [evalInstrs]
  | cons p rest ih =>
    obtain ⟨i, after⟩ := p
    have hi : i = iNop := hl (i, after) (by simp)
    subst hi
    have hrest : ∀ p ∈ rest, p.1 = iNop := fun p hp => hl p (by simp [hp])
    unfold evalInstrs
    rw [execInstr_nop, countOp_uncounted cfg _ st hv, Btcdeb.ok_bind, checkSize_ok _ hinv]
    exact ih hrest (pos + 1)

-- `ones k` / `nops k`: k copies of the instruction; the `after` component is irrelevant for these opcodes

def ones (k : Nat) : List (Instr × Bytes) := List.replicate k (iOne, [])
def nops (k : Nat) : List (Instr × Bytes) := List.replicate k (iNop, [])

private theorem mem_replicate_fst (i : Instr) (k : Nat) : ∀ p ∈ List.replicate k (i, ([] : Bytes)), p.1 = i := by
  intro p hp; rw [List.eq_of_mem_replicate hp]

/-- k × OP_1 on a stack of n items with m items on the alt stack, in an executing branch:
    succeeds exactly when n + m + k ≤ 1000 -/
theorem ones_succeed_iff (cfg : Cfg) (k pos : Nat) (st : St) (hx : st.cond.all id = true)
    (hinv : st.stack.length + st.alt.length ≤ 1000) :
    (∃ st', (evalInstrs cfg (ones k) pos st).2 = .ok st') ↔ st.stack.length + st.alt.length + k ≤ 1000 := by
  rw [eval_ones cfg (ones k) (mem_replicate_fst iOne k) pos st hx hinv]
  simp only [ones, List.length_replicate]
  by_cases h : st.stack.length + st.alt.length + k ≤ 1000
  · simp [h]
  · simp [h]

/-- the final state: k copies of the number 1 on top of the original stack, nothing else changed -/
theorem ones_result (cfg : Cfg) (k pos : Nat) (st : St) (hx : st.cond.all id = true)
    (h : st.stack.length + st.alt.length + k ≤ 1000) :
    (evalInstrs cfg (ones k) pos st).2 =
      .ok { st with stack := List.replicate k (encodeNum 1) ++ st.stack } := by
  rw [eval_ones cfg (ones k) (mem_replicate_fst iOne k) pos st hx (by omega)]
  simp only [ones, List.length_replicate]
  rw [if_pos h]

/-- the pushed element is the one-byte string `01` -/
theorem encodeNum_one : encodeNum 1 = [1] := by
  simp [encodeNum, Model.serialize, leBytes]
  decide

/-- exceeding the limit (even by one) fails, and with the right error -/
theorem ones_fail (cfg : Cfg) (k pos : Nat) (st : St) (hx : st.cond.all id = true)
    (hinv : st.stack.length + st.alt.length ≤ 1000) (h : st.stack.length + st.alt.length + k > 1000) :
    (evalInstrs cfg (ones k) pos st).2 = .error .STACK_SIZE := by
  rw [eval_ones cfg (ones k) (mem_replicate_fst iOne k) pos st hx hinv]
  simp only [ones, List.length_replicate]
  rw [if_neg (by omega)]

/-- `ones_succeed_iff` with the alt stack empty and no open conditional -/
theorem ones_succeed_iff' (cfg : Cfg) (k pos : Nat) (st : St) (hc : st.cond = []) (ha : st.alt = [])
    (hn : st.stack.length ≤ 1000) :
    (∃ st', (evalInstrs cfg (List.replicate k ((⟨0x51, []⟩ : Instr), ([] : Bytes))) pos st).2 = .ok st') ↔
      st.stack.length + k ≤ 1000 := by
  have := ones_succeed_iff cfg k pos st (by simp [hc]) (by simp [ha]; omega)
  simpa [ha, ones] using this

/-- k × OP_NOP under BASE or WITNESS_V0 with op count c (in any branch, executed or not):
    succeeds exactly when c + k ≤ 201 -/
theorem nops_succeed_iff_legacy (cfg : Cfg) (hv : cfg.sigversion = .BASE ∨ cfg.sigversion = .WITNESS_V0)
    (k pos : Nat) (st : St) (hinv : st.stack.length + st.alt.length ≤ 1000) (hop : st.opCount ≤ 201) :
    (∃ st', (evalInstrs cfg (nops k) pos st).2 = .ok st') ↔ st.opCount + k ≤ 201 := by
  rw [eval_nops_counted cfg hv (nops k) (mem_replicate_fst iNop k) pos st hinv hop]
  simp only [nops, List.length_replicate]
  by_cases h : st.opCount + k ≤ 201
  · simp [h]
  · simp [h]

theorem nops_result_legacy (cfg : Cfg) (hv : cfg.sigversion = .BASE ∨ cfg.sigversion = .WITNESS_V0)
    (k pos : Nat) (st : St) (hinv : st.stack.length + st.alt.length ≤ 1000) (h : st.opCount + k ≤ 201) :
    (evalInstrs cfg (nops k) pos st).2 = .ok { st with opCount := st.opCount + k } := by
  rw [eval_nops_counted cfg hv (nops k) (mem_replicate_fst iNop k) pos st hinv (by omega)]
  simp only [nops, List.length_replicate]
  rw [if_pos h]

/-- beyond the count the failure is OP_COUNT -/
theorem nops_fail_legacy (cfg : Cfg) (hv : cfg.sigversion = .BASE ∨ cfg.sigversion = .WITNESS_V0)
    (k pos : Nat) (st : St) (hinv : st.stack.length + st.alt.length ≤ 1000) (hop : st.opCount ≤ 201)
    (h : st.opCount + k > 201) :
    (evalInstrs cfg (nops k) pos st).2 = .error .OP_COUNT := by
  rw [eval_nops_counted cfg hv (nops k) (mem_replicate_fst iNop k) pos st hinv hop]
  simp only [nops, List.length_replicate]
  rw [if_neg (by omega)]

/-- under TAPSCRIPT there is no operation limit: any number of OP_NOP succeeds and leaves the state alone -/
theorem nops_succeed_tapscript (cfg : Cfg) (hv : cfg.sigversion = .TAPSCRIPT) (k pos : Nat) (st : St)
    (hinv : st.stack.length + st.alt.length ≤ 1000) :
    (evalInstrs cfg (nops k) pos st).2 = .ok st := by
  exact eval_nops_uncounted cfg hv (nops k) (mem_replicate_fst iNop k) pos st hinv

/-- the stack-size invariant is needed: on an over-full state even one OP_NOP fails (STACK_SIZE) -/
theorem nop_overfull_tapscript (cfg : Cfg) (hv : cfg.sigversion = .TAPSCRIPT) (pos : Nat) (st : St)
    (h : st.stack.length + st.alt.length > 1000) :
    (evalInstrs cfg (nops 1) pos st).2 = .error .STACK_SIZE := by
  show (evalInstrs cfg [(iNop, [])] pos st).2 = _
  unfold evalInstrs
  rw [execInstr_nop, countOp_uncounted cfg _ st hv, Btcdeb.ok_bind, checkSize_err _ h]

theorem decodePrefix_replicate (b : UInt8) (hb : 0x4e < b.toNat) (k fuel : Nat) (hf : k ≤ fuel) :
    (decodePrefix fuel (List.replicate k b)).2 = true ∧
    (decodePrefix fuel (List.replicate k b)).1.length = k ∧
    ∀ p ∈ (decodePrefix fuel (List.replicate k b)).1, p.1 = ⟨b.toNat, []⟩ := by
  induction k generalizing fuel with
  | zero => simp [decodePrefix]
  | succ k ih =>
    obtain ⟨f, rfl⟩ : ∃ f, fuel = f + 1 := ⟨fuel - 1, by omega⟩
    obtain ⟨h1, h2, h3⟩ := ih f (by omega)
    rw [List.replicate_succ]
    unfold decodePrefix
    simp only [Refine.decodeOne_op b _ hb]
    refine ⟨h1, by simp [h2], ?_⟩
    intro p hp
    rcases List.mem_cons.mp hp with rfl | hp
    · rfl
    · exact h3 p hp

theorem evalScript_replicate (cfg : Cfg) (b : UInt8) (hb : 0x4e < b.toNat) (k : Nat) (st0 : St) :
    ∃ l : List (Instr × Bytes), l.length = k ∧ (∀ p ∈ l, p.1 = ⟨b.toNat, []⟩) ∧
      (evalScript cfg (List.replicate k b) st0).result =
        if ((cfg.sigversion == .BASE || cfg.sigversion == .WITNESS_V0) && decide (k > maxScriptSize)) = true then
          .error .SCRIPT_SIZE
        else match (evalInstrs cfg l 0 { st0 with codeFrom := List.replicate k b }).2 with
          | .error e => .error e
          | .ok st => if !st.cond.isEmpty then .error .UNBALANCED_CONDITIONAL else .ok st := by
  obtain ⟨h1, h2, h3⟩ := decodePrefix_replicate b hb k k (Nat.le_refl k)
  refine ⟨_, h2, h3, ?_⟩
  unfold evalScript
  simp only [List.length_replicate]
  split
  · rfl
  · cases hr : (evalInstrs cfg (decodePrefix k (List.replicate k b)).1 0 { st0 with codeFrom := List.replicate k b }).2 <;>
      simp [h1]
    split <;> rfl

/-- the byte script `51 51 … 51` (k times) on an initial state with no open conditional:
    `evalScript` succeeds exactly when n + m + k ≤ 1000 -/
theorem script_ones_succeed_iff (cfg : Cfg) (k : Nat) (st0 : St) (hc : st0.cond = [])
    (hinv : st0.stack.length + st0.alt.length ≤ 1000) :
    (∃ st', (evalScript cfg (List.replicate k 0x51) st0).result = .ok st') ↔
      st0.stack.length + st0.alt.length + k ≤ 1000 := by
  obtain ⟨l, hl, hm, hr⟩ := evalScript_replicate cfg 0x51 (by decide) k st0
  rw [hr, eval_ones cfg l hm 0 _ (by simp [hc]) (by simpa using hinv), hl]
  by_cases hs : ((cfg.sigversion == .BASE || cfg.sigversion == .WITNESS_V0) && decide (k > maxScriptSize)) = true
  · rw [if_pos hs]
    simp [maxScriptSize] at hs
    simp; omega
  · rw [if_neg hs]
    by_cases h : st0.stack.length + st0.alt.length + k ≤ 1000 <;> simp [h, hc]

/-- … and a script of at most 10000 bytes that exceeds the stack limit fails with STACK_SIZE -/
theorem script_ones_fail (cfg : Cfg) (k : Nat) (st0 : St) (hc : st0.cond = [])
    (hinv : st0.stack.length + st0.alt.length ≤ 1000) (hk : k ≤ 10000)
    (h : st0.stack.length + st0.alt.length + k > 1000) :
    (evalScript cfg (List.replicate k 0x51) st0).result = .error .STACK_SIZE := by
  obtain ⟨l, hl, hm, hr⟩ := evalScript_replicate cfg 0x51 (by decide) k st0
  rw [hr, eval_ones cfg l hm 0 _ (by simp [hc]) (by simpa using hinv), hl,
    if_neg (by simp [maxScriptSize]; omega)]
  simp only []
  rw [if_neg (by simpa using h)]

/-- the byte script `61 61 … 61` (k times) under BASE / WITNESS_V0: succeeds exactly when c + k ≤ 201 -/
theorem script_nops_succeed_iff_legacy (cfg : Cfg) (hv : cfg.sigversion = .BASE ∨ cfg.sigversion = .WITNESS_V0)
    (k : Nat) (st0 : St) (hc : st0.cond = [])
    (hinv : st0.stack.length + st0.alt.length ≤ 1000) (hop : st0.opCount ≤ 201) :
    (∃ st', (evalScript cfg (List.replicate k 0x61) st0).result = .ok st') ↔ st0.opCount + k ≤ 201 := by
  obtain ⟨l, hl, hm, hr⟩ := evalScript_replicate cfg 0x61 (by decide) k st0
  rw [hr, eval_nops_counted cfg hv l hm 0 _ (by simpa using hinv) (by simpa using hop), hl]
  by_cases hs : ((cfg.sigversion == .BASE || cfg.sigversion == .WITNESS_V0) && decide (k > maxScriptSize)) = true
  · rw [if_pos hs]
    simp [maxScriptSize] at hs
    simp; omega
  · rw [if_neg hs]
    by_cases h : st0.opCount + k ≤ 201 <;> simp [h, hc]

theorem script_nops_fail_legacy (cfg : Cfg) (hv : cfg.sigversion = .BASE ∨ cfg.sigversion = .WITNESS_V0)
    (k : Nat) (st0 : St) (hinv : st0.stack.length + st0.alt.length ≤ 1000) (hop : st0.opCount ≤ 201)
    (hk : k ≤ 10000) (h : st0.opCount + k > 201) :
    (evalScript cfg (List.replicate k 0x61) st0).result = .error .OP_COUNT := by
  obtain ⟨l, hl, hm, hr⟩ := evalScript_replicate cfg 0x61 (by decide) k st0
  rw [hr, eval_nops_counted cfg hv l hm 0 _ (by simpa using hinv) (by simpa using hop), hl,
    if_neg (by simp [maxScriptSize]; omega)]
  simp only []
  rw [if_neg (by simpa using h)]

/-- under TAPSCRIPT a script of any number of OP_NOPs (no script-size limit either) succeeds -/
theorem script_nops_succeed_tapscript (cfg : Cfg) (hv : cfg.sigversion = .TAPSCRIPT) (k : Nat) (st0 : St)
    (hc : st0.cond = []) (hinv : st0.stack.length + st0.alt.length ≤ 1000) :
    (evalScript cfg (List.replicate k 0x61) st0).result =
      .ok { st0 with codeFrom := List.replicate k 0x61 } := by
  obtain ⟨l, hl, hm, hr⟩ := evalScript_replicate cfg 0x61 (by decide) k st0
  rw [hr, eval_nops_uncounted cfg hv l hm 0 _ (by simpa using hinv), if_neg (by simp [hv])]
  simp [hc]

section Examples
variable (cfg : Cfg)

example : ∃ st', (evalInstrs cfg (ones 1000) 0 {}).2 = .ok st' :=
  (ones_succeed_iff cfg 1000 0 {} rfl (by decide)).mpr (by decide)
example : (evalInstrs cfg (ones 1001) 0 {}).2 = .error .STACK_SIZE :=
  ones_fail cfg 1001 0 {} rfl (by decide) (by decide)
example : ¬ ∃ st', (evalInstrs cfg (ones 1001) 0 {}).2 = .ok st' :=
  fun h => absurd ((ones_succeed_iff cfg 1001 0 {} rfl (by decide)).mp h) (by decide)
example (a b c d e : Bytes) :
    (∃ st', (evalInstrs cfg (ones 995) 7 { stack := [a, b, c], alt := [d, e] }).2 = .ok st') ∧
    (evalInstrs cfg (ones 996) 7 { stack := [a, b, c], alt := [d, e] }).2 = .error .STACK_SIZE :=
  ⟨(ones_succeed_iff cfg 995 7 _ rfl (by simp)).mpr (by simp), ones_fail cfg 996 7 _ rfl (by simp) (by simp)⟩

example (hv : cfg.sigversion = .BASE) : (evalInstrs cfg (nops 201) 0 {}).2 = .ok { opCount := 201 } :=
  nops_result_legacy cfg (.inl hv) 201 0 {} (by decide) (by decide)
example (hv : cfg.sigversion = .WITNESS_V0) : (evalInstrs cfg (nops 202) 0 {}).2 = .error .OP_COUNT :=
  nops_fail_legacy cfg (.inr hv) 202 0 {} (by decide) (by decide) (by decide)
example (hv : cfg.sigversion = .BASE) :
    (∃ st', (evalInstrs cfg (nops 1) 0 { opCount := 200 }).2 = .ok st') ∧
    ¬ (∃ st', (evalInstrs cfg (nops 2) 0 { opCount := 200 }).2 = .ok st') :=
  ⟨(nops_succeed_iff_legacy cfg (.inl hv) 1 0 _ (by decide) (by decide)).mpr (by decide),
   fun h => absurd ((nops_succeed_iff_legacy cfg (.inl hv) 2 0 _ (by decide) (by decide)).mp h) (by decide)⟩
example (hv : cfg.sigversion = .TAPSCRIPT) : (evalInstrs cfg (nops 100000) 0 {}).2 = .ok {} :=
  nops_succeed_tapscript cfg hv 100000 0 {} (by decide)

example : ∃ st', (evalScript cfg (List.replicate 1000 0x51) {}).result = .ok st' :=
  (script_ones_succeed_iff cfg 1000 {} rfl (by decide)).mpr (by decide)
example : (evalScript cfg (List.replicate 1001 0x51) {}).result = .error .STACK_SIZE :=
  script_ones_fail cfg 1001 {} rfl (by decide) (by decide) (by decide)
example (hv : cfg.sigversion = .BASE) : ∃ st', (evalScript cfg (List.replicate 201 0x61) {}).result = .ok st' :=
  (script_nops_succeed_iff_legacy cfg (.inl hv) 201 {} rfl (by decide) (by decide)).mpr (by decide)
example (hv : cfg.sigversion = .BASE) : (evalScript cfg (List.replicate 202 0x61) {}).result = .error .OP_COUNT :=
  script_nops_fail_legacy cfg (.inl hv) 202 {} (by decide) (by decide) (by decide) (by decide)

end Examples

end Btcdeb.Proofs.C10
