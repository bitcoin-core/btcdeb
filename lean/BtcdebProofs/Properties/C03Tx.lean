/-
  C03 for the checker btcdeb really installs.

  `Properties/C03.lean` proves "session valid ⇔ `Spec.verifyScript` accepts" under the hypothesis `CheckerAgrees cx sc ..`
  (`CfgRel cx e cfg` for every environment of the session), which is false of the model of the real checker
  (`C02.no_cfgRel_tx`).  Here: the specification's oracle, presented as a checker, satisfies `CheckerAgrees`; the session of the
  real checker EQUALS the oracle's session (the two answer alike what the session asks, `sameOn_spend` below; the congruence
  lemmas of Lemmas/SigSession.lean carry that through the session), and `Agrees` only looks at the session —
  so the theorems of C03 hold for `txCheckerWith ..` without that hypothesis (`C03_*_tx`, `C03_verdict_tx`).
  Needed of the checker's data: the input exists and `Coherent cr tx txdata`; for taproot outputs also `TxReady` (what
  `Instance::setup_environment` establishes for a single-input transaction only: F-C03-multi-input-taproot).
  Still conditional: for P2SH the redeem script — what the scriptSig leaves on top of the stack — decodes (`hredeem`).  A redeem
  script with a truncated push fails in both worlds, but before that a signature check may hash a script code that does not
  decode, where Core's serializer and the original algorithm differ (`legacySighash_eq_spec_partial`).  A legacy scriptPubKey
  that does not decode IS covered: such a session is invalid whatever the checker answers (`legacy_undecodable_invalid`).
-/
import Btcdeb
import BtcdebProofs.Lemmas.SigSession
import BtcdebProofs.Properties.C02
import BtcdebProofs.Properties.C03
import BtcdebProofs.Lemmas.TapSpend
namespace Btcdeb.Proofs.C03
open Btcdeb Btcdeb.Model Btcdeb.Refine Btcdeb.Proofs.Phases Btcdeb.Proofs.Shapes Btcdeb.Proofs.Sighash
open Btcdeb.Proofs.SigOps Btcdeb.Proofs.C02

theorem checkerAgrees_oracle (sc : Spec.SpendCtx) (flags : Nat) (sv : SigVersion) (annex leaf : Option Bytes) :
    CheckerAgrees (oracleCtx (sc.oracleFor sv annex leaf)) sc flags sv annex leaf := by
  intro e he
  simp only [conf, Prod.mk.injEq] at he
  obtain ⟨h1, h2, h3, h4, h5, h6⟩ := he
  exact cfgRel_oracle e (specCfg sc flags sv annex leaf)
    { flags := h1.symm, sv := h2.symm, z := h4.symm, rm := by rw [h3, h1],
      pretendKeys := fun key => by rw [h6]; rfl,
      pretendPair := fun sig key hk => by rw [h6] at hk; cases hk }

theorem agreesC_of_verdict_eq {tc : TapCtx} {cx cx' : Ctx} {flags : Nat} {cf : Option Configured} {N : IEnv → Nat}
    {spec : Spec.R Unit}
    (hv : ∀ c, cf = some c → ∀ e0,
      setupEnvironment c.stack c.script flags c.sigver c.successor false c.execdata c.tce [] [] = .ok e0 →
      ∀ n, N e0 ≤ n → sessionValid flags c.sigver (continueScript cx tc n e0) =
        sessionValid flags c.sigver (continueScript cx' tc n e0))
    (h : AgreesC tc cx' flags cf N spec) : AgreesC tc cx flags cf N spec := by
  unfold AgreesC at h ⊢
  cases cf with
  | none => exact h
  | some c =>
    simp only at h ⊢
    cases hs : setupEnvironment c.stack c.script flags c.sigver c.successor false c.execdata c.tce [] [] with
    | error x => rw [hs] at h; exact h
    | ok e0 =>
      rw [hs] at h
      simp only at h ⊢
      intro n hn
      rw [hv c rfl e0 hs n hn]
      exact h n hn

theorem agreesC_transfer {tc : TapCtx} {cx cx' : Ctx} {flags : Nat} {cf : Option Configured} {N : IEnv → Nat}
    {spec : Spec.R Unit}
    (hcong : ∀ c, cf = some c → ∀ e0,
      setupEnvironment c.stack c.script flags c.sigver c.successor false c.execdata c.tce [] [] = .ok e0 →
      ∀ n, continueScript cx tc n e0 = continueScript cx' tc n e0)
    (h : AgreesC tc cx' flags cf N spec) : AgreesC tc cx flags cf N spec :=
  agreesC_of_verdict_eq (fun c hc e0 hs n _ => by rw [hcong c hc e0 hs n]) h

/-- `C02.sameOn_txOracle` with the oracle written as C03 meets it: `(Spec.spendCtx p tx nIn amount spent).oracleFor sv annex leaf`
    is `Spec.txOracle p tx nIn amount spent sv annex leaf` -/
theorem sameOn_spend (cr : SigCrypto) (base : Ctx) (p : Spec.Prims) (hp : PrimsMatch p cr base)
    (tx : Tx) (nIn : Nat) (amount : Int) (txdata : PrecomputedTxData) (spent : List TxOut) (sv : SigVersion)
    (annex leaf : Option Bytes) (ed0 : ExecData) (hin : nIn < tx.vin.length) (hcoh : Coherent cr tx txdata)
    (htap : sv = .TAPSCRIPT → spent = txdata.spentOutputs ∧ TapReady cr tx nIn txdata annex leaf ed0) :
    SameOn (txCheckerWith cr base tx nIn amount txdata)
      (oracleCtx ((Spec.spendCtx p tx nIn amount spent).oracleFor sv annex leaf)) sv (edStatic ed0) :=
  sameOn_txOracle cr base p hp tx nIn amount txdata spent sv annex leaf ed0 hin hcoh htap

theorem keypath_query (cr : SigCrypto) (base : Ctx) (p : Spec.Prims) (hp : PrimsMatch p cr base)
    (tx : Tx) (nIn : Nat) (amount : Int) (txdata : PrecomputedTxData) (annex : Option Bytes) (ed : ExecData)
    (hin : nIn < tx.vin.length) (hcoh : Coherent cr tx txdata)
    (h1 : txdata.bip341TaprootReady = true) (h2 : txdata.spentOutputsReady = true)
    (hpre : SchnorrPre cr ed tx nIn annex none .TAPROOT) (prog : Bytes) (hk : prog.length = 32) (sig : Bytes) :
    (txCheckerWith cr base tx nIn amount txdata).checkSchnorr sig prog .TAPROOT ed =
      (oracleCtx ((Spec.spendCtx p tx nIn amount txdata.spentOutputs).oracleFor .TAPROOT annex none)).checkSchnorr sig prog .TAPROOT ed := by
  rw [txChecker_checkSchnorr cr base tx nIn amount txdata sig prog .TAPROOT ed annex none hin hcoh h1 h2 hpre hk]
  simp only [oracleCtx, Spec.spendCtx, Spec.txOracle, hp.sha256, hp.schnorrVerify]
  have : (SigVersion.TAPROOT == SigVersion.TAPSCRIPT) = false := by decide
  simp only [this, Bool.false_eq_true, if_false]
  cases Spec.schnorrSigValid cr.sha256 cr.schnorrVerify tx nIn txdata.spentOutputs annex none sig prog <;> rfl

theorem parses_of_hasValidOps (s : Bytes) (h : hasValidOps s = true) : Parses s :=
  (parses_iff_decode s).mpr (decode_of_hasValidOps s h)

theorem witness_session_congr (cx cx' : Ctx) (tc : TapCtx) (sv : SigVersion) (hsv : sv = .WITNESS_V0 ∨ sv = .TAPSCRIPT)
    {stack : List Bytes} {script : Bytes} {flags : Nat} {ed : ExecData} {tce : Option Tce} {e0 : IEnv}
    (hs : setupEnvironment stack script flags sv [] false ed tce [] [] = .ok e0)
    (hsame : SameOn cx cx' sv (edStatic ed)) (hvo : hasValidOps script = true)
    (htce : ∀ t, tce = some t → t.leaf = ed.tapleafHash ∧ ed.tapleafHashInit = true) (n : Nat) :
    continueScript cx tc n e0 = continueScript cx' tc n e0 := by
  have hnb : (sv == SigVersion.BASE) = false := by rcases hsv with h | h <;> rw [h] <;> decide
  refine session_congr_single cx cx' tc sv (edStatic ed) hsame n e0 ?_ ?_
  · exact sessInv_setup hs (by rcases hsv with h | h <;> rw [h] <;> decide) (parses_of_hasValidOps script hvo) Parses.nil htce
      (fun hp => by rw [hnb] at hp; cases hp)
  · obtain ⟨-, -, -, rfl⟩ := setup_ok hs
    rfl

section Tx
variable (cr : SigCrypto) (base : Ctx) (p : Spec.Prims) (hp : PrimsMatch p cr base)
  (h : HashCtx) (tc : TapCtx) (flags : Nat) (tx txin : Tx) (idx vout : Nat) (sv0 : SigVersion)
  (amount : Int) (txdata : PrecomputedTxData) (spentList : List TxOut)
  (inp : TxIn) (spent : TxOut)
  (hinp : tx.vin[idx]? = some inp) (hspent : txin.vout[vout]? = some spent)
  (hcoh : Coherent cr tx txdata)

include hp hinp hcoh in
theorem v0_program_tx {witness : List Bytes} {wlast rest : Bytes} {amt : Int} {N : IEnv → Nat} {spec : Spec.R Unit}
    (H : AgreesC tc (oracleCtx ((Spec.spendCtx p tx idx amount spentList).oracleFor .WITNESS_V0 none none)) flags
      (configureWitness h tc witness wlast amt (0x00 :: rest)) N spec) :
    AgreesC tc (txCheckerWith cr base tx idx amount txdata) flags (configureWitness h tc witness wlast amt (0x00 :: rest)) N
      spec := by
  refine agreesC_transfer (fun c hc e0 hs n => ?_) H
  obtain ⟨hsv, hsucc, hed, htce, hvo⟩ := configureWitness_v0 hc
  rw [hsv, hsucc, hed, htce] at hs
  exact witness_session_congr _ _ tc .WITNESS_V0 (Or.inl rfl) hs
    (sameOn_spend cr base p hp tx idx amount txdata spentList .WITNESS_V0 none none {} (List.getElem?_eq_some_iff.mp hinp).1 hcoh
      (fun h => by cases h)) hvo (fun t ht => by cases ht) n

include hp hinp hspent hcoh in
theorem C03_p2wsh_tx (prog wlast : Bytes)
    (hsig : inp.scriptSig = []) (hspk : spent.scriptPubKey = 0x00 :: 0x20 :: prog) (hpl : prog.length = 32)
    (hw : inp.witness.getLast? = some wlast)
    (hsha : ∀ b, h.sha256 b = p.sha256 b)
    (hW : hasFlag flags Flag.WITNESS = true) (hnz : Spec.toBool prog = true)
    (hdef : NoUndefinedOpcode wlast) :
    Agrees h tc (txCheckerWith cr base tx idx amount txdata) flags tx txin idx vout sv0 continueFuel
      (Spec.verifyScript (Spec.spendCtx p tx idx amount spentList) flags inp.scriptSig spent.scriptPubKey inp.witness) :=
  native_agrees h tc _ _ flags tx txin idx vout sv0 inp spent _ 0x00 0 prog wlast hinp hspent hsig (by rw [hspk, hpl]; rfl)
    (Or.inl ⟨rfl, rfl⟩) (Or.inr hpl) hw hW hnz
    (by rw [hspk]; exact v0_program_tx cr base p hp h tc flags tx idx amount txdata spentList inp hinp hcoh
          (p2wsh_program h tc _ _ flags prog wlast _ _ false hpl hw hsha (checkerAgrees_oracle _ flags .WITNESS_V0 none none) hdef))

include hp hinp hspent hcoh in
theorem C03_p2wpkh_tx (prog wlast : Bytes)
    (hsig : inp.scriptSig = []) (hspk : spent.scriptPubKey = 0x00 :: 0x14 :: prog) (hpl : prog.length = 20)
    (hw : inp.witness.getLast? = some wlast)
    (hh160 : ∀ b, h.hash160 b = p.ripemd160 (p.sha256 b))
    (hW : hasFlag flags Flag.WITNESS = true) (hnz : Spec.toBool prog = true) :
    Agrees h tc (txCheckerWith cr base tx idx amount txdata) flags tx txin idx vout sv0 continueFuel
      (Spec.verifyScript (Spec.spendCtx p tx idx amount spentList) flags inp.scriptSig spent.scriptPubKey inp.witness) :=
  native_agrees h tc _ _ flags tx txin idx vout sv0 inp spent _ 0x00 0 prog wlast hinp hspent hsig (by rw [hspk, hpl]; rfl)
    (Or.inl ⟨rfl, rfl⟩) (Or.inl hpl) hw hW hnz
    (by rw [hspk]; exact v0_program_tx cr base p hp h tc flags tx idx amount txdata spentList inp hinp hcoh
          (p2wpkh_program h tc _ _ flags prog wlast _ _ false hpl hw hh160 (checkerAgrees_oracle _ flags .WITNESS_V0 none none)))

include hp hinp hspent hcoh in
theorem C03_p2sh_p2wsh_tx (prog hh wlast : Bytes)
    (hsig : inp.scriptSig = Spec.pushOf (0x00 :: 0x20 :: prog)) (hspk : spent.scriptPubKey = 0xa9 :: 0x14 :: (hh ++ [0x87]))
    (hpl : prog.length = 32) (hl : hh.length = 20) (hw : inp.witness.getLast? = some wlast)
    (hsha : ∀ b, h.sha256 b = p.sha256 b) (hh160 : ∀ b, h.hash160 b = p.ripemd160 (p.sha256 b))
    (hP : hasFlag flags Flag.P2SH = true) (hW : hasFlag flags Flag.WITNESS = true) (hnz : Spec.toBool prog = true)
    (hdef : NoUndefinedOpcode wlast) :
    Agrees h tc (txCheckerWith cr base tx idx amount txdata) flags tx txin idx vout sv0 continueFuel
      (Spec.verifyScript (Spec.spendCtx p tx idx amount spentList) flags inp.scriptSig spent.scriptPubKey inp.witness) :=
  wrapped_agrees h tc _ _ flags tx txin idx vout sv0 inp spent _ prog hh wlast hinp hspent (by rw [hsig, hpl]; rfl) hspk
    (Or.inr hpl) hl hw hh160 hP hW hnz
    (by rw [hpl]; exact v0_program_tx cr base p hp h tc flags tx idx amount txdata spentList inp hinp hcoh
          (p2wsh_program h tc _ _ flags prog wlast _ _ true hpl hw hsha (checkerAgrees_oracle _ flags .WITNESS_V0 none none) hdef))

include hp hinp hspent hcoh in
theorem C03_p2sh_p2wpkh_tx (prog hh wlast : Bytes)
    (hsig : inp.scriptSig = Spec.pushOf (0x00 :: 0x14 :: prog)) (hspk : spent.scriptPubKey = 0xa9 :: 0x14 :: (hh ++ [0x87]))
    (hpl : prog.length = 20) (hl : hh.length = 20) (hw : inp.witness.getLast? = some wlast)
    (hh160 : ∀ b, h.hash160 b = p.ripemd160 (p.sha256 b))
    (hP : hasFlag flags Flag.P2SH = true) (hW : hasFlag flags Flag.WITNESS = true) (hnz : Spec.toBool prog = true) :
    Agrees h tc (txCheckerWith cr base tx idx amount txdata) flags tx txin idx vout sv0 continueFuel
      (Spec.verifyScript (Spec.spendCtx p tx idx amount spentList) flags inp.scriptSig spent.scriptPubKey inp.witness) :=
  wrapped_agrees h tc _ _ flags tx txin idx vout sv0 inp spent _ prog hh wlast hinp hspent (by rw [hsig, hpl]; rfl) hspk
    (Or.inl hpl) hl hw hh160 hP hW hnz
    (by rw [hpl]; exact v0_program_tx cr base p hp h tc flags tx idx amount txdata spentList inp hinp hcoh
          (p2wpkh_program h tc _ _ flags prog wlast _ _ true hpl hw hh160 (checkerAgrees_oracle _ flags .WITNESS_V0 none none)))

/-- the BIP341 data of the checker are ready and hold the spent outputs the specification is given
    (single-input transactions: `precomputeInit_single_input_ready`) -/
structure TxReady (txdata : PrecomputedTxData) (spentList : List TxOut) : Prop where
  ready341 : txdata.bip341TaprootReady = true
  readySpent : txdata.spentOutputsReady = true
  spentEq : txdata.spentOutputs = spentList

omit hp hinp hspent hcoh in
/-- the execution data `configure_tx_txin` builds describe the annex of the witness -/
theorem schnorrPre_configured (hsha : ∀ b, h.sha256 b = cr.sha256 b) (nIn : Nat) (w : List Bytes) (wlast : Bytes)
    (ed : ExecData) (ext : Option Spec.TapExt) (sv : SigVersion)
    (h1 : ed.annexInit = true) (h2 : ed.annexPresent = hasAnnexM w wlast)
    (h3 : ed.annexHash = if hasAnnexM w wlast then h.sha256 (compactSize wlast.length ++ wlast) else [])
    (hext : match ext with
      | none => sv = .TAPROOT
      | some e => sv = .TAPSCRIPT ∧ ed.tapleafHashInit = true ∧ ed.tapleafHash = e.leafHash
          ∧ ed.codesepPosInit = true ∧ ed.codesepPos = e.codesepPos)
    (hout : ed.outputHash = none) :
    SchnorrPre cr ed tx nIn (if hasAnnexS w wlast then some wlast else none) ext sv := by
  refine ⟨h1, ?_, ?_, hext, Or.inl hout⟩
  · rw [h2, annex_eq]; cases hasAnnexS w wlast <;> rfl
  · intro a ha
    rw [h3, annex_eq]
    cases hs : hasAnnexS w wlast
    · rw [hs] at ha; cases ha
    · rw [hs] at ha
      simp only [if_true, Option.some.injEq] at ha
      subst ha
      simp only [if_true, hsha]; rfl

include hp hinp hspent hcoh in
/-- **(f) tapscript, transaction checker.**  Needs the BIP341 data ready (`TxReady`), the annex hash function of
    `configure_tx_txin` to be the checker's SHA-256, and C05's agreement of the commitment functions (which also makes the
    leaf hash in the execution data the one the specification signs). -/
theorem C03_tapscript_tx (prog wlast control leafScript : Bytes) (stack : List Bytes)
    (hsig : inp.scriptSig = []) (hspk : spent.scriptPubKey = 0x51 :: 0x20 :: prog) (hpl : prog.length = 32)
    (hw : inp.witness.getLast? = some wlast)
    (hstack : stack = if hasAnnexS inp.witness wlast then inp.witness.dropLast else inp.witness)
    (hctl : stack.getLast? = some control) (hleaf : stack.dropLast.getLast? = some leafScript)
    (htap : C05.Agree tc p.tap) (hsha : ∀ b, h.sha256 b = cr.sha256 b) (hready : TxReady txdata spentList)
    (hW : hasFlag flags Flag.WITNESS = true) (hT : hasFlag flags Flag.TAPROOT = true) (hnz : Spec.toBool prog = true)
    (hlv : (control.headD 0).toNat - (control.headD 0).toNat % 2 = 0xc0)
    (hns : Spec.hasOpSuccess false leafScript = false) (hdef : NoUndefinedOpcode leafScript) :
    Agrees h tc (txCheckerWith cr base tx idx amount txdata) flags tx txin idx vout sv0 continueFuel
      (Spec.verifyScript (Spec.spendCtx p tx idx amount spentList) flags inp.scriptSig spent.scriptPubKey inp.witness) := by
  refine agreesC_transfer ?_ (C03_tapscript h tc _ (Spec.spendCtx p tx idx amount spentList) flags tx txin idx vout sv0 inp spent
    prog wlast control leafScript stack hinp hspent hsig hspk hpl hw hstack hctl hleaf htap
    (checkerAgrees_oracle _ flags .TAPSCRIPT _ _) hW hT hnz hlv hns hdef)
  intro c hc e0 hs n
  rw [configureTxTxin_native hinp hspent hsig hw, hspk, configureWitness_taproot _ _ _ _ _ _ hpl] at hc
  rcases configureTaproot_some hc _ stack rfl (by rw [annex_eq]; exact hstack) with
    ⟨h1, _⟩ | ⟨_, _, _, hctl', hleaf', _, _, _, _, hvo, rfl⟩
  · obtain ⟨_, _, _, rfl⟩ := two_of_dropLast_getLast hleaf
    cases h1
  cases hctl.symm.trans hctl'
  cases hleaf.symm.trans hleaf'
  have hleafEq : (Tce.init tc control prog leafScript).leaf = Spec.tapLeafHash p.tap 0xc0 leafScript := by
    rw [Btcdeb.Proofs.Tce.init_leaf tc p.tap htap.1, hlv]
  refine witness_session_congr _ _ tc .TAPSCRIPT (Or.inr rfl) hs ?_ hvo
    (fun t ht => by cases ht; exact ⟨rfl, rfl⟩) n
  refine sameOn_spend cr base p hp tx idx amount txdata spentList .TAPSCRIPT _ _ _ (List.getElem?_eq_some_iff.mp hinp).1 hcoh
    (fun _ => ⟨hready.spentEq.symm, hready.ready341, hready.readySpent, _, rfl, ?_⟩)
  exact schnorrPre_configured cr h tx hsha idx inp.witness wlast _ _ .TAPSCRIPT rfl rfl rfl
    ⟨rfl, rfl, hleafEq, rfl, rfl⟩ rfl

include hp hinp hspent hcoh in
/-- **(e) taproot key path, transaction checker.**  The session is `<program> OP_CHECKSIG` under `SigVersion::TAPROOT`; its one
    question to the checker is answered as BIP341 prescribes when the BIP341 data are ready. -/
theorem C03_keypath_tx (prog wlast sg : Bytes)
    (hsig : inp.scriptSig = []) (hspk : spent.scriptPubKey = 0x51 :: 0x20 :: prog) (hpl : prog.length = 32)
    (hw : inp.witness.getLast? = some wlast)
    (hstack : (if hasAnnexS inp.witness wlast then inp.witness.dropLast else inp.witness) = [sg])
    (hsha : ∀ b, h.sha256 b = cr.sha256 b) (hready : TxReady txdata spentList)
    (hW : hasFlag flags Flag.WITNESS = true) (hT : hasFlag flags Flag.TAPROOT = true) (hnz : Spec.toBool prog = true) :
    Agrees h tc (txCheckerWith cr base tx idx amount txdata) flags tx txin idx vout sv0 continueFuel
      (Spec.verifyScript (Spec.spendCtx p tx idx amount spentList) flags inp.scriptSig spent.scriptPubKey inp.witness) := by
  refine agreesC_transfer ?_ (C03_keypath h tc _ (Spec.spendCtx p tx idx amount spentList) flags tx txin idx vout sv0 inp spent
    prog wlast sg hinp hspent hsig hspk hpl hw hstack (checkerAgrees_oracle _ flags .TAPROOT _ none) hW hT hnz)
  intro c hc e0 hs n
  rw [configureTxTxin_native hinp hspent hsig hw, hspk,
    configureWitness_keypath h tc prog wlast sg _ _ hpl (by rw [annex_eq]; exact hstack)] at hc
  cases hc
  obtain ⟨-, -, -, rfl⟩ := setup_ok hs
  have hg : getOp (0x20 :: (prog ++ [0xac])) = some ⟨0x20, prog, [0xac]⟩ :=
    getOp_push_direct 0x20 prog [0xac] (by decide) (by rw [hpl]; rfl)
  refine keypath_congr _ _ tc prog _ rfl hg _ ?_ _ ⟨rfl, ?_, rfl, rfl, rfl, rfl, rfl⟩ n
  · intro sig
    rw [← hready.spentEq]
    exact keypath_query cr base p hp tx idx amount txdata _ _ (List.getElem?_eq_some_iff.mp hinp).1 hcoh hready.ready341 hready.readySpent
      (schnorrPre_configured cr h tx hsha idx inp.witness wlast _ none .TAPROOT rfl rfl rfl rfl rfl) prog hpl sig
  · simp [setupEnv]

omit hp hinp hspent hcoh in
theorem parses_p2sh (hh : Bytes) (hl : hh.length = 20) : Parses (0xa9 :: 0x14 :: (hh ++ [0x87])) :=
  (parses_decodeOne (decodeOne_op 0xa9 _ (by decide))).mpr <|
    (parses_decodeOne (decodeOne_push 0x14 hh [0x87] (by decide) (by rw [hl]; rfl))).mpr <|
      (parses_decodeOne (decodeOne_op 0x87 [] (by decide))).mpr .nil

omit hp hinp hspent hcoh in
/-- a legacy session whose scriptPubKey is not a sequence of complete instructions is invalid whatever its checker says:
    the scriptSig phase fails, or the hand-over fails, or the scriptPubKey phase ends in an error (at the latest
    `BAD_OPCODE` where no instruction decodes) -/
theorem legacy_undecodable_invalid (c : Ctx) (sig spk : Bytes) (hnp : ¬ Parses spk) (n : Nat)
    (hn : sig.length + spk.length + 3 ≤ n) :
    sessionValid flags .BASE (continueScript c tc n (setupEnv [] sig flags .BASE spk {} none)) = false := by
  generalize he0 : setupEnv [] sig flags .BASE spk {} none = e0
  have hspk : spk ≠ [] := by intro h0; rw [h0] at hnp; exact hnp Parses.nil
  have ht0 : e0.tce = none := by rw [← he0]; rfl
  have hpc0 : e0.pc = sig := by rw [← he0]; rfl
  have hsucc0 : e0.successor = spk := by rw [← he0]; rfl
  have hps0 : e0.p2shStack = [] := by rw [← he0]; simp [setupEnv]
  have hd0 : e0.done = false := by
    rw [← he0]
    have := List.isEmpty_eq_false_iff.mpr hspk
    simp [setupEnv, this]
  suffices hE : ∃ N x, N ≤ sig.length + spk.length + 3 ∧ Ends c tc e0 N (.error x) by
    obtain ⟨N, x, hN, hE⟩ := hE
    exact invalid_of_ends_error flags .BASE hE n (by omega)
  have hph := phase_ends (cx := c) (tc := tc) ht0 hd0
  generalize phaseResult c tc e0 = res at hph
  rcases res with x | e1
  · exact ⟨_, x, by rw [hpc0]; omega, hph⟩
  · obtain ⟨hout, _, hpc1, hce, hEnds⟩ := hph
    have hd1 := (outer_done hout).trans hd0
    have ht1 := (outer_tce hout).trans ht0
    have hsucc1 := (outer_successor hout).trans hsucc0
    have hps1 := (outer_p2shStack hout).trans hps0
    rw [hpc0] at hEnds
    have fromErr : ∀ x, stepSession c tc e1 = .error x → ∃ N x, N ≤ sig.length + spk.length + 3 ∧ Ends c tc e0 N (.error x) := by
      intro x hs
      exact ⟨_, x, by omega, hEnds _ _ (ends_step_err c tc e1 x hd1 hs)⟩
    by_cases hisp : e1.isP2sh = true
    · have hs := end_p2sh c tc e1 ht1 hpc1 hce hisp
      rw [hps1] at hs
      have : ∃ x, stepSession c tc e1 = .error x := by
        -- every branch of the hand-over refuses, the last one because no stack was saved
        rw [hs]
        cases e1.see.stack.getLast? with
        | none => exact ⟨_, rfl⟩
        | some t =>
          dsimp only
          split
          · exact ⟨_, rfl⟩
          · split
            · split <;> exact ⟨_, rfl⟩
            · exact ⟨_, rfl⟩
      obtain ⟨x, hx⟩ := this
      exact fromErr x hx
    · have hisp' : e1.isP2sh = false := by simpa using hisp
      by_cases hsz : e1.successor.length > Gen.MAX_SCRIPT_SIZE
      · exact fromErr _ (end_succ_size c tc e1 ht1 hpc1 hce hisp' hsz)
      · have hs := end_succ c tc e1 ht1 hpc1 hce hisp' (by rw [hsucc1]; exact hspk) (by omega)
        obtain ⟨e2, hs, ht2, hd2, hpc2⟩ : ∃ e2, stepSession c tc e1 = .ok e2 ∧ e2.tce = none ∧ e2.done = false ∧ e2.pc = spk :=
          ⟨_, hs, ht1, hd1, hsucc1⟩
        obtain ⟨y, hy⟩ := runOps_unparsed_err c tc spk.length e2 ht2 (by rw [hpc2]; exact hnp) (by rw [hpc2]; exact Nat.le_refl _)
        have h2 := ends_ops_err ht2 hd2 hy
        rw [hpc2] at h2
        exact ⟨_, y, by omega, hEnds _ _ (ends_step hd1 hs h2)⟩

omit hp hcoh in
include hinp hspent in
theorem base_transfer {cx cx' : Ctx} {N : IEnv → Nat} {spec : Spec.R Unit} (hw : inp.witness = [])
    (hv : hasValidOps inp.scriptSig = true → ∀ e0,
      setupEnvironment [] inp.scriptSig flags .BASE spent.scriptPubKey false {} none [] [] = .ok e0 → ∀ n, N e0 ≤ n →
        sessionValid flags .BASE (continueScript cx tc n e0) = sessionValid flags .BASE (continueScript cx' tc n e0))
    (H : Agrees h tc cx' flags tx txin idx vout sv0 N spec) : Agrees h tc cx flags tx txin idx vout sv0 N spec := by
  refine agreesC_of_verdict_eq (fun c hc e0 hs n hn => ?_) H
  rw [configureTxTxin_legacy hinp hspent hw] at hc
  split at hc
  · cases hc
    exact hv ‹_› e0 hs n hn
  · cases hc

include hp hinp hspent hcoh in
/-- (a) for a scriptPubKey that decodes: then every script of the session does, and the session equals the oracle's -/
theorem C03_legacy_tx_dec
    (hw : inp.witness = []) (hspk : spent.scriptPubKey ≠ [])
    (hnw : Spec.witnessProgram spent.scriptPubKey = none ∨ hasFlag flags Flag.WITNESS = false)
    (hnp : (hasFlag flags Flag.P2SH && Spec.isP2SH spent.scriptPubKey) = false)
    (hdef : NoUndefinedOpcode inp.scriptSig) (hdec : Spec.decode spent.scriptPubKey ≠ none) :
    Agrees h tc (txCheckerWith cr base tx idx amount txdata) flags tx txin idx vout sv0 sessionFuel
      (Spec.verifyScript (Spec.spendCtx p tx idx amount spentList) flags inp.scriptSig spent.scriptPubKey inp.witness) := by
  refine base_transfer h tc flags tx txin idx vout sv0 inp spent hinp hspent hw (fun hvo e0 hs n _ => congrArg _ ?_)
    (legacy_agrees h tc _ (Spec.spendCtx p tx idx amount spentList) flags tx txin idx vout sv0 inp spent
      hinp hspent hw (checkerAgrees_oracle _ flags .BASE none none) hspk hnw hnp hdef)
  refine session_congr_nop2sh _ _ tc .BASE (edStatic ({} : ExecData))
    (sameOn_spend cr base p hp tx idx amount txdata spentList .BASE none none {} (List.getElem?_eq_some_iff.mp hinp).1 hcoh (fun hh => by cases hh)) n _
    (sessInv_setup hs (by decide) (parses_of_hasValidOps _ hvo) ((parses_iff_decode _).mpr hdec) (fun t ht => by cases ht)
      (fun _ r hr => by cases hr)) ?_
  obtain ⟨-, -, -, rfl⟩ := setup_ok hs
  show p2shPattern flags spent.scriptPubKey = false
  rw [p2shPattern_eq]; exact hnp

include hp hinp hspent hcoh in
/-- **(a) legacy, transaction checker.**  No hypothesis beyond those of C03: if the scriptPubKey decodes the session
    equals the oracle's session (`C03_legacy_tx_dec`); if it does not, both sessions are invalid
    (`legacy_undecodable_invalid`) and validation rejects. -/
theorem C03_legacy_tx
    (hw : inp.witness = []) (hspk : spent.scriptPubKey ≠ [])
    (hnw : Spec.witnessProgram spent.scriptPubKey = none ∨ hasFlag flags Flag.WITNESS = false)
    (hnp : (hasFlag flags Flag.P2SH && Spec.isP2SH spent.scriptPubKey) = false)
    (hdef : NoUndefinedOpcode inp.scriptSig) :
    Agrees h tc (txCheckerWith cr base tx idx amount txdata) flags tx txin idx vout sv0 sessionFuel
      (Spec.verifyScript (Spec.spendCtx p tx idx amount spentList) flags inp.scriptSig spent.scriptPubKey inp.witness) := by
  by_cases hpar : Parses spent.scriptPubKey
  · exact C03_legacy_tx_dec cr base p hp h tc flags tx txin idx vout sv0 amount txdata spentList inp spent hinp hspent hcoh
      hw hspk hnw hnp hdef ((parses_iff_decode _).mp hpar)
  · refine base_transfer h tc flags tx txin idx vout sv0 inp spent hinp hspent hw (fun _ e0 hs n hn => ?_)
      (legacy_agrees h tc _ (Spec.spendCtx p tx idx amount spentList) flags tx txin idx vout sv0 inp spent
        hinp hspent hw (checkerAgrees_oracle _ flags .BASE none none) hspk hnw hnp hdef)
    obtain ⟨-, -, -, rfl⟩ := setup_ok hs
    have hn' : inp.scriptSig.length + spent.scriptPubKey.length + 3 ≤ n := by
      simp only [sessionFuel, continueFuel, setupEnv] at hn
      simp at hn
      omega
    rw [legacy_undecodable_invalid tc flags _ _ _ hpar n hn', legacy_undecodable_invalid tc flags _ _ _ hpar n hn']

/-- at the hand-over to the P2SH-pattern scriptPubKey after a push-only scriptSig, the top stack element — the redeem
    script — decodes.  Stated on the states visited by the session whose checker is the oracle (which, up to that point,
    are those of the real session). -/
def RedeemDecodes (cx' : Ctx) (tc : TapCtx) (e0 : IEnv) : Prop :=
  ∀ k e, C04.advance cx' tc e0 k = some e → e.tce = none → e.pc = [] → e.successor ≠ [] → e.see.cond.empty = true →
    p2shPattern e.see.flags e.successor = true → isPushOnly e.see.script = true →
    ∀ r, e.see.stack.getLast? = some r → Spec.decode r ≠ none ∧ r.length < 2 ^ 32

omit hp hinp hspent hcoh in
/-- `RedeemDecodes` from the specification's side: it suffices that the element the scriptSig leaves on top of the stack
    under the specification's evaluation — the redeem script — decodes.  (The hand-over state of the oracle's session is
    the end of its scriptSig phase, which the phase lemma `phase_base` relates to `Spec.evalScript`.) -/
theorem redeemDecodes_of_spec (sc : Spec.SpendCtx) (sig spk : Bytes) (hlen : sig.length ≤ Spec.maxScriptSize)
    (hspec : ∀ s1 redeem rest, Spec.runScript sc flags .BASE none none sig {} = .ok s1 → s1.stack = redeem :: rest →
      Spec.decode redeem ≠ none ∧ redeem.length < 2 ^ 32) :
    RedeemDecodes (oracleCtx (sc.oracleFor .BASE none none)) tc (setupEnv [] sig flags .BASE spk {} none) := by
  intro k e hreach ht hpc hsucc hce hp2 hpo r hr
  generalize he0 : setupEnv [] sig flags .BASE spk {} none = e0 at hreach
  have ht0 : e0.tce = none := by rw [← he0]; rfl
  have hps0 : e0.p2shStack = [] := by rw [← he0]; simp [setupEnv]
  have hpc0 : e0.pc = sig := by rw [← he0]; rfl
  obtain ⟨f, _, hrun⟩ := (visited_runOps ht0 hps0 k e hreach hsucc).2 _ (Nat.le_refl _)
  have hph : phaseResult (oracleCtx (sc.oracleFor .BASE none none)) tc e0 = .ok e := by
    unfold phaseResult
    rw [hrun]
    cases f <;> simp [runOps, hpc, hce]
  have hbase := phase_base (oracleCtx (sc.oracleFor .BASE none none)) tc (specCfg sc flags .BASE none none) e0 []
    (Or.inl rfl) ht0 (checkerAgrees_oracle sc flags .BASE none none e0.see (by rw [← he0]; rfl))
    (by rw [← he0]; rfl) (by rw [← he0]; rfl) (by rw [← he0]; rfl) (by rw [← he0]; rfl) (by rw [← he0]; rfl)
    (by rw [hpc0]; exact hlen)
  rw [hph, hpc0] at hbase
  cases hres : (Spec.evalScript (specCfg sc flags .BASE none none) sig { stack := [] }).result with
  | error y => rw [hres] at hbase; exact hbase.elim
  | ok s1 =>
    rw [hres] at hbase
    obtain ⟨hst, _⟩ := hbase
    rw [hst] at hr
    cases hs1 : s1.stack with
    | nil => rw [hs1] at hr; simp at hr
    | cons top rest =>
      rw [hs1] at hr
      simp at hr
      subst hr
      exact hspec s1 top rest hres hs1

include hp hinp hspent hcoh in
/-- **(b) P2SH, transaction checker.**  Additional hypothesis: the redeem script decodes (`RedeemDecodes`). -/
theorem C03_p2sh_tx
    (hw : inp.witness = [])
    (hP : hasFlag flags Flag.P2SH = true) (hpat : Spec.isP2SH spent.scriptPubKey = true)
    (hnw : hasFlag flags Flag.WITNESS = false ∨
      ∀ s1 redeem rest, Spec.runScript (Spec.spendCtx p tx idx amount spentList) flags .BASE none none inp.scriptSig {} = .ok s1 →
        s1.stack = redeem :: rest → Spec.witnessProgram redeem = none)
    (hdef : NoUndefinedOpcode inp.scriptSig)
    (hred : ∀ e0, setupEnvironment [] inp.scriptSig flags .BASE spent.scriptPubKey false {} none [] [] = .ok e0 →
      RedeemDecodes (oracleCtx ((Spec.spendCtx p tx idx amount spentList).oracleFor .BASE none none)) tc e0) :
    Agrees h tc (txCheckerWith cr base tx idx amount txdata) flags tx txin idx vout sv0 sessionFuel
      (Spec.verifyScript (Spec.spendCtx p tx idx amount spentList) flags inp.scriptSig spent.scriptPubKey inp.witness) := by
  refine base_transfer h tc flags tx txin idx vout sv0 inp spent hinp hspent hw (fun hvo e0 hs n _ => congrArg _ ?_)
    (p2sh_agrees h tc _ (Spec.spendCtx p tx idx amount spentList) flags tx txin idx vout sv0 inp spent
      hinp hspent hw (checkerAgrees_oracle _ flags .BASE none none) hP hpat hnw hdef)
  have hr := hred e0 hs
  obtain ⟨hh, hform, hhl⟩ := isP2SH_form _ hpat
  refine session_congr_visited _ _ tc .BASE (edStatic ({} : ExecData))
    (sameOn_spend cr base p hp tx idx amount txdata spentList .BASE none none {} (List.getElem?_eq_some_iff.mp hinp).1 hcoh (fun hh => by cases hh)) _ ?_ ?_ n
  · exact sessInv_setup hs (by decide) (parses_of_hasValidOps _ hvo) (by rw [hform]; exact parses_p2sh hh hhl)
      (fun t ht => by cases ht) (fun _ r hr => by cases hr)
  · intro k e he h1 h2 h3 h4 h5 h6 r hr'
    obtain ⟨a, b⟩ := hr k e he h1 h2 h3 h4 h5 h6 r hr'
    exact ⟨(parses_iff_decode _).mpr a, b⟩

include hp hinp hspent hcoh in
/-- **(b) P2SH, transaction checker**, with the condition on the redeem script stated on the specification's side: the
    element that the scriptSig leaves on top of the stack (the redeem script) decodes -/
theorem C03_p2sh_tx_spec
    (hw : inp.witness = [])
    (hP : hasFlag flags Flag.P2SH = true) (hpat : Spec.isP2SH spent.scriptPubKey = true)
    (hnw : hasFlag flags Flag.WITNESS = false ∨
      ∀ s1 redeem rest, Spec.runScript (Spec.spendCtx p tx idx amount spentList) flags .BASE none none inp.scriptSig {} = .ok s1 →
        s1.stack = redeem :: rest → Spec.witnessProgram redeem = none)
    (hdef : NoUndefinedOpcode inp.scriptSig)
    (hredeem : ∀ s1 redeem rest,
      Spec.runScript (Spec.spendCtx p tx idx amount spentList) flags .BASE none none inp.scriptSig {} = .ok s1 →
        s1.stack = redeem :: rest → Spec.decode redeem ≠ none ∧ redeem.length < 2 ^ 32) :
    Agrees h tc (txCheckerWith cr base tx idx amount txdata) flags tx txin idx vout sv0 sessionFuel
      (Spec.verifyScript (Spec.spendCtx p tx idx amount spentList) flags inp.scriptSig spent.scriptPubKey inp.witness) := by
  refine C03_p2sh_tx cr base p hp h tc flags tx txin idx vout sv0 amount txdata spentList inp spent hinp hspent hcoh
    hw hP hpat hnw hdef ?_
  intro e0 hs
  obtain ⟨hsz, -, -, rfl⟩ := setup_ok hs
  refine redeemDecodes_of_spec tc flags _ _ _ ?_ hredeem
  -- `setup_environment` accepted the scriptSig: it has at most `MAX_SCRIPT_SIZE` bytes
  have h10k : Gen.MAX_SCRIPT_SIZE = 10000 := Tables.max_script_size
  have : (SigVersion.BASE != SigVersion.TAPSCRIPT) = true := by decide
  simp only [this, Bool.true_and, decide_eq_false_iff_not, h10k] at hsz
  show _ ≤ 10000
  omega

include hp hinp hspent hcoh in
/-- **C03, verdict, for the transaction checker.**  `C03_verdict` without the hypothesis `CheckerAgrees`: for every spend of
    one of the output types of the property (`Shape`, all exclusions of C03 unchanged), the session whose checker is the
    model of `TransactionSignatureChecker(tx, idx, amount, txdata, FAIL)` is refused only if validation
    (`Spec.verifyScript` with the BIP oracle `Spec.spendCtx p tx idx amount spentList`) rejects the input, and otherwise is
    valid exactly when validation accepts.
    Needed of the checker: `Coherent` data; for taproot outputs `TxReady`.  Still conditional (`hredeem`): for P2SH, the
    redeem script — what the scriptSig leaves on top of the stack — decodes (and is below 2^32 bytes). -/
theorem C03_verdict_tx
    (hshape : Shape (Spec.spendCtx p tx idx amount spentList) flags inp.scriptSig spent.scriptPubKey inp.witness)
    (hP : hasFlag flags Flag.P2SH = true) (hW : hasFlag flags Flag.WITNESS = true) (hT : hasFlag flags Flag.TAPROOT = true)
    (hsha : ∀ b, h.sha256 b = p.sha256 b) (hh160 : ∀ b, h.hash160 b = p.ripemd160 (p.sha256 b))
    (htap : C05.Agree tc p.tap)
    (hredeem : inp.witness = [] → Spec.isP2SH spent.scriptPubKey = true → ∀ s1 redeem rest,
      Spec.runScript (Spec.spendCtx p tx idx amount spentList) flags .BASE none none inp.scriptSig {} = .ok s1 →
        s1.stack = redeem :: rest → Spec.decode redeem ≠ none ∧ redeem.length < 2 ^ 32)
    (hready : (∃ prog, spent.scriptPubKey = 0x51 :: 0x20 :: prog ∧ prog.length = 32) → inp.witness ≠ [] → TxReady txdata spentList) :
    Agrees h tc (txCheckerWith cr base tx idx amount txdata) flags tx txin idx vout sv0 sessionFuel
      (Spec.verifyScript (Spec.spendCtx p tx idx amount spentList) flags inp.scriptSig spent.scriptPubKey inp.witness) := by
  have hmono : ∀ e, continueFuel e ≤ sessionFuel e := fun e => by unfold sessionFuel; omega
  have hsha' : ∀ b, h.sha256 b = cr.sha256 b := fun b => by rw [hsha, hp.sha256]
  cases hshape with
  | legacy a1 a2 a4 a5 a6 =>
    exact C03_legacy_tx cr base p hp h tc flags tx txin idx vout sv0 amount txdata spentList inp spent hinp hspent hcoh
      a1 a2 (Or.inl a4) a5 a6
  | p2sh a1 a2 a3 a4 =>
    exact C03_p2sh_tx_spec cr base p hp h tc flags tx txin idx vout sv0 amount txdata spentList inp spent hinp hspent hcoh
      a1 hP a2 (Or.inr a3) a4 (hredeem a1 a2)
  | witness_not_p2sh a1 a2 a3 =>
    exact C03_witness_not_p2sh h tc _ _ flags tx txin idx vout sv0 inp spent sessionFuel hinp hspent a1 a2 a3 hW
  | p2wpkh prog wlast a1 a2 a3 a4 a5 =>
    exact agreesC_mono hmono (C03_p2wpkh_tx cr base p hp h tc flags tx txin idx vout sv0 amount txdata spentList inp spent
      hinp hspent hcoh prog wlast a1 a2 a3 a4 hh160 hW a5)
  | p2wsh prog wlast a1 a2 a3 a4 a5 a6 =>
    exact agreesC_mono hmono (C03_p2wsh_tx cr base p hp h tc flags tx txin idx vout sv0 amount txdata spentList inp spent
      hinp hspent hcoh prog wlast a1 a2 a3 a4 hsha hW a5 a6)
  | p2sh_p2wpkh prog hh wlast a1 a2 a3 a4 a5 a6 =>
    exact agreesC_mono hmono (C03_p2sh_p2wpkh_tx cr base p hp h tc flags tx txin idx vout sv0 amount txdata spentList inp spent
      hinp hspent hcoh prog hh wlast a1 a2 a3 a4 a5 hh160 hP hW a6)
  | p2sh_p2wsh prog hh wlast a1 a2 a3 a4 a5 a6 a7 =>
    exact agreesC_mono hmono (C03_p2sh_p2wsh_tx cr base p hp h tc flags tx txin idx vout sv0 amount txdata spentList inp spent
      hinp hspent hcoh prog hh wlast a1 a2 a3 a4 a5 hsha hh160 hP hW a6 a7)
  | keypath prog wlast sg a1 a2 a3 a4 a5 a6 =>
    exact agreesC_mono hmono (C03_keypath_tx cr base p hp h tc flags tx txin idx vout sv0 amount txdata spentList inp spent
      hinp hspent hcoh prog wlast sg a1 a2 a3 a4 a5 hsha' (hready ⟨prog, a2, a3⟩ (by intro hn; rw [hn] at a4; cases a4)) hW hT a6)
  | tapscript prog wlast control leafScript stack a1 a2 a3 a4 a5 a6 a7 a8 a9 a10 a11 =>
    exact agreesC_mono hmono (C03_tapscript_tx cr base p hp h tc flags tx txin idx vout sv0 amount txdata spentList inp spent
      hinp hspent hcoh prog wlast control leafScript stack a1 a2 a3 a4 a5 a6 a7 htap hsha' (hready ⟨prog, a2, a3⟩ (by intro hn; rw [hn] at a4; cases a4)) hW hT a8 a9 a10 a11)

end Tx

/-- for a single-input transaction, the checker that `Glue.checkerBuilder` builds from `init = some ([spent output], force)`
    (what `spendSetup` passes for one input) is the transaction checker with coherent data, and the data are READY and hold
    that spent output when `force` is set or the input carries a witness and spends a taproot-looking output -/
theorem checkerBuilder_single (tx : Tx) (i : TxIn) (o : TxOut) (nIn : Nat) (amount : Int) (force : Bool) (hv : tx.vin = [i]) :
    ∃ d, Glue.checkerBuilder.build tx nIn amount (some ([o], force)) = txCheckerWith stdCrypto stdBaseCtx tx nIn amount d
      ∧ Coherent stdCrypto tx d ∧ ((force = true ∨ (i.witness ≠ [] ∧ looksTaproot o = true)) → TxReady d [o]) := by
  obtain ⟨d, hd⟩ := (precomputeInit_ok stdCrypto tx [o] force).mpr (Or.inr (by simp [hv]))
  refine ⟨d, ?_, precomputeInit_coherent stdCrypto tx [o] force d hd, ?_⟩
  · simp only [Glue.checkerBuilder, hd]; rfl
  · intro hr
    obtain ⟨d', hd', h1, h2, h3, _⟩ := precomputeInit_single_input_ready stdCrypto tx i o force hv hr
    rw [hd] at hd'
    cases hd'
    exact ⟨h1, h2, h3⟩

/-- **C03, verdict, for the checker of a real session** (`btcdeb --tx=.. --txin=..`).  `spendSetup` builds the checker with
    `init = if tx.vin.length == 1 then some ([spent output], hasPreamble) else none` and the spent amount.
    For every output type but taproot nothing more is needed; taproot outputs need the transaction to have ONE input
    (`hone`; otherwise `Instance::txdata` is never initialised: F-C03-multi-input-taproot).
    The specification is given the spent output as the list of spent outputs. -/
theorem C03_verdict_session (h : HashCtx) (tc : TapCtx) (flags : Nat) (tx txin : Tx) (idx vout : Nat) (sv0 : SigVersion)
    (inp : TxIn) (spent : TxOut) (force : Bool)
    (hinp : tx.vin[idx]? = some inp) (hspent : txin.vout[vout]? = some spent)
    (hshape : Shape (Spec.spendCtx stdPrims tx idx spent.value [spent]) flags inp.scriptSig spent.scriptPubKey inp.witness)
    (hP : hasFlag flags Flag.P2SH = true) (hW : hasFlag flags Flag.WITNESS = true) (hT : hasFlag flags Flag.TAPROOT = true)
    (hsha : ∀ b, h.sha256 b = Crypto.sha256 b) (hh160 : ∀ b, h.hash160 b = Crypto.ripemd160 (Crypto.sha256 b))
    (htap : C05.Agree tc Glue.tapOracle)
    (hredeem : inp.witness = [] → Spec.isP2SH spent.scriptPubKey = true → ∀ s1 redeem rest,
      Spec.runScript (Spec.spendCtx stdPrims tx idx spent.value [spent]) flags .BASE none none inp.scriptSig {} = .ok s1 →
        s1.stack = redeem :: rest → Spec.decode redeem ≠ none ∧ redeem.length < 2 ^ 32)
    (hone : (∃ prog, spent.scriptPubKey = 0x51 :: 0x20 :: prog) → tx.vin.length = 1) :
    Agrees h tc (Glue.checkerBuilder.build tx idx spent.value (if tx.vin.length == 1 then some ([spent], force) else none))
      flags tx txin idx vout sv0 sessionFuel
      (Spec.verifyScript (Spec.spendCtx stdPrims tx idx spent.value [spent]) flags inp.scriptSig spent.scriptPubKey inp.witness) := by
  by_cases h1 : tx.vin.length = 1
  · -- one input: `Init` was called with the spent output
    have hb : (tx.vin.length == 1) = true := by simp [h1]
    rw [hb, if_pos rfl]
    obtain ⟨i, hv⟩ : ∃ i, tx.vin = [i] := by
      match hvin : tx.vin, h1 with
      | [i], _ => exact ⟨i, rfl⟩
    have hidx : idx = 0 := by have := (List.getElem?_eq_some_iff.mp hinp).1; omega
    have hi : i = inp := by
      rw [hv, hidx] at hinp; simpa using hinp
    obtain ⟨d, hd, hcoh, hready⟩ := checkerBuilder_single tx i spent idx spent.value force hv
    rw [hd]
    refine C03_verdict_tx stdCrypto stdBaseCtx stdPrims stdPrims_match h tc flags tx txin idx vout sv0 spent.value d [spent] inp spent
      hinp hspent hcoh hshape hP hW hT hsha hh160 htap hredeem ?_
    rintro ⟨prog, hprog, hpl⟩ hwne
    exact hready (Or.inr ⟨by rw [hi]; exact hwne, TapSpend.M.looksTaproot_p2tr spent prog hprog hpl⟩)
  · -- several inputs: `Instance::txdata` stays `PrecomputedTransactionData()`
    have hb : (tx.vin.length == 1) = false := by simp [h1]
    rw [hb]
    simp only [Bool.false_eq_true, if_false]
    have hd : Glue.checkerBuilder.build tx idx spent.value none = txCheckerWith stdCrypto stdBaseCtx tx idx spent.value {} := rfl
    rw [hd]
    refine C03_verdict_tx stdCrypto stdBaseCtx stdPrims stdPrims_match h tc flags tx txin idx vout sv0 spent.value {} [spent] inp spent
      hinp hspent (coherent_default _ _) hshape hP hW hT hsha hh160 htap hredeem ?_
    rintro ⟨prog, hprog, _⟩ _
    exact absurd (hone ⟨prog, hprog⟩) h1

section ExamplesTx

/-- a crypto instance / base checker sharing the toy hash of C03's examples; signatures never verify -/
def toyCr : SigCrypto := { sha256 := toyHash 32, ecdsaVerify := fun _ _ _ => false, schnorrVerify := fun _ _ _ => false }
def toyPrims : Spec.Prims := primsOf toyCr toyCx { taggedHash := fun _ m => m, tweakCheck := fun _ _ _ _ => false }
theorem toyPrims_match : PrimsMatch toyPrims toyCr toyCx := primsMatch_primsOf _ _ _ rfl

/-- (c) for the transaction checker: the P2WSH spend of C03's example (witness script `<07> OP_EQUAL`, witness `[07, script]`),
    checker `TransactionSignatureChecker(tx, 0, 1000, PrecomputedTransactionData())` -/
example : Agrees toyH toyTc
    (txCheckerWith toyCr toyCx (spendTx (fundTx (0x00 :: 0x20 :: toyHash 32 [0x01, 0x07, 0x87])) [] [[0x07], [0x01, 0x07, 0x87]]) 0 1000 {})
    2048
    (spendTx (fundTx (0x00 :: 0x20 :: toyHash 32 [0x01, 0x07, 0x87])) [] [[0x07], [0x01, 0x07, 0x87]])
    (fundTx (0x00 :: 0x20 :: toyHash 32 [0x01, 0x07, 0x87])) 0 0 .WITNESS_V0 continueFuel
    (Spec.verifyScript (Spec.spendCtx toyPrims
        (spendTx (fundTx (0x00 :: 0x20 :: toyHash 32 [0x01, 0x07, 0x87])) [] [[0x07], [0x01, 0x07, 0x87]]) 0 1000 [])
      2048 [] (0x00 :: 0x20 :: toyHash 32 [0x01, 0x07, 0x87]) [[0x07], [0x01, 0x07, 0x87]]) :=
  C03_p2wsh_tx toyCr toyCx toyPrims toyPrims_match toyH toyTc 2048 _ _ 0 0 .WITNESS_V0 1000 {} []
    (spendIn (fundTx (0x00 :: 0x20 :: toyHash 32 [0x01, 0x07, 0x87])) [] [[0x07], [0x01, 0x07, 0x87]])
    { value := 1000, scriptPubKey := 0x00 :: 0x20 :: toyHash 32 [0x01, 0x07, 0x87] }
    rfl rfl (coherent_default _ _)
    (toyHash 32 [0x01, 0x07, 0x87]) [0x01, 0x07, 0x87]
    rfl rfl (by decide) rfl (fun _ => rfl) (by decide) (by decide)
    (by unfold NoUndefinedOpcode; decide)

/-- `TxReady` is what `Init` establishes for a one-input taproot spend (here through `Glue.checkerBuilder`) -/
example : ∃ d, Glue.checkerBuilder.build
      (spendTx (fundTx (0x51 :: 0x20 :: List.replicate 32 9)) [] [[0x07]]) 0 1000
      (some ([{ value := 1000, scriptPubKey := 0x51 :: 0x20 :: List.replicate 32 9 }], true)) =
      txCheckerWith stdCrypto stdBaseCtx (spendTx (fundTx (0x51 :: 0x20 :: List.replicate 32 9)) [] [[0x07]]) 0 1000 d
    ∧ TxReady d [{ value := 1000, scriptPubKey := 0x51 :: 0x20 :: List.replicate 32 9 }] := by
  obtain ⟨d, h1, _, h3⟩ := checkerBuilder_single (spendTx (fundTx (0x51 :: 0x20 :: List.replicate 32 9)) [] [[0x07]])
    (spendIn (fundTx (0x51 :: 0x20 :: List.replicate 32 9)) [] [[0x07]])
    { value := 1000, scriptPubKey := 0x51 :: 0x20 :: List.replicate 32 9 } 0 1000 true rfl
  exact ⟨d, h1, h3 (Or.inl rfl)⟩

end ExamplesTx

end Btcdeb.Proofs.C03
