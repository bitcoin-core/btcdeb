/-
  C04 — rewind exactly undoes steps.
  For every script, signature checker and history over {step, rewind} in which no step fails (unbounded length), the
  state reached is exactly — as a whole record: stack, alt stack, condition stack, code-separator position and
  script code start, execution data (signature budget), operation count, opcode position, position, sequence
  number, done flag, the history vectors themselves — the state of a fresh session advanced by the net number of
  accepted steps (`C04_rewind_exact`).  The hypotheses `e0.Inv` (Lemmas/Session.lean) and `atStart e0` hold of every
  session that `setup_environment` produces (`setup_starts_fresh`).
  The file also defines what the property speaks of: the two debugger commands (`Cmd`, `execCmd`: `fn_step` /
  `fn_rewind` over `stepSession` / `instRewind`), histories of them (`execHist`) and `advance`, `k` successful steps.
-/
import Btcdeb
import BtcdebProofs.Lemmas.Session
namespace Btcdeb.Proofs.C04
open Btcdeb Btcdeb.Model

inductive Cmd where
  | step | rewind
deriving Repr, DecidableEq

/-- one debugger command (`fn_step` / `fn_rewind`): new state and change of the net step count;
    `none` = the step failed (such histories are outside the property) -/
def execCmd (cx : Ctx) (tc : TapCtx) (e : IEnv) : Cmd → Option (IEnv × Int)
  | .step =>
    if e.done then some (e, 0)                    -- "at end of script": refused, nothing changes
    else match stepSession cx tc e with
      | .ok e' => some (e', 1)
      | .error _ => none
  | .rewind =>
    match instRewind e with
    | some e' => some (e', -1)
    | none => some (e, 0)                         -- refused, nothing changes

def execHist (cx : Ctx) (tc : TapCtx) : List Cmd → IEnv × Int → Option (IEnv × Int)
  | [], s => some s
  | c :: cs, (e, n) =>
    match execCmd cx tc e c with
    | some (e', d) => execHist cx tc cs (e', n + d)
    | none => none

def advance (cx : Ctx) (tc : TapCtx) (e0 : IEnv) : Nat → Option IEnv
  | 0 => some e0
  | k + 1 => match advance cx tc e0 k with
    | some e => if e.done then none else
        match stepSession cx tc e with
        | .ok e' => some e'
        | .error _ => none
    | none => none

theorem advance_succ_iff {cx : Ctx} {tc : TapCtx} {e0 e : IEnv} {k : Nat} :
    advance cx tc e0 (k + 1) = some e ↔
      ∃ ep, advance cx tc e0 k = some ep ∧ ep.done = false ∧ stepSession cx tc ep = .ok e := by
  rw [advance]
  cases advance cx tc e0 k with
  | none => simp
  | some ep => cases hd : ep.done <;> cases hs : stepSession cx tc ep <;> simp [hd, hs]

theorem advance_succ_left_iff {cx : Ctx} {tc : TapCtx} {e e' : IEnv} {k : Nat} :
    advance cx tc e (k + 1) = some e' ↔
      e.done = false ∧ ∃ e1, stepSession cx tc e = .ok e1 ∧ advance cx tc e1 k = some e' := by
  induction k generalizing e' with
  | zero => simp only [advance]; cases e.done <;> cases stepSession cx tc e <;> simp
  | succ k ih =>
    rw [advance_succ_iff]
    simp only [ih, advance_succ_iff]
    constructor
    · rintro ⟨ep, ⟨hd, e1, hs, hk⟩, hp⟩; exact ⟨hd, e1, hs, ep, hk, hp⟩
    · rintro ⟨hd, e1, hs, ep, hk, hp⟩; exact ⟨ep, ⟨hd, e1, hs, hk⟩, hp⟩

theorem advance_induction (cx : Ctx) (tc : TapCtx) (e0 : IEnv) {P : Nat → IEnv → Prop} (h0 : P 0 e0)
    (hstep : ∀ j ep e, advance cx tc e0 j = some ep → ep.done = false → P j ep → stepSession cx tc ep = .ok e → P (j + 1) e) :
    ∀ k e, advance cx tc e0 k = some e → P k e := by
  intro k
  induction k with
  | zero => intro e h; cases h; exact h0
  | succ k ih =>
    intro e h
    obtain ⟨ep, hk, hd, hs⟩ := advance_succ_iff.mp h
    exact hstep k ep e hk hd (ih ep hk) hs

/-- a rewind that cannot be performed is refused and changes nothing -/
theorem rewind_refused_id (cx : Ctx) (tc : TapCtx) (e : IEnv) (h : instRewind e = none) :
    execCmd cx tc e .rewind = some (e, 0) := by
  simp [execCmd, h]

theorem rewind_reachable (cx : Ctx) (tc : TapCtx) (e0 : IEnv) (hinv : e0.Inv) (hstart : atStart e0 = true) :
    ∀ k e, advance cx tc e0 k = some e →
      e.Inv ∧
      ((atStart e = true ∧ instRewind e = none) ∨
       (∃ j ep, k = j + 1 ∧ advance cx tc e0 j = some ep ∧ instRewind e = some ep)) :=
  advance_induction cx tc e0 ⟨hinv, .inl ⟨hstart, instRewind_of_atStart hstart⟩⟩ fun j ep e hk hd hp hs =>
    have h := stepSession_rewind cx tc ep e hp.1 hd hs
    ⟨h.1, h.2.imp id fun h2 => ⟨j, ep, rfl, hk, h2⟩⟩

/-- an accepted rewind happens exactly when at least one operation of the current script phase has
    been executed and not yet undone (so the main theorem cannot be satisfied by refusing everything) -/
theorem rewind_accepted_iff (cx : Ctx) (tc : TapCtx) (e0 : IEnv) (hinv : e0.Inv) (hstart : atStart e0 = true)
    (k : Nat) (e : IEnv) (h : advance cx tc e0 k = some e) :
    (instRewind e).isSome = true ↔ atStart e = false := by
  rcases (rewind_reachable cx tc e0 hinv hstart k e h).2 with ⟨h1, h2⟩ | ⟨j, ep, _, _, h3⟩
  · simp [h1, h2]
  · simp only [h3, Option.isSome_some, true_iff]
    cases hat : atStart e
    · rfl
    · rw [instRewind_of_atStart hat] at h3; cases h3

theorem execHist_induction {cx : Ctx} {tc : TapCtx} (P : IEnv → Int → Prop)
    (hc : ∀ e n c e' d, P e n → execCmd cx tc e c = some (e', d) → P e' (n + d)) :
    ∀ (cmds : List Cmd) (e1 : IEnv) (n1 : Int) (e : IEnv) (n : Int), P e1 n1 →
      execHist cx tc cmds (e1, n1) = some (e, n) → P e n := by
  intro cmds
  induction cmds with
  | nil => intro e1 n1 e n h1 h; cases h; exact h1
  | cons c cs ih =>
    intro e1 n1 e n h1 h
    rw [execHist] at h
    rcases hcmd : execCmd cx tc e1 c with _ | ⟨e2, d⟩ <;> rw [hcmd] at h
    · cases h
    · exact ih e2 (n1 + d) e n (hc _ _ _ _ _ h1 hcmd) h

theorem execHist_append (cx : Ctx) (tc : TapCtx) (a b : List Cmd) (s : IEnv × Int) :
    execHist cx tc (a ++ b) s = (execHist cx tc a s).bind (execHist cx tc b) := by
  induction a generalizing s with
  | nil => simp [execHist]
  | cons c cs ih =>
    obtain ⟨e, n⟩ := s
    simp only [List.cons_append, execHist]
    cases execCmd cx tc e c with
    | none => rfl
    | some p => obtain ⟨e', d⟩ := p; exact ih _

theorem execCmd_cases {cx : Ctx} {tc : TapCtx} {e e' : IEnv} {c : Cmd} {d : Int} (h : execCmd cx tc e c = some (e', d)) :
    (e' = e ∧ d = 0) ∨ (e.done = false ∧ stepSession cx tc e = .ok e' ∧ d = 1) ∨ (instRewind e = some e' ∧ d = -1) := by
  cases c with
  | step =>
    rw [execCmd] at h
    by_cases hd : e.done = true
    · rw [if_pos hd] at h; cases h; exact .inl ⟨rfl, rfl⟩
    · rw [if_neg hd] at h
      rcases hs : stepSession cx tc e with _ | e2 <;> rw [hs] at h <;> cases h
      exact .inr (.inl ⟨by simpa using hd, rfl, rfl⟩)
  | rewind =>
    rw [execCmd] at h
    rcases hr : instRewind e with _ | e2 <;> rw [hr] at h <;> cases h
    · exact .inl ⟨rfl, rfl⟩
    · exact .inr (.inr ⟨rfl, rfl⟩)

/-- one command keeps "the state is the fresh session advanced by the net number of accepted steps": a refused command
    changes neither, a step adds one, and an accepted rewind returns the state one step back (`rewind_reachable`) -/
theorem execCmd_advance (cx : Ctx) (tc : TapCtx) (e0 : IEnv) (hinv : e0.Inv) (hstart : atStart e0 = true)
    (e1 : IEnv) (n1 : Int) (c : Cmd) (e' : IEnv) (d : Int)
    (h1 : 0 ≤ n1 ∧ advance cx tc e0 n1.toNat = some e1) (hc : execCmd cx tc e1 c = some (e', d)) :
    0 ≤ n1 + d ∧ advance cx tc e0 (n1 + d).toNat = some e' := by
  obtain ⟨h0, ha⟩ := h1
  rcases execCmd_cases hc with ⟨rfl, rfl⟩ | ⟨hd, hs, rfl⟩ | ⟨hr, rfl⟩
  · exact ⟨by omega, by simpa using ha⟩
  · refine ⟨by omega, ?_⟩
    rw [show (n1 + 1).toNat = n1.toNat + 1 by omega]
    exact advance_succ_iff.mpr ⟨e1, ha, hd, hs⟩
  · rcases (rewind_reachable cx tc e0 hinv hstart n1.toNat e1 ha).2 with ⟨_, h2⟩ | ⟨j, ep, hj, hadv, h3⟩
    · rw [h2] at hr; cases hr
    · cases h3.symm.trans hr
      exact ⟨by omega, by rw [show (n1 + -1).toNat = j by omega]; exact hadv⟩

/-- For every history in which no step fails, the state reached equals the state of a
    fresh session advanced by the net number of accepted steps (and that number is never negative). -/
theorem C04_rewind_exact (cx : Ctx) (tc : TapCtx) (e0 : IEnv) (hinv : e0.Inv) (hstart : atStart e0 = true)
    (cmds : List Cmd) (e : IEnv) (n : Int) (h : execHist cx tc cmds (e0, 0) = some (e, n)) :
    0 ≤ n ∧ advance cx tc e0 n.toNat = some e :=
  execHist_induction (fun e n => 0 ≤ n ∧ advance cx tc e0 n.toNat = some e)
    (execCmd_advance cx tc e0 hinv hstart) cmds e0 0 e n ⟨Int.le_refl 0, rfl⟩ h

/-- `C04_rewind_exact` once more, spelt out for one observable: the state reached IS the advanced fresh session, so
    continuing to the end from either gives the same (the second conjunct holds by `rfl`) -/
theorem C04_continue_equal (cx : Ctx) (tc : TapCtx) (e0 : IEnv) (hinv : e0.Inv) (hstart : atStart e0 = true)
    (cmds : List Cmd) (e : IEnv) (n : Int) (h : execHist cx tc cmds (e0, 0) = some (e, n)) (fuel : Nat) :
    ∃ e', advance cx tc e0 n.toNat = some e' ∧ continueScript cx tc fuel e = continueScript cx tc fuel e' := by
  obtain ⟨_, ha⟩ := C04_rewind_exact cx tc e0 hinv hstart cmds e n h
  exact ⟨e, ha, rfl⟩

theorem setup_starts_fresh (stack : List Bytes) (script : Bytes) (flags : Nat) (sv : SigVersion) (succ : Bytes)
    (z : Bool) (ed : ExecData) (tce : Option Tce) (pm : List (Bytes × Bytes)) (pk : List Bytes) (e0 : IEnv)
    (h : setupEnvironment stack script flags sv succ z ed tce pm pk = .ok e0) :
    e0.Inv ∧ atStart e0 = true := by
  obtain ⟨_, _, _, rfl⟩ := Refine.setupEnvironment_ok h
  exact IEnv.Inv.of_start rfl

def exCx : Ctx :=
  { sha256 := id, ripemd160 := id, sha1 := id, checkLowS := fun _ => true, checkLockTime := fun _ => false,
    checkSequence := fun _ => false, checkECDSA := fun _ _ _ _ => false, checkSchnorr := fun _ _ _ _ => .ok () }
def exTc : TapCtx := { taggedHash := fun _ b => b, checkTapTweak := fun _ _ _ _ => false }

/-- the example session `[OP_1 OP_IF OP_2 OP_ENDIF]` and what a history leaves: (net, conditional depth, stack) -/
def exRun (cmds : List Cmd) : Option (Int × Nat × List Bytes) :=
  match setupEnvironment [] [0x51, 0x63, 0x52, 0x68] 0 .BASE [] false {} none [] [] with
  | .ok e0 => (execHist exCx exTc cmds (e0, 0)).map (fun r => (r.2, r.1.see.cond.size, r.1.see.stack))
  | .error _ => none

/-- non-vacuity: step·step·rewind ends in the state after one step, with the conditional closed again (the configuration
    in which the condition stack was not restored before /repo's fix of `RewindScript`), and the hypotheses of the main
    theorem are met -/
example : exRun [.step, .step, .rewind] = some (1, 0, [[1]]) ∧ exRun [.step, .step] = some (2, 1, []) ∧
    exRun [.step, .step, .step, .step, .step, .rewind, .rewind] = some (3, 1, [[2]]) := by
  decide +kernel

end Btcdeb.Proofs.C04
