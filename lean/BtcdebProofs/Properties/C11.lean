/-
  C11 — mock signatures (`--pretend-valid=S:P,...`) affect exactly the listed signature/key pairs.

  Model side (`Model.evalChecksig`, `Model.multisigLoop`, `Model.execOpcode`):
    * a listed pair is accepted by every signature opcode, for every checker, flag set and signature version;
    * another signature offered for a listed key is never accepted on the strength of the option;
    * a key that is not listed is checked exactly as without the option.
  Specification side (`Spec.execOp`, `Spec.evalInstrs`, `Spec.evalScript`): a run in which every executed
  signature opcode examines only unlisted keys is identical with and without the option.  This is a statement about the
  specification only; what it says of a btcdeb session follows through the refinement theorem `C01_trace` (C01.lean);
  of its `CfgRel` hypothesis the two clauses about the option hold for what the option parser builds
  (`C11_text_CfgRel_clauses`).
  Parsing (`Model.parsePretendValidExpr` vs `Spec.pretendPairs`): malformed lists are rejected identically and
  the tables built for every well-formed list satisfy the two `CfgRel` clauses: the key table holds exactly the
  listed keys, the pair table (a `std::set` of (signature, key) pairs) exactly the listed pairs — also when one
  signature is listed for several keys, one key with several signatures, or a pair several times.
  The `C11_text_*` theorems join the two: from the option TEXT to the behaviour of the signature opcodes.
-/
import Btcdeb
import BtcdebProofs.Refine.Basic
import BtcdebProofs.Lemmas.Pretend
import BtcdebProofs.Lemmas.Except
namespace Btcdeb.Proofs.C11
open Btcdeb Btcdeb.Model Btcdeb.Refine

/-- `EvalChecksig` on a listed pair succeeds at once and leaves the execution data alone — whatever the
    checker `cx` (transaction context), the flags and the signature version of `e` are; neither the encoding
    checks nor the checker are consulted (the right-hand side mentions none of them) -/
theorem C11_listed_accepted_checksig (cx : Ctx) (e : SEE) (sig key : Bytes)
    (hk : e.pretendKeys.contains key = true) (hp : pretendHas e.pretendMap sig key = true) :
    evalChecksig cx e sig key = pure (true, e.execdata) := by
  unfold evalChecksig
  rw [hk, hp]
  simp

/-- OP_CHECKSIG with a listed pair on top of the stack pushes `true` (then the generic stack-size check) -/
theorem C11_listed_OP_CHECKSIG (cx : Ctx) (e : SEE) (s : List Bytes) (sig key : Bytes) (fExec : Bool) (pc : Bytes)
    (hs : e.stack = s ++ [sig, key])
    (hk : e.pretendKeys.contains key = true) (hp : pretendHas e.pretendMap sig key = true) :
    execOpcode cx e .OP_CHECKSIG fExec pc = sizeCheck { e with stack := s ++ [vchTrue] } := by
  unfold execOpcode
  have hlen : ¬ (s.length + 2 < 2) := by omega
  simp [hs, hlen, C11_listed_accepted_checksig cx e sig key hk hp]

/-- OP_CHECKSIGVERIFY with a listed pair on top of the stack continues with both items removed -/
theorem C11_listed_OP_CHECKSIGVERIFY (cx : Ctx) (e : SEE) (s : List Bytes) (sig key : Bytes) (fExec : Bool) (pc : Bytes)
    (hs : e.stack = s ++ [sig, key])
    (hk : e.pretendKeys.contains key = true) (hp : pretendHas e.pretendMap sig key = true) :
    execOpcode cx e .OP_CHECKSIGVERIFY fExec pc = sizeCheck { e with stack := s } := by
  unfold execOpcode
  have hlen : ¬ (s.length + 2 < 2) := by omega
  simp [hs, hlen, C11_listed_accepted_checksig cx e sig key hk hp]

/-- OP_CHECKSIGADD (tapscript) with a listed pair: the counter `n` is replaced by `n + 1` -/
theorem C11_listed_OP_CHECKSIGADD (cx : Ctx) (e : SEE) (s : List Bytes) (sig nb key : Bytes) (n : Int)
    (fExec : Bool) (pc : Bytes)
    (hsv : e.sigversion ≠ .BASE ∧ e.sigversion ≠ .WITNESS_V0)
    (hs : e.stack = s ++ [sig, nb, key]) (hn : num nb e.requireMinimal = .ok n)
    (hk : e.pretendKeys.contains key = true) (hp : pretendHas e.pretendMap sig key = true) :
    execOpcode cx e .OP_CHECKSIGADD fExec pc = sizeCheck { e with stack := s ++ [serialize (n + 1)] } := by
  unfold execOpcode
  have hlen : ¬ (s.length + 3 < 3) := by omega
  simp [hs, hlen, hsv.1, hsv.2, hn, C11_listed_accepted_checksig cx e sig key hk hp, boolNum]

/-- one turn of the CHECKMULTISIG loop whose current pair is listed: the pair is consumed — signature index and
    key index both advance, one signature fewer remains — and nothing else happens: the right-hand side contains
    no encoding check and no call of the checker for this pair -/
theorem C11_listed_multisig_step (cx : Ctx) (e : SEE) (code : Bytes) (st : List Bytes)
    (nSigs nKeys isig ikey : Nat) (sig key : Bytes)
    (hsig : top st isig = .ok sig) (hkey : top st ikey = .ok key)
    (hk : e.pretendKeys.contains key = true) (hp : pretendHas e.pretendMap sig key = true) :
    multisigLoop cx e code st (nSigs + 1) (nKeys + 1) isig ikey =
      if nSigs > nKeys then pure false
      else multisigLoop cx e code st nSigs nKeys (isig + 1) (ikey + 1) := by
  rw [multisigLoop]
  simp only [hsig, hkey, hk, hp, ok_bind, if_true]
  rfl

/-- one turn whose key is listed, with another signature: a failed match (`ok = false`) — the key is used up, the
    signature stays; in particular the real verification is not consulted for a listed key -/
theorem C11_other_signature_multisig_step (cx : Ctx) (e : SEE) (code : Bytes) (st : List Bytes)
    (nSigs nKeys isig ikey : Nat) (sig key : Bytes)
    (hsig : top st isig = .ok sig) (hkey : top st ikey = .ok key)
    (hk : e.pretendKeys.contains key = true) (hp : pretendHas e.pretendMap sig key = false) :
    multisigLoop cx e code st (nSigs + 1) (nKeys + 1) isig ikey =
      if nSigs + 1 > nKeys then pure false
      else multisigLoop cx e code st (nSigs + 1) nKeys isig (ikey + 1) := by
  rw [multisigLoop]
  simp only [hsig, hkey, hk, hp, ok_bind, if_true]
  rfl

/-- positions `isig, isig+1, …` hold signatures and positions `ikey, ikey+1, …` keys such that the loop started
    with `nSigs` signatures and `nKeys` keys meets, at every turn, a pair that the option decides
    (a listed key): either a signature listed for it (consumed), or a signature not listed for it (the key is skipped) -/
inductive MockRun (e : SEE) (st : List Bytes) : (nSigs nKeys isig ikey : Nat) → Prop
  | done (nKeys isig ikey : Nat) : MockRun e st 0 nKeys isig ikey
  | hit {nSigs nKeys isig ikey : Nat} {sig key : Bytes} :
      top st isig = .ok sig → top st ikey = .ok key →
      e.pretendKeys.contains key = true → pretendHas e.pretendMap sig key = true →
      MockRun e st nSigs nKeys (isig + 1) (ikey + 1) →
      MockRun e st (nSigs + 1) (nKeys + 1) isig ikey
  | skip {nSigs nKeys isig ikey : Nat} {sig key : Bytes} :
      top st isig = .ok sig → top st ikey = .ok key →
      e.pretendKeys.contains key = true → pretendHas e.pretendMap sig key = false →
      MockRun e st (nSigs + 1) nKeys isig (ikey + 1) →
      MockRun e st (nSigs + 1) (nKeys + 1) isig ikey

theorem MockRun.le {e : SEE} {st : List Bytes} {nSigs nKeys isig ikey : Nat}
    (h : MockRun e st nSigs nKeys isig ikey) : nSigs ≤ nKeys := by
  induction h with
  | done => omega
  | hit _ _ _ _ _ ih => omega
  | skip _ _ _ _ _ ih => omega

/-- m-of-n, general form: if the signatures on the stack are, in order, signatures listed for a subsequence of
    the (listed) keys, the loop returns `true` — for every checker, flag set and signature version -/
theorem C11_listed_accepted_multisig_run (cx : Ctx) (e : SEE) (code : Bytes) (st : List Bytes)
    {nSigs nKeys isig ikey : Nat} (h : MockRun e st nSigs nKeys isig ikey) :
    multisigLoop cx e code st nSigs nKeys isig ikey = pure true := by
  induction h with
  | done nKeys isig ikey => rw [multisigLoop]
  | @hit nSigs nKeys isig ikey sig key hsig hkey hk hp hrest ih =>
    rw [C11_listed_multisig_step cx e code st nSigs nKeys isig ikey sig key hsig hkey hk hp,
      if_neg (Nat.not_lt.2 hrest.le)]
    exact ih
  | @skip nSigs nKeys isig ikey sig key hsig hkey hk hp hrest ih =>
    rw [C11_other_signature_multisig_step cx e code st nSigs nKeys isig ikey sig key hsig hkey hk hp,
      if_neg (Nat.not_lt.2 hrest.le)]
    exact ih

/-- m-of-n, plain form (m = n): positions `isig + j` / `ikey + j` (j < n) hold the j-th signature and the j-th
    key, every key is listed and every signature is listed for its key: the loop returns `true` -/
theorem C11_listed_accepted_multisig (cx : Ctx) (e : SEE) (code : Bytes) (st : List Bytes) (n isig ikey : Nat)
    (h : ∀ j, j < n → ∃ sig key, top st (isig + j) = .ok sig ∧ top st (ikey + j) = .ok key ∧
          e.pretendKeys.contains key = true ∧ pretendHas e.pretendMap sig key = true) :
    multisigLoop cx e code st n n isig ikey = pure true := by
  apply C11_listed_accepted_multisig_run cx e code st
  induction n generalizing isig ikey with
  | zero => exact .done _ _ _
  | succ n ih =>
    obtain ⟨sig, key, h1, h2, h3, h4⟩ := h 0 (by omega)
    refine .hit (sig := sig) (key := key) (by simpa using h1) (by simpa using h2) h3 h4 (ih _ _ ?_)
    intro j hj
    obtain ⟨sig', key', k1, k2, k3, k4⟩ := h (j + 1) (by omega)
    refine ⟨sig', key', ?_, ?_, k3, k4⟩
    · rw [← k1]; congr 1; omega
    · rw [← k2]; congr 1; omega

private theorem evalChecksig_noPretend_eq (cx : Ctx) (e : SEE) (sig key : Bytes)
    (h : (e.pretendKeys.contains key && pretendHas e.pretendMap sig key) = false) :
    evalChecksig cx e sig key = evalChecksig cx { e with pretendMap := [], pretendKeys := [] } sig key := by
  unfold evalChecksig
  rw [h]
  rfl

/-- `EvalChecksig` for a listed key and a signature that is not listed for it: the option contributes
    nothing — the result is whatever the real verification says (the same call with empty tables) -/
theorem C11_other_signature_not_accepted (cx : Ctx) (e : SEE) (sig key : Bytes)
    (_hk : e.pretendKeys.contains key = true) (hp : pretendHas e.pretendMap sig key = false) :
    evalChecksig cx e sig key = evalChecksig cx { e with pretendMap := [], pretendKeys := [] } sig key := by
  apply evalChecksig_noPretend_eq
  rw [hp, Bool.and_false]

/-- `EvalChecksig` for an unlisted key is the same call with empty tables -/
theorem C11_unlisted_unaffected (cx : Ctx) (e : SEE) (sig key : Bytes)
    (hk : e.pretendKeys.contains key = false) :
    evalChecksig cx e sig key = evalChecksig cx { e with pretendMap := [], pretendKeys := [] } sig key := by
  apply evalChecksig_noPretend_eq
  rw [hk, Bool.false_and]

/-- one turn of the CHECKMULTISIG loop whose current key is unlisted: the real checks decide, exactly as in the
    loop without the option -/
theorem C11_unlisted_multisig_step (cx : Ctx) (e : SEE) (code : Bytes) (st : List Bytes)
    (nSigs nKeys isig ikey : Nat) (sig key : Bytes)
    (hsig : top st isig = .ok sig) (hkey : top st ikey = .ok key)
    (hk : e.pretendKeys.contains key = false) :
    multisigLoop cx e code st (nSigs + 1) (nKeys + 1) isig ikey =
      (do checkSignatureEncoding cx sig e.flags
          checkPubKeyEncoding key e.flags e.sigversion
          let ok := cx.checkECDSA sig key code e.sigversion
          if (if ok then nSigs else nSigs + 1) > nKeys then pure false
          else multisigLoop cx e code st (if ok then nSigs else nSigs + 1) nKeys
                 (if ok then isig + 1 else isig) (ikey + 1)) := by
  rw [multisigLoop]
  simp only [hsig, hkey, hk, ok_bind, Bool.false_eq_true, if_false, pure_bind]

/-- the whole CHECKMULTISIG loop when none of the keys it can reach is listed: identical to the loop without
    the option -/
theorem C11_unlisted_unaffected_multisig (cx : Ctx) (e : SEE) (code : Bytes) (st : List Bytes)
    (nSigs nKeys isig ikey : Nat)
    (h : ∀ j, j < nKeys → ∀ key, top st (ikey + j) = .ok key → e.pretendKeys.contains key = false) :
    multisigLoop cx e code st nSigs nKeys isig ikey =
      multisigLoop cx { e with pretendMap := [], pretendKeys := [] } code st nSigs nKeys isig ikey := by
  induction nKeys generalizing nSigs isig ikey with
  | zero => cases nSigs <;> simp [multisigLoop]
  | succ nKeys ih =>
    cases nSigs with
    | zero => simp [multisigLoop]
    | succ nSigs =>
      rw [multisigLoop, multisigLoop]
      cases hsig : top st isig with
      | error x => rfl
      | ok sig =>
        cases hkey : top st ikey with
        | error x => rfl
        | ok key =>
          have hk := h 0 (by omega) key (by simpa using hkey)
          simp only [hk, ok_bind, List.contains_nil, Bool.false_eq_true, if_false]
          have ih' : ∀ a b, multisigLoop cx e code st a nKeys b (ikey + 1) =
              multisigLoop cx { e with pretendMap := [], pretendKeys := [] } code st a nKeys b (ikey + 1) := by
            intro a b
            apply ih
            intro j hj key' hk'
            exact h (j + 1) (by omega) key' (by rw [← hk']; congr 1; omega)
          simp only [ih']

/-- the configuration with the option switched off -/
def noPretendCfg (cfg : Spec.Cfg) : Spec.Cfg := { cfg with pretend := [] }

/-- the key operand(s) a signature opcode looks at in state `st` (stack top first): the top item for
    CHECKSIG / CHECKSIGVERIFY / CHECKSIGADD, the `n` items below the key count `n` for CHECKMULTISIG(VERIFY)
    (all of them: which ones are actually reached depends on the signatures), nothing for other opcodes -/
def examinedKeys (op : Opcode) (st : Spec.St) : List Bytes :=
  match op with
  | .OP_CHECKSIG | .OP_CHECKSIGVERIFY | .OP_CHECKSIGADD => st.stack.take 1
  | .OP_CHECKMULTISIG | .OP_CHECKMULTISIGVERIFY =>
    match st.stack with
    | [] => []
    | nk :: s1 => s1.take (getint (Spec.numValue nk)).toNat
  | _ => []

@[simp] theorem noPretendCfg_flags (cfg : Spec.Cfg) : (noPretendCfg cfg).flags = cfg.flags := rfl
@[simp] theorem noPretendCfg_sigversion (cfg : Spec.Cfg) : (noPretendCfg cfg).sigversion = cfg.sigversion := rfl
@[simp] theorem noPretendCfg_allowDisabled (cfg : Spec.Cfg) : (noPretendCfg cfg).allowDisabled = cfg.allowDisabled := rfl
@[simp] theorem noPretendCfg_oracle (cfg : Spec.Cfg) : (noPretendCfg cfg).oracle = cfg.oracle := rfl
@[simp] theorem noPretendCfg_pretend (cfg : Spec.Cfg) : (noPretendCfg cfg).pretend = [] := rfl

theorem any_key_of_contains {ps : List (Bytes × Bytes)} {sig key : Bytes} (h : ps.contains (sig, key) = true) :
    ps.any (fun p => p.2 == key) = true :=
  List.any_eq_true.2 ⟨(sig, key), List.contains_iff_mem.1 h, beq_self_eq_true key⟩

abbrev withPairs (cfg : Spec.Cfg) (ps' : List (Bytes × Bytes)) : Spec.Cfg := { cfg with pretend := ps' }

/-- The two lists answer alike about key `k`: whether it is listed, and with which signatures.  These two questions are
    all the specification asks of the list (`Spec.checkSig`, `Spec.matchSigs`). -/
def SameAt (cfg : Spec.Cfg) (ps' : List (Bytes × Bytes)) (k : Bytes) : Prop :=
  Spec.keyListed cfg k = Spec.keyListed (withPairs cfg ps') k ∧
  ∀ sig, Spec.pairListed cfg sig k = Spec.pairListed (withPairs cfg ps') sig k

theorem sameAt_nil {cfg : Spec.Cfg} {k : Bytes} (h : Spec.keyListed cfg k = false) : SameAt cfg [] k :=
  ⟨h, fun _ => Bool.eq_false_iff.2 fun hp => Bool.false_ne_true (h.symm.trans (any_key_of_contains hp))⟩

section
variable (cfg : Spec.Cfg) (ps' : List (Bytes × Bytes))

theorem checkSig_congr (st : Spec.St) (sig key : Bytes) (h : SameAt cfg ps' key) :
    Spec.checkSig cfg st sig key = Spec.checkSig (withPairs cfg ps') st sig key := by
  unfold Spec.checkSig Spec.mockHit
  rw [h.2 sig]
  rfl

theorem deleteAll_congr (sigs : List Bytes) (code : Bytes) :
    Spec.deleteAll cfg sigs code = Spec.deleteAll (withPairs cfg ps') sigs code := by
  induction sigs generalizing code with
  | nil => rfl
  | cons sig sigs ih =>
    unfold Spec.deleteAll
    simp only [ih]

theorem matchSigs_congr (code : Bytes) (sigs keys : List Bytes) (h : ∀ k ∈ keys, SameAt cfg ps' k) :
    Spec.matchSigs cfg code sigs keys = Spec.matchSigs (withPairs cfg ps') code sigs keys := by
  induction keys generalizing sigs with
  | nil => cases sigs <;> rfl
  | cons key keys ih =>
    cases sigs with
    | nil => rfl
    | cons sig sigs =>
      unfold Spec.matchSigs
      have hk := h key (by simp)
      have ih' : ∀ s, Spec.matchSigs cfg code s keys = Spec.matchSigs (withPairs cfg ps') code s keys :=
        fun s => ih s (fun k hk => h k (by simp [hk]))
      simp only [hk.1, hk.2 sig, ih']
      rfl
end

private theorem numOf_ok_eq {rm : Bool} {k : Nat} {b : Bytes} {v : Int} (h : Spec.numOf rm k b = .ok v) :
    v = Spec.numValue b := by
  unfold Spec.numOf at h
  split at h
  · cases h
  · split at h
    · cases h
    · cases h; rfl

theorem execMultisig_congr (cfg : Spec.Cfg) (ps' : List (Bytes × Bytes)) (rm verify : Bool) (st : Spec.St)
    (h : ∀ k ∈ examinedKeys .OP_CHECKMULTISIG st, SameAt cfg ps' k) :
    Spec.execMultisig cfg rm verify st = Spec.execMultisig (withPairs cfg ps') rm verify st := by
  unfold Spec.execMultisig
  rcases hst : st.stack with _ | ⟨nk, s1⟩
  · rfl
  · simp only [examinedKeys, hst] at h
    simp only []
    cases hn : Spec.numOf rm 4 nk with
    | error x => rfl
    | ok v =>
      have hv := numOf_ok_eq hn
      subst hv
      have hm : ∀ sigs code, Spec.matchSigs cfg code sigs (s1.take (getint (Spec.numValue nk)).toNat) =
          Spec.matchSigs (withPairs cfg ps') code sigs (s1.take (getint (Spec.numValue nk)).toNat) :=
        fun sigs code => matchSigs_congr cfg ps' code sigs _ h
      simp only [specOk_bind, hm, deleteAll_congr cfg ps']

-- with the leaves opaque, `rfl` on an opcode that checks no signature only selects that opcode's arm on both sides
attribute [local irreducible] Spec.checkSize Spec.execMultisig Spec.execExtended Spec.checkSig Spec.numOf in
theorem execOp_pairs_congr (cfg : Spec.Cfg) (ps' : List (Bytes × Bytes)) (op : Opcode) (executing : Bool) (after : Bytes)
    (pos : Nat) (st : Spec.St) (h : ∀ k ∈ examinedKeys op st, SameAt cfg ps' k) :
    Spec.execOp cfg op executing after pos st = Spec.execOp (withPairs cfg ps') op executing after pos st := by
  cases op <;> first
    | rfl
    | skip
  case OP_CHECKSIG =>
    rw [execOp_CHECKSIG, execOp_CHECKSIG]
    split
    next key sig s hst => rw [checkSig_congr cfg ps' st sig key (h key (by simp [examinedKeys, hst]))]
    next => rfl
  case OP_CHECKSIGVERIFY =>
    rw [execOp_CHECKSIGVERIFY, execOp_CHECKSIGVERIFY]
    split
    next key sig s hst => rw [checkSig_congr cfg ps' st sig key (h key (by simp [examinedKeys, hst]))]
    next => rfl
  case OP_CHECKSIGADD =>
    rw [execOp_CHECKSIGADD, execOp_CHECKSIGADD]
    refine ite_congr rfl (fun _ => rfl) fun _ => ?_
    split
    next key nb sig s hst => rw [checkSig_congr cfg ps' st sig key (h key (by simp [examinedKeys, hst]))]
    next => rfl
  case OP_CHECKMULTISIG => exact execMultisig_congr cfg ps' _ false st h
  case OP_CHECKMULTISIGVERIFY => exact execMultisig_congr cfg ps' _ true st h

/-- one executed opcode: if none of the keys it examines is listed, it does what it does without the option -/
theorem C11_execOp_unlisted (cfg : Spec.Cfg) (op : Opcode) (executing : Bool) (after : Bytes) (pos : Nat) (st : Spec.St)
    (h : ∀ k ∈ examinedKeys op st, Spec.keyListed cfg k = false) :
    Spec.execOp cfg op executing after pos st = Spec.execOp { cfg with pretend := [] } op executing after pos st :=
  execOp_pairs_congr cfg [] op executing after pos st fun k hk => sameAt_nil (h k hk)

/-- the keys instruction `i` examines in state `st`: those of its opcode, if it is executed at all -/
def instrKeys (i : Spec.Instr) (st : Spec.St) : List Bytes :=
  if st.cond.all id then examinedKeys (Opcode.ofNat i.opcode) st else []

private theorem examinedKeys_condOp (n : Nat) (st : Spec.St) (h1 : 0x63 ≤ n) (h2 : n ≤ 0x68) :
    examinedKeys (Opcode.ofNat n) st = [] := by
  have : n = 0x63 ∨ n = 0x64 ∨ n = 0x65 ∨ n = 0x66 ∨ n = 0x67 ∨ n = 0x68 := by omega
  rcases this with h | h | h | h | h | h <;> subst h <;> rfl

/-- One instruction: if it examines no listed key, it does what it does without the option.  Of an instruction only
    the opcode's execution reads the option; it is reached when the instruction is executed (then it examines
    `instrKeys`) or is one of OP_IF … OP_ENDIF (which examine no key). -/
theorem C11_execInstr_unlisted (cfg : Spec.Cfg) (i : Spec.Instr) (after : Bytes) (pos : Nat) (st : Spec.St)
    (h : ∀ k ∈ instrKeys i st, Spec.keyListed cfg k = false) :
    Spec.execInstr cfg i after pos st = Spec.execInstr { cfg with pretend := [] } i after pos st := by
  unfold Spec.execInstr
  refine ite_congr rfl (fun _ => rfl) fun _ => bind_congr_ok fun st1 hco => ?_
  refine ite_congr rfl (fun _ => rfl) fun _ => ite_congr rfl (fun _ => rfl) fun _ => ite_congr rfl (fun _ => rfl) fun _ => ?_
  refine ite_congr rfl (fun hr => ?_) fun _ => rfl
  refine C11_execOp_unlisted cfg _ _ after pos st1 fun k hk => ?_
  cases hex : st.cond.all id with
  | true =>
    obtain ⟨_, rfl⟩ := Refine.specCountOp_ok_cases hco
    exact h k (by simp only [instrKeys, hex, if_true]; exact hk)
  | false =>
    simp only [hex, Bool.false_or, Bool.and_eq_true, decide_eq_true_eq] at hr
    rw [examinedKeys_condOp _ _ hr.1 hr.2] at hk
    cases hk

/-- "along the run without the option every executed signature opcode examines only unlisted keys":
    the instruction list `is` is run from position `pos` in state `st` with the option switched off; at every
    instruction reached, the keys it examines are not listed in `cfg` -/
inductive UnlistedRun (cfg : Spec.Cfg) : List (Spec.Instr × Bytes) → Nat → Spec.St → Prop
  | nil (pos : Nat) (st : Spec.St) : UnlistedRun cfg [] pos st
  | halt {i : Spec.Instr} {after : Bytes} {rest : List (Spec.Instr × Bytes)} {pos : Nat} {st : Spec.St} {err : ScriptError} :
      (∀ k ∈ instrKeys i st, Spec.keyListed cfg k = false) →
      Spec.execInstr (noPretendCfg cfg) i after pos st = .error err →
      UnlistedRun cfg ((i, after) :: rest) pos st
  | step {i : Spec.Instr} {after : Bytes} {rest : List (Spec.Instr × Bytes)} {pos : Nat} {st st' : Spec.St} :
      (∀ k ∈ instrKeys i st, Spec.keyListed cfg k = false) →
      Spec.execInstr (noPretendCfg cfg) i after pos st = .ok st' →
      UnlistedRun cfg rest (pos + 1) st' →
      UnlistedRun cfg ((i, after) :: rest) pos st

/-- a run that does not involve a listed key visits the same states and ends with the same result with and
    without the option -/
theorem C11_evalInstrs_unlisted (cfg : Spec.Cfg) (is : List (Spec.Instr × Bytes)) (pos : Nat) (st : Spec.St)
    (h : UnlistedRun cfg is pos st) :
    Spec.evalInstrs cfg is pos st = Spec.evalInstrs { cfg with pretend := [] } is pos st := by
  show _ = Spec.evalInstrs (noPretendCfg cfg) is pos st
  have step : ∀ {i after pos st}, (∀ k ∈ instrKeys i st, Spec.keyListed cfg k = false) →
      Spec.execInstr cfg i after pos st = Spec.execInstr (noPretendCfg cfg) i after pos st :=
    fun h => C11_execInstr_unlisted cfg _ _ _ _ h
  induction h with
  | nil pos st => rfl
  | @halt i after rest pos st err hk hex =>
    simp only [Spec.evalInstrs, step hk, hex]
  | @step i after rest pos st st' hk hex _ ih =>
    simp only [Spec.evalInstrs, step hk, hex, ih]

/-- whole script: the trace (every intermediate state) and the outcome are those of the run without the option -/
theorem C11_script_unlisted (cfg : Spec.Cfg) (script : Bytes) (st0 : Spec.St)
    (h : UnlistedRun cfg (Spec.decodePrefix script.length script).1 0 { st0 with codeFrom := script }) :
    Spec.evalScript cfg script st0 = Spec.evalScript { cfg with pretend := [] } script st0 := by
  show _ = Spec.evalScript (noPretendCfg cfg) script st0
  unfold Spec.evalScript
  simp only [noPretendCfg_sigversion]
  have := C11_evalInstrs_unlisted cfg _ 0 _ h
  rw [this]
  rfl

/-- the same condition as a computation (so that it can be checked on a given script) -/
def unlistedRunB (cfg : Spec.Cfg) : List (Spec.Instr × Bytes) → Nat → Spec.St → Bool
  | [], _, _ => true
  | (i, after) :: rest, pos, st =>
    (instrKeys i st).all (fun k => !Spec.keyListed cfg k) &&
    match Spec.execInstr (noPretendCfg cfg) i after pos st with
    | .ok st' => unlistedRunB cfg rest (pos + 1) st'
    | .error _ => true

theorem unlistedRun_of_check (cfg : Spec.Cfg) (is : List (Spec.Instr × Bytes)) (pos : Nat) (st : Spec.St)
    (h : unlistedRunB cfg is pos st = true) : UnlistedRun cfg is pos st := by
  induction is generalizing pos st with
  | nil => exact .nil pos st
  | cons ia rest ih =>
    obtain ⟨i, after⟩ := ia
    unfold unlistedRunB at h
    rw [Bool.and_eq_true] at h
    obtain ⟨h1, h2⟩ := h
    have hk : ∀ k ∈ instrKeys i st, Spec.keyListed cfg k = false := by
      intro k hk
      have := List.all_eq_true.mp h1 k hk
      simpa using this
    cases hex : Spec.execInstr (noPretendCfg cfg) i after pos st with
    | error err => exact .halt hk hex
    | ok st' =>
      rw [hex] at h2
      exact .step hk hex (ih _ _ h2)

open Btcdeb.Proofs.Pretend

/-- the text as the C code sees it (a C string ends at the first NUL; a command-line argument contains none) -/
abbrev cText (text : Bytes) : Bytes := parsePretendValidExpr.cstr text

theorem cText_eq (text : Bytes) (hz : ∀ c ∈ text, c ≠ 0) : cText text = text :=
  ListAux.takeWhile_all _ text fun c hc => bne_iff_ne.mpr (hz c hc)

theorem parse_spec (vcx : VCtx) (text : Bytes) :
    Answers (parsePretendValidExpr vcx text)
      ((Spec.pretendPairs (fun t => (valueData vcx t).toOption) (cText text)).map tablesOf) :=
  parse_eq vcx text ▸ loop_spec vcx _ (cText text) {} (Nat.le_succ _)

/-- a well-formed list is accepted, and the tables are those of the listed pairs (inserted in order) -/
theorem parse_accepts (vcx : VCtx) (text : Bytes) (ps : List (Bytes × Bytes))
    (h : Spec.pretendPairs (fun t => (valueData vcx t).toOption) (cText text) = some ps) :
    parsePretendValidExpr vcx text = .ok (some (tablesOf ps)) := by
  have := parse_spec vcx text
  rwa [h] at this

/-- a malformed list is never accepted: the parser reports an error, or the evaluation of a value expression
    aborts the program (`VErr`: `exit(1)` / uncaught exception inside `Value`) -/
theorem parse_rejects (vcx : VCtx) (text : Bytes)
    (h : Spec.pretendPairs (fun t => (valueData vcx t).toOption) (cText text) = none) :
    parsePretendValidExpr vcx text = .ok none ∨ ∃ x, parsePretendValidExpr vcx text = .error x := by
  have := parse_spec vcx text
  rwa [h] at this

/-- malformed lists are rejected, identically: the specification denotes no list exactly when the parser does not
    produce tables (it says "parse error", or aborts inside a value expression) -/
theorem parse_agree_rejected (vcx : VCtx) (text : Bytes) (hz : ∀ c ∈ text, c ≠ 0) :
    Spec.pretendPairs (fun t => (valueData vcx t).toOption) text = none ↔
      (parsePretendValidExpr vcx text = .ok none ∨ ∃ x, parsePretendValidExpr vcx text = .error x) := by
  have := parse_spec vcx text
  rw [cText_eq text hz] at this
  cases h : Spec.pretendPairs (fun t => (valueData vcx t).toOption) text with
  | none => rw [h] at this; exact ⟨fun _ => this, fun _ => rfl⟩
  | some ps =>
    rw [h] at this
    have hp : parsePretendValidExpr vcx text = .ok (some (tablesOf ps)) := this
    simp [hp]

/-- why "∨ error" cannot be dropped: when the value expression of the first signature field aborts (e.g. the field
    `reverse(OP_DUP)`: `exit(1)` with "irreversible value type"), the specification denotes no list and the parser
    does not answer at all -/
theorem parse_first_field_aborts (vcx : VCtx) (f rest : Bytes) (x : VErr)
    (hf : NoSep f) (hne : f ≠ []) (hz : ∀ c ∈ f ++ 58 :: rest, c ≠ 0) (hv : valueData vcx f = .error x) :
    parsePretendValidExpr vcx (f ++ 58 :: rest) = .error x ∧
    Spec.pretendPairs (fun t => (valueData vcx t).toOption) (f ++ 58 :: rest) = none := by
  have hfe : f.isEmpty = false := by cases f; exact absurd rfl hne; rfl
  have h1 : parsePretendValidExpr vcx (f ++ 58 :: rest) = .error x := by
    rw [parse_eq, show parsePretendValidExpr.cstr (f ++ 58 :: rest) = _ from cText_eq _ hz]
    have hpf := pretendField_noSep_sep f rest [] 58 hf (Or.inr rfl)
    rw [pretendLoop_step vcx _ _ {} f (some 58) rest (by simp) hpf (Or.inr (Or.inr rfl))]
    simp only [hfe, Bool.false_eq_true, if_false, hv]; rfl
  exact ⟨h1, (parse_agree_rejected vcx _ hz).2 (Or.inr ⟨x, h1⟩)⟩

/-- …and when no value expression aborts (e.g. every field is plain hexadecimal), rejection is the answer `.ok none` -/
theorem parse_agree_rejected_total (vcx : VCtx) (text : Bytes) (hz : ∀ c ∈ text, c ≠ 0)
    (hnoabort : ∀ x, parsePretendValidExpr vcx text ≠ .error x) :
    Spec.pretendPairs (fun t => (valueData vcx t).toOption) text = none ↔ parsePretendValidExpr vcx text = .ok none := by
  rw [parse_agree_rejected vcx text hz]
  constructor
  · intro h
    rcases h with h | ⟨x, h⟩
    · exact h
    · exact absurd h (hnoabort x)
  · intro h; exact Or.inl h

/-- any well-formed list: the parser yields tables `(m, k)`; `k` is the set of listed keys and
    `m` the set of listed pairs (no pair stored twice).  These are the two mock-signature clauses of the refinement
    relation `CfgRel` (there the pair clause is only needed for listed keys). -/
theorem parse_agree_tables (vcx : VCtx) (text : Bytes) (hz : ∀ c ∈ text, c ≠ 0) (ps : List (Bytes × Bytes))
    (h : Spec.pretendPairs (fun t => (valueData vcx t).toOption) text = some ps) :
    ∃ m k, parsePretendValidExpr vcx text = .ok (some (m, k)) ∧
      (∀ key, k.contains key = ps.any (fun p => p.2 == key)) ∧
      (∀ sig key, pretendHas m sig key = ps.contains (sig, key)) ∧
      m.Nodup := by
  refine ⟨(tablesOf ps).1, (tablesOf ps).2, ?_, tablesOf_keys ps, tablesOf_pair ps, tablesOf_nodup ps⟩
  apply parse_accepts
  rw [cText_eq text hz]; exact h

/-- the session was started with `--pretend-valid=text`: its environment carries the tables the parser built -/
def StartedWith (vcx : VCtx) (text : Bytes) (e : SEE) : Prop :=
  parsePretendValidExpr vcx text = .ok (some (e.pretendMap, e.pretendKeys))

/-- the list of pairs the option text denotes (the specification's reading) -/
def Denotes (vcx : VCtx) (text : Bytes) (ps : List (Bytes × Bytes)) : Prop :=
  (∀ c ∈ text, c ≠ 0) ∧ Spec.pretendPairs (fun t => (valueData vcx t).toOption) text = some ps

/-- `parse_agree_tables` read on the environment of a session -/
theorem started_tables {vcx : VCtx} {text : Bytes} {ps : List (Bytes × Bytes)} {e : SEE}
    (hd : Denotes vcx text ps) (hs : StartedWith vcx text e) :
    (∀ key, e.pretendKeys.contains key = ps.any (fun p => p.2 == key)) ∧
    (∀ sig key, pretendHas e.pretendMap sig key = ps.contains (sig, key)) := by
  obtain ⟨m, k, hp, hk, hm, -⟩ := parse_agree_tables vcx text hd.1 ps hd.2
  obtain ⟨rfl, rfl⟩ := Prod.mk.inj (Option.some.inj (Except.ok.inj (hp.symm.trans hs)))
  exact ⟨hk, hm⟩

/-- what the parser builds for a well-formed list satisfies the clauses `pretendKeys` and `pretendPair` of `CfgRel` — no
    side condition on the list (`C11_text_CfgRel_clauses`: the same with `Denotes` / `StartedWith`) -/
theorem parse_gives_CfgRel_clauses (vcx : VCtx) (text : Bytes) (hz : ∀ c ∈ text, c ≠ 0)
    (cfg : Spec.Cfg) (e : SEE)
    (hspec : Spec.pretendPairs (fun t => (valueData vcx t).toOption) text = some cfg.pretend)
    (hmodel : parsePretendValidExpr vcx text = .ok (some (e.pretendMap, e.pretendKeys))) :
    (∀ key, e.pretendKeys.contains key = Spec.keyListed cfg key) ∧
    (∀ sig key, e.pretendKeys.contains key = true →
      pretendHas e.pretendMap sig key = Spec.pairListed cfg sig key) := by
  obtain ⟨h2, h3⟩ := started_tables ⟨hz, hspec⟩ hmodel
  exact ⟨h2, fun sig key _ => h3 sig key⟩

/-- the mock short-circuit of the model is the specification's `mockHit`, for the tables of every well-formed list:
    "the key is a mock key and the pair is in the pair set" ⇔ "the pair is listed" -/
theorem parse_gives_mockHit (vcx : VCtx) (text : Bytes) (hz : ∀ c ∈ text, c ≠ 0)
    (cfg : Spec.Cfg) (e : SEE)
    (hspec : Spec.pretendPairs (fun t => (valueData vcx t).toOption) text = some cfg.pretend)
    (hmodel : parsePretendValidExpr vcx text = .ok (some (e.pretendMap, e.pretendKeys))) (sig key : Bytes) :
    (e.pretendKeys.contains key && pretendHas e.pretendMap sig key) = Spec.mockHit cfg sig key := by
  obtain ⟨h2, h3⟩ := started_tables ⟨hz, hspec⟩ hmodel
  rw [h2, h3]
  cases hp : cfg.pretend.contains (sig, key) with
  | false => exact (Bool.and_false _).trans hp.symm
  | true => rw [any_key_of_contains hp]; exact hp.symm

/-- for the list `S:P1,S:P2` both pairs are in the pair table (a `std::map` keyed by the signature would keep only one
    of them), both keys are mock keys, and the crossed pairs of an unrelated signature are not in the table -/
theorem same_sig_two_keys_tables :
    let S : Bytes := [0xAA]; let P1 : Bytes := [0x01]; let P2 : Bytes := [0x02]
    let ps := [(S, P1), (S, P2)]
    (tablesOf ps).2.contains P1 = true ∧ (tablesOf ps).2.contains P2 = true ∧
    pretendHas (tablesOf ps).1 S P1 = true ∧ pretendHas (tablesOf ps).1 S P2 = true ∧
    pretendHas (tablesOf ps).1 [0xBB] P1 = false := by
  refine ⟨by decide, by decide, by decide, by decide, by decide⟩

/-- …and its effect: with those tables model and specification both accept `(S, P1)` and `(S, P2)` on the strength
    of the option, whatever the checker says -/
theorem same_sig_two_keys_effect (cx : Ctx) (e : SEE) (cfg : Spec.Cfg) (st : Spec.St)
    (hm : e.pretendMap = (tablesOf [([0xAA], [0x01]), ([0xAA], [0x02])]).1)
    (hk : e.pretendKeys = (tablesOf [([0xAA], [0x01]), ([0xAA], [0x02])]).2)
    (hc : cfg.pretend = [([0xAA], [0x01]), ([0xAA], [0x02])]) :
    evalChecksig cx e [0xAA] [0x01] = pure (true, e.execdata) ∧
    evalChecksig cx e [0xAA] [0x02] = pure (true, e.execdata) ∧
    Spec.checkSig cfg st [0xAA] [0x01] = .ok (true, st) ∧
    Spec.checkSig cfg st [0xAA] [0x02] = .ok (true, st) := by
  refine ⟨?_, ?_, ?_, ?_⟩
  · apply C11_listed_accepted_checksig
    · rw [hk]; decide
    · rw [hm]; decide
  · apply C11_listed_accepted_checksig
    · rw [hk]; decide
    · rw [hm]; decide
  · unfold Spec.checkSig Spec.mockHit Spec.pairListed
    rw [hc]
    rfl
  · unfold Spec.checkSig Spec.mockHit Spec.pairListed
    rw [hc]
    rfl

private theorem started_listed {vcx : VCtx} {text : Bytes} {ps : List (Bytes × Bytes)} {e : SEE}
    (hd : Denotes vcx text ps) (hs : StartedWith vcx text e) {sig key : Bytes} (hl : (sig, key) ∈ ps) :
    e.pretendKeys.contains key = true ∧ pretendHas e.pretendMap sig key = true := by
  obtain ⟨h2, h3⟩ := started_tables hd hs
  have hc := List.contains_iff_mem.2 hl
  exact ⟨(h2 key).trans (any_key_of_contains hc), (h3 sig key).trans hc⟩

private theorem started_unlisted {vcx : VCtx} {text : Bytes} {ps : List (Bytes × Bytes)} {e : SEE}
    (hd : Denotes vcx text ps) (hs : StartedWith vcx text e) {sig key : Bytes} (hl : (sig, key) ∉ ps) :
    pretendHas e.pretendMap sig key = false := by
  rw [(started_tables hd hs).2]
  cases hc : ps.contains (sig, key) with
  | false => rfl
  | true => exact absurd (List.contains_iff_mem.mp hc) hl

/-- a listed pair is accepted by `EvalChecksig` (OP_CHECKSIG / OP_CHECKSIGVERIFY / OP_CHECKSIGADD), for every
    well-formed list — in particular when the signature is also listed for other keys -/
theorem C11_text_listed_checksig (vcx : VCtx) (text : Bytes) (ps : List (Bytes × Bytes)) (cx : Ctx) (e : SEE)
    (hd : Denotes vcx text ps) (hs : StartedWith vcx text e) (sig key : Bytes) (hl : (sig, key) ∈ ps) :
    evalChecksig cx e sig key = pure (true, e.execdata) :=
  C11_listed_accepted_checksig cx e sig key (started_listed hd hs hl).1 (started_listed hd hs hl).2

theorem C11_text_listed_OP_CHECKSIG (vcx : VCtx) (text : Bytes) (ps : List (Bytes × Bytes)) (cx : Ctx) (e : SEE)
    (hd : Denotes vcx text ps) (hs : StartedWith vcx text e) (s : List Bytes) (sig key : Bytes) (fExec : Bool) (pc : Bytes)
    (hst : e.stack = s ++ [sig, key]) (hl : (sig, key) ∈ ps) :
    execOpcode cx e .OP_CHECKSIG fExec pc = sizeCheck { e with stack := s ++ [vchTrue] } :=
  C11_listed_OP_CHECKSIG cx e s sig key fExec pc hst (started_listed hd hs hl).1 (started_listed hd hs hl).2

theorem C11_text_listed_OP_CHECKSIGVERIFY (vcx : VCtx) (text : Bytes) (ps : List (Bytes × Bytes)) (cx : Ctx) (e : SEE)
    (hd : Denotes vcx text ps) (hs : StartedWith vcx text e) (s : List Bytes) (sig key : Bytes) (fExec : Bool) (pc : Bytes)
    (hst : e.stack = s ++ [sig, key]) (hl : (sig, key) ∈ ps) :
    execOpcode cx e .OP_CHECKSIGVERIFY fExec pc = sizeCheck { e with stack := s } :=
  C11_listed_OP_CHECKSIGVERIFY cx e s sig key fExec pc hst (started_listed hd hs hl).1 (started_listed hd hs hl).2

theorem C11_text_listed_OP_CHECKSIGADD (vcx : VCtx) (text : Bytes) (ps : List (Bytes × Bytes)) (cx : Ctx) (e : SEE)
    (hd : Denotes vcx text ps) (hs : StartedWith vcx text e) (s : List Bytes) (sig nb key : Bytes) (n : Int)
    (fExec : Bool) (pc : Bytes) (hsv : e.sigversion ≠ .BASE ∧ e.sigversion ≠ .WITNESS_V0)
    (hst : e.stack = s ++ [sig, nb, key]) (hn : num nb e.requireMinimal = .ok n) (hl : (sig, key) ∈ ps) :
    execOpcode cx e .OP_CHECKSIGADD fExec pc = sizeCheck { e with stack := s ++ [serialize (n + 1)] } :=
  C11_listed_OP_CHECKSIGADD cx e s sig nb key n fExec pc hsv hst hn (started_listed hd hs hl).1 (started_listed hd hs hl).2

/-- CHECKMULTISIG matching, n-of-n: every (j-th signature, j-th key) is a listed pair → the loop returns `true`
    (the same signature may stand for several keys) -/
theorem C11_text_listed_multisig (vcx : VCtx) (text : Bytes) (ps : List (Bytes × Bytes)) (cx : Ctx) (e : SEE)
    (hd : Denotes vcx text ps) (hs : StartedWith vcx text e) (code : Bytes) (st : List Bytes) (n isig ikey : Nat)
    (h : ∀ j, j < n → ∃ sig key, top st (isig + j) = .ok sig ∧ top st (ikey + j) = .ok key ∧ (sig, key) ∈ ps) :
    multisigLoop cx e code st n n isig ikey = pure true := by
  apply C11_listed_accepted_multisig
  intro j hj
  obtain ⟨sig, key, h1, h2, h3⟩ := h j hj
  exact ⟨sig, key, h1, h2, (started_listed hd hs h3).1, (started_listed hd hs h3).2⟩

/-- CHECKMULTISIG matching, one turn on a listed pair: consumed, no check and no checker call -/
theorem C11_text_listed_multisig_step (vcx : VCtx) (text : Bytes) (ps : List (Bytes × Bytes)) (cx : Ctx) (e : SEE)
    (hd : Denotes vcx text ps) (hs : StartedWith vcx text e) (code : Bytes) (st : List Bytes)
    (nSigs nKeys isig ikey : Nat) (sig key : Bytes)
    (hsig : top st isig = .ok sig) (hkey : top st ikey = .ok key) (hl : (sig, key) ∈ ps) :
    multisigLoop cx e code st (nSigs + 1) (nKeys + 1) isig ikey =
      if nSigs > nKeys then pure false
      else multisigLoop cx e code st nSigs nKeys (isig + 1) (ikey + 1) :=
  C11_listed_multisig_step cx e code st nSigs nKeys isig ikey sig key hsig hkey
    (started_listed hd hs hl).1 (started_listed hd hs hl).2

/-- a pair that is not listed gets nothing from the option in `EvalChecksig`, whether or not its key (or its
    signature) occurs in other listed pairs: the result is that of the real verification -/
theorem C11_text_unlisted_pair_checksig (vcx : VCtx) (text : Bytes) (ps : List (Bytes × Bytes)) (cx : Ctx) (e : SEE)
    (hd : Denotes vcx text ps) (hs : StartedWith vcx text e) (sig key : Bytes) (hl : (sig, key) ∉ ps) :
    evalChecksig cx e sig key = evalChecksig cx { e with pretendMap := [], pretendKeys := [] } sig key := by
  apply evalChecksig_noPretend_eq
  rw [started_unlisted hd hs hl, Bool.and_false]

/-- a pair that is not listed but whose key is a mock key (listed with some signature) is rejected by the
    CHECKMULTISIG matching: failed match, the key is used up, the real verification is not consulted -/
theorem C11_text_unlisted_pair_multisig_step (vcx : VCtx) (text : Bytes) (ps : List (Bytes × Bytes)) (cx : Ctx) (e : SEE)
    (hd : Denotes vcx text ps) (hs : StartedWith vcx text e) (code : Bytes) (st : List Bytes)
    (nSigs nKeys isig ikey : Nat) (sig key other : Bytes)
    (hsig : top st isig = .ok sig) (hkey : top st ikey = .ok key)
    (hmock : (other, key) ∈ ps) (hl : (sig, key) ∉ ps) :
    multisigLoop cx e code st (nSigs + 1) (nKeys + 1) isig ikey =
      if nSigs + 1 > nKeys then pure false
      else multisigLoop cx e code st (nSigs + 1) nKeys isig (ikey + 1) :=
  C11_other_signature_multisig_step cx e code st nSigs nKeys isig ikey sig key hsig hkey
    (started_listed hd hs hmock).1 (started_unlisted hd hs hl)

/-- keys that are not listed: the whole CHECKMULTISIG loop runs as without the option -/
theorem C11_text_unlisted_keys_multisig (vcx : VCtx) (text : Bytes) (ps : List (Bytes × Bytes)) (cx : Ctx) (e : SEE)
    (hd : Denotes vcx text ps) (hs : StartedWith vcx text e) (code : Bytes) (st : List Bytes)
    (nSigs nKeys isig ikey : Nat)
    (h : ∀ j, j < nKeys → ∀ key, top st (ikey + j) = .ok key → ∀ p ∈ ps, p.2 ≠ key) :
    multisigLoop cx e code st nSigs nKeys isig ikey =
      multisigLoop cx { e with pretendMap := [], pretendKeys := [] } code st nSigs nKeys isig ikey := by
  apply C11_unlisted_unaffected_multisig
  intro j hj key hk
  rw [(started_tables hd hs).1]
  cases hc : ps.any (fun p => p.2 == key) with
  | false => rfl
  | true =>
    obtain ⟨p, hp, hpk⟩ := List.any_eq_true.mp hc
    exact absurd (by simpa using hpk) (h j hj key hk p hp)

/-- the tables of a session started with a well-formed list satisfy the two mock-signature clauses of `CfgRel` for the
    configuration whose `pretend` list is the denoted one (with the other clauses, which are the caller's, the session
    refines the specification's run with that list: C01, C02) -/
theorem C11_text_CfgRel_clauses (vcx : VCtx) (text : Bytes) (cfg : Spec.Cfg) (e : SEE)
    (hd : Denotes vcx text cfg.pretend) (hs : StartedWith vcx text e) :
    (∀ key, e.pretendKeys.contains key = Spec.keyListed cfg key) ∧
    (∀ sig key, e.pretendKeys.contains key = true → pretendHas e.pretendMap sig key = Spec.pairListed cfg sig key) :=
  parse_gives_CfgRel_clauses vcx text hd.1 cfg e hd.2 hs

namespace Examples

/-- `--pretend-valid=b1:01,b2:02` in a legacy script, with a checker that rejects every real signature -/
def env (stack : List Bytes) : SEE :=
  { script := [], pbegincodehash := [], flags := 0, sigversion := .BASE, requireMinimal := false, stack := stack,
    pretendMap := [([0xB1], [0x01]), ([0xB2], [0x02])], pretendKeys := [[0x01], [0x02]] }

def rejectAll : Ctx :=
  { sha256 := id, ripemd160 := id, sha1 := id, checkLowS := fun _ => false, checkLockTime := fun _ => false,
    checkSequence := fun _ => false, checkECDSA := fun _ _ _ _ => false,
    checkSchnorr := fun _ _ _ _ => .error (.script .UNKNOWN_ERROR) }

example : evalChecksig rejectAll (env []) [0xB1] [0x01] = pure (true, (env []).execdata) :=
  C11_listed_accepted_checksig _ _ _ _ (by decide) (by decide)

example : execOpcode rejectAll (env [[7], [0xB1], [0x01]]) .OP_CHECKSIG true [] =
    sizeCheck { env [[7], [0xB1], [0x01]] with stack := [[7]] ++ [vchTrue] } :=
  C11_listed_OP_CHECKSIG _ _ [[7]] [0xB1] [0x01] _ _ rfl (by decide) (by decide)

example : execOpcode rejectAll (env [[7], [0xB1], [0x01]]) .OP_CHECKSIGVERIFY true [] =
    sizeCheck { env [[7], [0xB1], [0x01]] with stack := [[7]] } :=
  C11_listed_OP_CHECKSIGVERIFY _ _ [[7]] [0xB1] [0x01] _ _ rfl (by decide) (by decide)

example : execOpcode rejectAll { env [[0xB1], [5], [0x01]] with sigversion := .TAPSCRIPT } .OP_CHECKSIGADD true [] =
    sizeCheck { env [[0xB1], [5], [0x01]] with sigversion := .TAPSCRIPT, stack := [] ++ [serialize (5 + 1)] } :=
  C11_listed_OP_CHECKSIGADD _ _ [] [0xB1] [5] [0x01] 5 _ _ (by decide) rfl (by rfl) (by decide) (by decide)

-- 2-of-2 with both pairs listed: stack = dummy S1 S2 2 P1 P2 2 (signatures at 5,6; keys at 2,3 from the top)
example : multisigLoop rejectAll (env []) [] [[], [0xB1], [0xB2], [2], [0x01], [0x02], [2]] 2 2 5 2 = pure true := by
  apply C11_listed_accepted_multisig
  intro j hj
  have : j = 0 ∨ j = 1 := by omega
  rcases this with rfl | rfl
  · exact ⟨[0xB2], [0x02], by rfl, by rfl, by decide, by decide⟩
  · exact ⟨[0xB1], [0x01], by rfl, by rfl, by decide, by decide⟩

-- 1-of-2, the signature of the second key: the first key examined (P2) is listed with another signature → skipped
example : MockRun (env []) [[], [0xB1], [1], [0x01], [0x02], [2]] 1 2 5 2 :=
  .skip (sig := [0xB1]) (key := [0x02]) (by rfl) (by rfl) (by decide) (by decide)
    (.hit (sig := [0xB1]) (key := [0x01]) (by rfl) (by rfl) (by decide) (by decide) (.done _ _ _))

example : (env []).pretendKeys.contains [0x01] = true ∧ pretendHas (env []).pretendMap [0xCC] [0x01] = false := by decide
example : (env []).pretendKeys.contains [0x09] = false := by decide

-- the script `<cc> <09> CHECKSIG` (key 09 unlisted) under `--pretend-valid=b1:01`
def oracle : Spec.SigOracle :=
  { checkLowS := fun _ => false, checkLockTime := fun _ => false, checkSequence := fun _ => false,
    ecdsa := fun _ _ _ _ => false, schnorr := fun _ _ _ _ => .error .UNKNOWN_ERROR, sha256 := id, ripemd160 := id, sha1 := id }

def cfg : Spec.Cfg := { flags := 0, sigversion := .BASE, oracle := oracle, pretend := [([0xB1], [0x01])] }

example : UnlistedRun cfg (Spec.decodePrefix 5 [1, 0xCC, 1, 0x09, 0xac]).1 0 { codeFrom := [1, 0xCC, 1, 0x09, 0xac] } :=
  unlistedRun_of_check _ _ _ _ (by rfl)

-- …whereas `<b1> <01> CHECKSIG` does involve a listed key
example : unlistedRunB cfg (Spec.decodePrefix 5 [1, 0xB1, 1, 0x01, 0xac]).1 0 { codeFrom := [1, 0xB1, 1, 0x01, 0xac] } = false := by rfl

-- `aa:bb,cc:dd` is well formed and parsed identically; `aa:bb,,` is rejected identically
def vcx : VCtx := { sha256 := id, ripemd160 := id }
def text : Bytes := [97, 97, 58, 98, 98, 44, 99, 99, 58, 100, 100]

theorem text_denotes :
    Spec.pretendPairs (fun t => (valueData vcx t).toOption) text = some [([0xaa], [0xbb]), ([0xcc], [0xdd])] := by
  decide +kernel

example : Spec.pretendPairs (fun t => (valueData vcx t).toOption) text = some [([0xaa], [0xbb]), ([0xcc], [0xdd])] :=
  text_denotes
example : ∀ c ∈ text, c ≠ 0 := by decide
example : parsePretendValidExpr vcx text = .ok (some ([([0xaa], [0xbb]), ([0xcc], [0xdd])], [[0xbb], [0xdd]])) :=
  parse_accepts vcx text [([0xaa], [0xbb]), ([0xcc], [0xdd])] (by rw [cText_eq text (by decide)]; exact text_denotes)
example : Spec.pretendPairs (fun t => (valueData vcx t).toOption) [97, 97, 58, 98, 98, 44, 44] = none := by decide +kernel
example : parsePretendValidExpr vcx [97, 97, 58, 98, 98, 44, 44] = .ok none := by rfl

-- the same signature under two keys, `aa:bb,aa:cc` (and the first pair once more: `…,aa:bb`): well formed; both
-- pairs are in the tables, the repeated pair is stored once; a session started with it accepts `aa` for `bb` and for `cc`
-- (also as the two signatures of a 2-of-2 CHECKMULTISIG) and gives nothing to the unlisted pair `cc:bb`
def text2 : Bytes := [97, 97, 58, 98, 98, 44, 97, 97, 58, 99, 99, 44, 97, 97, 58, 98, 98]
def ps2 : List (Bytes × Bytes) := [([0xaa], [0xbb]), ([0xaa], [0xcc]), ([0xaa], [0xbb])]
def env2 (stack : List Bytes) : SEE :=
  { script := [], pbegincodehash := [], flags := 0, sigversion := .BASE, requireMinimal := false, stack := stack,
    pretendMap := [([0xaa], [0xbb]), ([0xaa], [0xcc])], pretendKeys := [[0xbb], [0xcc]] }

theorem denotes2 : Denotes vcx text2 ps2 := ⟨by decide, by decide +kernel⟩
theorem started2 (stack : List Bytes) : StartedWith vcx text2 (env2 stack) :=
  parse_accepts vcx text2 ps2 (by rw [cText_eq text2 denotes2.1]; exact denotes2.2)

example : evalChecksig rejectAll (env2 []) [0xaa] [0xbb] = pure (true, (env2 []).execdata) :=
  C11_text_listed_checksig vcx text2 ps2 _ _ denotes2 (started2 []) _ _ (by decide)
example : evalChecksig rejectAll (env2 []) [0xaa] [0xcc] = pure (true, (env2 []).execdata) :=
  C11_text_listed_checksig vcx text2 ps2 _ _ denotes2 (started2 []) _ _ (by decide)
example : evalChecksig rejectAll (env2 []) [0xcc] [0xbb] =
    evalChecksig rejectAll { env2 [] with pretendMap := [], pretendKeys := [] } [0xcc] [0xbb] :=
  C11_text_unlisted_pair_checksig vcx text2 ps2 _ _ denotes2 (started2 []) _ _ (by decide)
-- stack = dummy S S 2 P1 P2 2 with S = aa, P1 = bb, P2 = cc
example : multisigLoop rejectAll (env2 []) [] [[], [0xaa], [0xaa], [2], [0xbb], [0xcc], [2]] 2 2 5 2 = pure true := by
  apply C11_text_listed_multisig vcx text2 ps2 _ _ denotes2 (started2 [])
  intro j hj
  have : j = 0 ∨ j = 1 := by omega
  rcases this with rfl | rfl
  · exact ⟨[0xaa], [0xcc], by rfl, by rfl, by decide⟩
  · exact ⟨[0xaa], [0xbb], by rfl, by rfl, by decide⟩

end Examples

end Btcdeb.Proofs.C11
