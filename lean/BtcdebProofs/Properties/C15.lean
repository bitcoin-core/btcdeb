/-
  C15 — no input makes the tools crash: the PROOF side.

  The models represent every place where the C++ can die (assertion, arithmetic trap, out-of-bounds access, uncaught
  exception) as an explicit outcome `.abnormal kind` (`StepErr.abnormal` in the interpreter / session monad `M`,
  `VErr.abnormal` in the value-parser monad `VM`).  The theorems here say these outcomes are UNREACHABLE from the
  tools' entry points.

  Sessions: from `setup_environment`, through any `step` / `rewind` / `exec`, given execution data initialised as the
  signature version requires (`EdReady`) and a checker that survives the calls satisfying its own assertions
  (`CheckerNoAbnOn`, true of the transaction checker for an existing input index).  Start-up of a `--tx` session
  (`spendSetup`) and the value parser (`btcc`, `Value(text)`): unconditionally.  The check on an empty saved stack at
  the P2SH hand-over (an `assert` before /repo 16ab03e, a script error since) can be reached with the help of `exec`
  only; with `step` / `rewind` alone it is not.
-/
import Btcdeb
import BtcdebProofs.Lemmas.CheckerNoAbn
import BtcdebProofs.Lemmas.SpendSafe
import BtcdebProofs.Properties.C04
import BtcdebProofs.Properties.C08
namespace Btcdeb.Proofs.C15
open Btcdeb Btcdeb.Model

theorem edReady_witness_v0 (ed : ExecData) : EdReady .WITNESS_V0 ed :=
  ⟨(fun h => by cases h), (fun h => by cases h)⟩

/-- the states a debugging session can be in: the fresh environment, and whatever accepted `step`, `rewind` and
    `exec` commands lead to (a refused command changes nothing; a failed step changes nothing) -/
inductive Reach (cx : Ctx) (tc : TapCtx) (e0 : IEnv) : IEnv → Prop
  | start : Reach cx tc e0 e0
  | step {e e' : IEnv} : Reach cx tc e0 e → instStep cx tc e = .ok e' → Reach cx tc e0 e'
  | rewind {e e' : IEnv} : Reach cx tc e0 e → instRewind e = some e' → Reach cx tc e0 e'
  | exec {e e' : IEnv} {args : List Bytes} {err : Option StepErr} :
      Reach cx tc e0 e → instEval cx e args = some (e', err) → Reach cx tc e0 e'

inductive ReachSR (cx : Ctx) (tc : TapCtx) (e0 : IEnv) : IEnv → Prop
  | start : ReachSR cx tc e0 e0
  | step {e e' : IEnv} : ReachSR cx tc e0 e → instStep cx tc e = .ok e' → ReachSR cx tc e0 e'
  | rewind {e e' : IEnv} : ReachSR cx tc e0 e → instRewind e = some e' → ReachSR cx tc e0 e'

theorem ReachSR.reach {cx : Ctx} {tc : TapCtx} {e0 e : IEnv} (h : ReachSR cx tc e0 e) : Reach cx tc e0 e := by
  induction h with
  | start => exact .start
  | step _ hs ih => exact .step ih hs
  | rewind _ hs ih => exact .rewind ih hs

/-- the histories of C04 (`execHist` over `step` / `rewind` commands) stay inside `ReachSR` -/
theorem reachSR_of_execHist (cx : Ctx) (tc : TapCtx) (e0 : IEnv) : ∀ (cmds : List C04.Cmd) (e1 : IEnv) (n : Int) (e : IEnv) (m : Int),
    ReachSR cx tc e0 e1 → C04.execHist cx tc cmds (e1, n) = some (e, m) → ReachSR cx tc e0 e :=
  C04.execHist_induction (fun e _ => ReachSR cx tc e0 e) fun _ _ _ _ _ hr hc => by
    rcases C04.execCmd_cases hc with ⟨rfl, _⟩ | ⟨hd, hs, _⟩ | ⟨hrw, _⟩
    · exact hr
    · exact .step hr (instStep_eq_ok.mpr ⟨hd, hs⟩)
    · exact .rewind hr hrw

theorem reach_ready (cx : Ctx) (hcx : CheckerNoAbnOn cx) (tc : TapCtx) (e0 e : IEnv) (h0 : e0.Ready)
    (h : Reach cx tc e0 e) : e.Ready := by
  induction h with
  | start => exact h0
  | step _ hs ih => exact stepSession_ready cx tc _ _ ih (instStep_eq_ok.mp hs).2
  | rewind _ hs ih => exact instRewind_ready _ _ ih hs
  | exec _ hs ih => exact (instEval_ready cx hcx _ _ _ _ ih hs).1

theorem reachSR_safe (cx : Ctx) (tc : TapCtx) (e0 e : IEnv) (h0 : e0.Safe) (h : ReachSR cx tc e0 e) : e.Safe := by
  induction h with
  | start => exact h0
  | step _ hs ih => exact stepSession_safe cx tc _ _ ih (instStep_eq_ok.mp hs).2
  | rewind _ hs ih => exact instRewind_safe _ _ ih hs

/-- **C15, sessions.**  In every state `e` a session can reach from `setup_environment` — by any sequence of `step`,
    `rewind` and `exec` commands, for every script, stack, flag set, signature version, successor script, taproot
    commitment environment and mock-signature table — neither `StepScript(InterpreterEnv&)`, nor `Instance::step`,
    nor an `exec` ends abnormally (assertion failure, trap, undefined behaviour): each returns, reports a script error,
    or throws a C++ exception that its caller catches.
    Hypotheses: the execution data handed to `setup_environment` is initialised as the signature version requires
    (`EdReady`; trivially true for BASE / WITNESS_V0, established by `configure_tx_txin` for TAPROOT / TAPSCRIPT:
    `configureTxTxin_edReady`), and the signature checker does not die on calls that satisfy its own assertions
    (`CheckerNoAbnOn`; true of `BaseSignatureChecker` and, by `C15_txChecker_noabn`, of the transaction checker). -/
theorem C15_session_never_abnormal (cx : Ctx) (hcx : CheckerNoAbnOn cx) (tc : TapCtx)
    (stack : List Bytes) (script : Bytes) (flags : Nat) (sv : SigVersion) (successor : Bytes) (allowDisabled : Bool)
    (execdata : ExecData) (tce : Option Tce) (pm : List (Bytes × Bytes)) (pk : List Bytes) (e0 e : IEnv)
    (hsetup : setupEnvironment stack script flags sv successor allowDisabled execdata tce pm pk = .ok e0)
    (hed : EdReady sv execdata) (hreach : Reach cx tc e0 e) :
    (∀ k, stepSession cx tc e ≠ .error (.abnormal k)) ∧
    (∀ k, instStep cx tc e ≠ .error (.abnormal k)) ∧
    (∀ args e' err, instEval cx e args = some (e', err) → ∀ k, err ≠ some (.abnormal k)) := by
  have h := (reach_ready cx hcx tc e0 e (setupEnvironment_safe hsetup hed).ready hreach).never_abnormal hcx tc
  exact ⟨h.1, h.2.1, h.2.2.1⟩

/-- **C15, run to completion** (`C08_no_abnormal_partial` covers operation steps only): from every
    reachable state of a session, `ContinueScript` never ends abnormally -/
theorem C15_run_never_abnormal (cx : Ctx) (hcx : CheckerNoAbnOn cx) (tc : TapCtx)
    (stack : List Bytes) (script : Bytes) (flags : Nat) (sv : SigVersion) (successor : Bytes) (allowDisabled : Bool)
    (execdata : ExecData) (tce : Option Tce) (pm : List (Bytes × Bytes)) (pk : List Bytes) (e0 e : IEnv)
    (hsetup : setupEnvironment stack script flags sv successor allowDisabled execdata tce pm pk = .ok e0)
    (hed : EdReady sv execdata) (hreach : Reach cx tc e0 e) (fuel : Nat) :
    ∀ k, continueScript cx tc fuel e ≠ .error (.abnormal k) :=
  ((reach_ready cx hcx tc e0 e (setupEnvironment_safe hsetup hed).ready hreach).never_abnormal hcx tc).2.2.2 fuel

/-- **C15 / C08, non-interactive btcdeb** (`btcdeb <script> <stack…>` with pipes): the process never dies, for every
    script, stack, flag set and checker that satisfies `CheckerNoAbnOn` -/
theorem C15_noninteractive_never_abnormal (cx : Ctx) (hcx : CheckerNoAbnOn cx) (tc : TapCtx) (script : Bytes)
    (stack : List Bytes) (flags : Nat) (z : Bool) (k : String) :
    nonInteractive cx tc script stack flags z ≠ .abnormal k := by
  intro h
  unfold nonInteractive at h
  split at h
  · cases h
  · split at h
    · cases h
    · rename_i e0 hs
      have hed : EdReady .BASE ({} : ExecData) := edReady_base _
      have hr := (setupEnvironment_safe hs hed).ready
      split at h
      · cases h
      · cases h
      · cases h
      · rename_i k' hk
        exact continueScript_noabn cx hcx tc _ e0 hr k' hk

/-- the checker of a session without `--tx` (`BaseSignatureChecker`) satisfies the hypothesis -/
theorem C15_base_checker (cx : Ctx) (h : ∀ a b c d, cx.checkSchnorr a b c d = .error (.script .UNKNOWN_ERROR)) :
    CheckerNoAbnOn cx :=
  (C08.base_checker_noabn cx h).on

/-- **C15, the P2SH hand-over.**  In a session driven by `step` and `rewind` alone, whenever the end of a
    P2SH-pattern script is reached (`pc = []`, `is_p2sh`), the stack saved for the redeem script is not empty: the
    check there (`SCRIPT_ERR_INVALID_STACK_OPERATION` since /repo 16ab03e, `assert(!stack.empty())` before) is
    never reached.  With `exec` it is: the command can put the hashed item on the stack after the empty stack
    was saved, which crashed the tool before that commit. -/
theorem C15_p2sh_saved_stack_nonempty (cx : Ctx) (tc : TapCtx)
    (stack : List Bytes) (script : Bytes) (flags : Nat) (sv : SigVersion) (successor : Bytes) (allowDisabled : Bool)
    (execdata : ExecData) (tce : Option Tce) (pm : List (Bytes × Bytes)) (pk : List Bytes) (e0 e : IEnv)
    (hsetup : setupEnvironment stack script flags sv successor allowDisabled execdata tce pm pk = .ok e0)
    (hed : EdReady sv execdata) (hreach : ReachSR cx tc e0 e) (hpc : e.pc = []) (hp : e.isP2sh = true) :
    e.p2shStack ≠ [] :=
  (reachSR_safe cx tc e0 e (setupEnvironment_safe hsetup hed) hreach).saved_nonempty hpc hp

/-- **C15, transaction checker.**  `TransactionSignatureChecker(tx, nIn, amount, txdata, FAIL)` as a `Ctx`: on every
    `CheckSchnorrSignature` call whose arguments satisfy the assertions of `SignatureHashSchnorr` (`SchnorrReady`:
    signature version TAPROOT or TAPSCRIPT, `m_annex_init`, and for tapscript `m_tapleaf_hash_init`,
    `m_codeseparator_pos_init`) it returns true/false or throws — provided the input index exists.
    Sessions only make such calls: `evalChecksig` passes `.TAPROOT` or the session's TAPSCRIPT version together with
    the session's execution data, which is `EdReady` (see `step_noabn_on`). -/
theorem C15_txChecker_noabn (cr : SigCrypto) (base : Ctx) (tx : Tx) (nIn : Nat) (amount : Int) (txdata : PrecomputedTxData)
    (hin : nIn < tx.vin.length) : CheckerNoAbnOn (txCheckerWith cr base tx nIn amount txdata) :=
  txCheckerWith_noabn cr base tx nIn amount txdata hin

/-- the same for the concrete checker the driver runs, whatever `txdata.Init` was given -/
theorem C15_glue_checker_noabn (tx : Tx) (nIn : Nat) (amount : Int) (init : Option (List TxOut × Bool))
    (hin : nIn < tx.vin.length) : CheckerNoAbnOn (Glue.checkerBuilder.build tx nIn amount init) := by
  unfold Glue.checkerBuilder
  simp only [txChecker]
  exact txCheckerWith_noabn _ _ tx nIn amount _ hin

/-- the assertions are real: outside `SchnorrReady` the checker dies (here: a BASE signature version).  No session
    makes such a call: under BASE / WITNESS_V0 `evalChecksig` takes the ECDSA path and `OP_CHECKSIGADD` is a
    `BAD_OPCODE`. -/
theorem C15_txChecker_asserts (cr : SigCrypto) (base : Ctx) (tx : Tx) (nIn : Nat) (amount : Int)
    (txdata : PrecomputedTxData) (sig key : Bytes) (ed : ExecData) :
    (txCheckerWith cr base tx nIn amount txdata).checkSchnorr sig key .BASE ed =
      .error (.abnormal "assert(sigversion == TAPROOT || sigversion == TAPSCRIPT)") := by
  simp [txCheckerWith, checkSchnorrSignatureM]

/-- the ECDSA side, unabridged (`Ctx.checkECDSA` is its Boolean answer): `SignatureHash` asserts `nIn < vin.size()`
    and nothing else; `HandleMissingData(FAIL)` returns false -/
theorem C15_txChecker_ecdsa_noabn (cr : SigCrypto) (tx : Tx) (nIn : Nat) (amount : Int) (txdata : PrecomputedTxData)
    (sig key code : Bytes) (sv : SigVersion) (hin : nIn < tx.vin.length) (k : String) :
    checkECDSASignatureM cr tx nIn amount txdata .fail sig key code sv ≠ .error (.abnormal k) :=
  checkECDSASignatureM_noabn cr tx nIn amount txdata sig key code sv hin k

/-- **C15, start-up.**  `spendSetup` (`parse_transaction` … `setup_environment`) ends abnormally ONLY if the
    value-expression evaluator does so on the `--pretend-valid` text -/
theorem C15_spendSetup_abnormal_only_pretend (h : HashCtx) (tc : TapCtx) (vcx : VCtx) (cb : CheckerBuilder)
    (a : SpendArgs) (k : String) (hk : spendSetup h tc vcx cb a = .error (.abnormal k)) :
    ∃ p, a.pretend = some p ∧ parsePretendValidExpr vcx p = .error (.abnormal k) := by
  have := spendSetup_outcome h tc vcx cb a
  rw [hk] at this
  exact this

/-- …which it never does (`parsePretendValidExpr_noabn`): start-up never ends abnormally -/
theorem C15_spendSetup_noabn (h : HashCtx) (tc : TapCtx) (vcx : VCtx) (cb : CheckerBuilder) (a : SpendArgs)
    (k : String) : spendSetup h tc vcx cb a ≠ .error (.abnormal k) := fun hk =>
  have ⟨p, _, hp⟩ := C15_spendSetup_abnormal_only_pretend h tc vcx cb a k hk
  parsePretendValidExpr_noabn vcx p k hp

/-- what `configure_tx_txin` leaves is initialised as its signature version requires -/
theorem C15_configure_edReady (h : HashCtx) (tc : TapCtx) (tx txin : Tx) (idx vout : Nat) (sv : SigVersion)
    (c : Configured) (hc : configureTxTxin h tc tx txin idx vout sv = some c) : EdReady c.sigver c.execdata :=
  configureTxTxin_edReady h tc tx txin idx vout sv c hc

/-- a session that `spendSetup` starts: invariants hold, the checker's input index exists, and `txdata.Init` got one
    spent output per input (its own assertion holds) -/
theorem C15_spendSetup_good (h : HashCtx) (tc : TapCtx) (vcx : VCtx) (cb : CheckerBuilder) (a : SpendArgs)
    (s : SpendSession) (hk : spendSetup h tc vcx cb a = .ok (.ok s)) : s.Good cb := by
  have := spendSetup_outcome h tc vcx cb a
  rw [hk] at this
  exact this s rfl

/-- `PrecomputedTransactionData::Init` as `setup_environment` calls it never asserts -/
theorem C15_spend_init_never_asserts (cr : SigCrypto) (h : HashCtx) (tc : TapCtx) (vcx : VCtx) (cb : CheckerBuilder)
    (a : SpendArgs) (s : SpendSession) (hk : spendSetup h tc vcx cb a = .ok (.ok s)) :
    ∃ (tx : Tx) (nIn : Nat) (amount : Int) (init : Option (List TxOut × Bool)),
      s.cx = cb.build tx nIn amount init ∧
      ∀ spent force, init = some (spent, force) → ∃ d, precomputeInit cr tx spent force = .ok d := by
  obtain ⟨tx, nIn, amount, init, hcx, _, hinit⟩ := (C15_spendSetup_good h tc vcx cb a s hk).checker
  refine ⟨tx, nIn, amount, init, hcx, ?_⟩
  intro spent force hi
  have hl := hinit spent force hi
  unfold precomputeInit
  simp [hl]

/-- **C15, `--tx` sessions end to end.**  A session started by `spendSetup` — any transaction text, `--txin`,
    `--select`, flags, `--pretend-valid`, explicit script and stack — with a checker builder whose checkers satisfy
    `CheckerNoAbnOn` for existing input indices (true of the real one: `C15_glue_checker_noabn`) never ends
    abnormally in any state reachable by `step`, `rewind`, `exec`, nor when run to completion. -/
theorem C15_spend_session_never_abnormal (h : HashCtx) (tc : TapCtx) (vcx : VCtx) (cb : CheckerBuilder)
    (hcb : ∀ tx nIn amount init, nIn < tx.vin.length → CheckerNoAbnOn (cb.build tx nIn amount init))
    (a : SpendArgs) (s : SpendSession) (hk : spendSetup h tc vcx cb a = .ok (.ok s)) (e : IEnv)
    (hreach : Reach s.cx tc s.env e) :
    (∀ k, stepSession s.cx tc e ≠ .error (.abnormal k)) ∧
    (∀ args e' err, instEval s.cx e args = some (e', err) → ∀ k, err ≠ some (.abnormal k)) ∧
    (∀ fuel k, continueScript s.cx tc fuel e ≠ .error (.abnormal k)) := by
  have hg := C15_spendSetup_good h tc vcx cb a s hk
  obtain ⟨tx, nIn, amount, init, hcxeq, hin, _⟩ := hg.checker
  have hcx : CheckerNoAbnOn s.cx := by rw [hcxeq]; exact hcb tx nIn amount init hin
  have h := (reach_ready s.cx hcx tc s.env e hg.safe.ready hreach).never_abnormal hcx tc
  exact ⟨h.1, h.2.2.1, h.2.2.2⟩

/-- the same for the concrete instance the driver runs against the C++ -/
theorem C15_glue_spend_session_never_abnormal (h : HashCtx) (tc : TapCtx) (vcx : VCtx) (a : SpendArgs) (s : SpendSession)
    (hk : spendSetup h tc vcx Glue.checkerBuilder a = .ok (.ok s)) (e : IEnv) (hreach : Reach s.cx tc s.env e) :
    (∀ k, stepSession s.cx tc e ≠ .error (.abnormal k)) ∧
    (∀ args e' err, instEval s.cx e args = some (e', err) → ∀ k, err ≠ some (.abnormal k)) ∧
    (∀ fuel k, continueScript s.cx tc fuel e ≠ .error (.abnormal k)) :=
  C15_spend_session_never_abnormal h tc vcx Glue.checkerBuilder
    (fun tx nIn amount init hin => C15_glue_checker_noabn tx nIn amount init hin) a s hk e hreach

/-- **C15, `btcc argv`.**  Whatever the arguments: no abnormal outcome — the read past the end of the string and
    `args_string[-1]` are unreachable; a script number overflow in `int(…)` is caught by `main` (exit status 1);
    nesting beyond 200 levels is a parse error (exit status 1). -/
theorem C15_btcc_noabn (cx : VCtx) (argv : List Bytes) (k : String) : btcc cx argv ≠ .error (.abnormal k) :=
  btcc_noabn cx argv k

/-- **C15, `Value(text)`** (how btcdeb and tap read script and stack arguments, `--pretend-valid` fields, …) -/
theorem C15_valueData_noabn (cx : VCtx) (text : Bytes) (k : String) : valueData cx text ≠ .error (.abnormal k) :=
  valueData_noabn cx text k

/-- the constructor in general: whatever nesting budget and whatever length argument is passed -/
theorem C15_valueOf_noabn (cx : VCtx) (fuel : Nat) (full : Bytes) (vlen : Nat) (k : String) :
    valueOf cx fuel full vlen ≠ .error (.abnormal k) :=
  valueOf_noabn cx fuel full vlen k

/-- appending values to a script (`operator>>`) never dies: `int_value()` is only consulted for data shorter than 5 bytes -/
theorem C15_appendAll_noabn (vs : List Value) (s : Bytes) (k : String) : appendAll vs s ≠ .error (.abnormal k) :=
  appendAll_noabn vs s k

/-- the `scriptnum_error` of `btcc 'int(0x0102030405)'` is an exception the tools report: `error: script number
    overflow`, exit status 1; `Value(text)` raises it, the callers' `main`s catch it (/repo f7842e6 / 3d7351f /
    5c2ae96; uncaught before, SIGABRT) -/
theorem C15_value_exception_reported (cx : VCtx) :
    btcc cx [[105, 110, 116, 40, 48, 120, 48, 49, 48, 50, 48, 51, 48, 52, 48, 53, 41]]
      = .error (.exit1 "error: script number overflow") ∧
    valueData cx [105, 110, 116, 40, 48, 120, 48, 49, 48, 50, 48, 51, 48, 52, 48, 53, 41]
      = .error (.exc "script number overflow") := ⟨by rfl, by rfl⟩

/-- the literal above is the text `int(0x0102030405)` -/
example : "int(0x0102030405)".toList.map (fun c => UInt8.ofNat c.toNat)
    = [105, 110, 116, 40, 48, 120, 48, 49, 48, 50, 48, 51, 48, 52, 48, 53, 41] := by decide

/-- a toy context (hash functions are irrelevant to the examples) -/
def toyCtx : Ctx where
  sha256 := fun b => b
  ripemd160 := fun b => b
  sha1 := fun b => b
  checkLowS := fun _ => true
  checkLockTime := fun _ => false
  checkSequence := fun _ => false
  checkECDSA := fun _ _ _ _ => false
  checkSchnorr := fun _ _ _ _ => .error (.script .UNKNOWN_ERROR)

def toyTap : TapCtx where
  taggedHash := fun _ b => b
  checkTapTweak := fun _ _ _ _ => true

theorem toyCtx_ok : CheckerNoAbnOn toyCtx := C15_base_checker toyCtx (fun _ _ _ _ => rfl)

/-- `EdReady` is satisfiable for a tapscript session (the shape `configure_tx_txin` produces) … -/
example : EdReady .TAPSCRIPT { annexInit := true, tapleafHashInit := true, weightInit := true, weightLeft := 100 } :=
  ⟨(fun h => by cases h), (fun _ => ⟨rfl, rfl, rfl, rfl⟩)⟩

/-- … and is NOT implied by nothing: default-constructed execution data is not ready for tapscript (the model's
    `assert(execdata.m_validation_weight_left_init)` would fire on the first signature check) -/
example : ¬ EdReady .TAPSCRIPT ({} : ExecData) := by
  intro h; have := (h.2 rfl).1; cases this

/-- `SchnorrReady` is satisfiable -/
example : SchnorrReady .TAPROOT { annexInit := true } := ⟨Or.inl rfl, rfl, fun h => by cases h⟩

def toyTce : Tce :=
  { control := [], program := [], script := [0x51], pathLen := 1, p := [], q := [], k := [], leaf := [7] }

/-- a session exists and steps (here: the first Merkle step of a commitment phase), so `Reach` has more than the
    start state in it -/
example : ∃ e0 e1 : IEnv,
    setupEnvironment [] [0x51] 0 .BASE [] false {} (some toyTce) [] [] = .ok e0 ∧
    instStep toyCtx toyTap e0 = .ok e1 ∧ e1.currOpSeq = 1 ∧ Reach toyCtx toyTap e0 e1 := by
  refine ⟨_, _, rfl, rfl, rfl, .step .start rfl⟩

/-- the hypotheses of `C15_session_never_abnormal` are satisfiable together: every state of the session
    `btcdeb '[OP_DUP OP_ADD]' 1` is covered -/
example : ∃ e0 : IEnv, setupEnvironment [[1]] [0x76, 0x93] 0 .BASE [] false {} none [] [] = .ok e0 ∧
    ∀ e, Reach toyCtx toyTap e0 e → ∀ k, stepSession toyCtx toyTap e ≠ .error (.abnormal k) := by
  refine ⟨_, rfl, ?_⟩
  intro e hr
  have hs : setupEnvironment [[1]] [0x76, 0x93] 0 .BASE [] false {} none [] [] = .ok _ := rfl
  exact (C15_session_never_abnormal toyCtx toyCtx_ok toyTap _ _ _ _ _ _ _ _ _ _ _ e hs (edReady_base _) hr).1

/-- …and for the transaction checker with an input index that exists -/
example (cr : SigCrypto) (tx : Tx) (i : TxIn) (h : tx.vin = [i]) :
    CheckerNoAbnOn (txCheckerWith cr toyCtx tx 0 0 {}) :=
  C15_txChecker_noabn cr toyCtx tx 0 0 {} (by simp [h])

end Btcdeb.Proofs.C15
