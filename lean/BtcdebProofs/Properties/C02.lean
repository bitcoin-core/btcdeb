/-
  C02 — signature opcodes accept exactly the signatures valid for the BIP-defined digest.

  `Spec.txOracle p tx nIn amount spent sv annex leaf` is the specification's signature oracle for one input of a transaction
  (ECDSA over the original / BIP143 digest, BIP340 over the BIP341/342 digest, BIP65, BIP112).  Presented as a checker
  (`oracleCtx`) it satisfies `CfgRel` outright, so C01 applies to a session that uses it.  The model of
  `GenericTransactionSignatureChecker` (`txCheckerWith`) does NOT satisfy `CfgRel` (`no_cfgRel_tx`): it differs from the oracle
  on queries no session makes — legacy digests of script codes that do not decode, Schnorr checks with other execution data or
  key sizes (the C++ asserts), `CheckSequence` on negative operands.  `sameOn_tx`: the two agree on every query a session does
  make, and a session depends on its checker only through those (Lemmas/SigOps.lean); hence `C02_trace` and `C02_opcode`.
  The opcode-level statements are about `Spec.checkSig` / `Spec.execOp` / `Spec.execMultisig` with `cfg.oracle = Spec.txOracle ..`;
  `C02_opcode` carries each of them over to the model.
-/
import Btcdeb
import BtcdebProofs.Lemmas.SigOps
import BtcdebProofs.Properties.C01
import BtcdebProofs.Properties.Sighash
namespace Btcdeb.Proofs.C02
open Btcdeb Btcdeb.Model Btcdeb.Refine Btcdeb.Proofs.Sighash Btcdeb.Proofs.SigOps

/-- the specification's oracle presented as a checker -/
def oracleCtx (o : Spec.SigOracle) : Ctx where
  sha256 := o.sha256
  ripemd160 := o.ripemd160
  sha1 := o.sha1
  checkLowS := o.checkLowS
  checkLockTime := o.checkLockTime
  checkSequence := o.checkSequence
  checkECDSA := o.ecdsa
  checkSchnorr := fun sig key sv ed =>
    match o.schnorr sig key sv ed.codesepPos with
    | .ok () => .ok ()
    | .error x => .error (.script x)

/-- the part of `CfgRel` that does not concern the checker: flags, signature version, `--allow-disabled-opcodes`,
    MINIMALDATA, and the mock-signature tables (C11) -/
structure CfgFrame (e : SEE) (cfg : Spec.Cfg) : Prop where
  flags : cfg.flags = e.flags
  sv : cfg.sigversion = e.sigversion
  z : cfg.allowDisabled = e.allowDisabled
  rm : e.requireMinimal = hasFlag e.flags Flag.MINIMALDATA
  pretendKeys : ∀ key, e.pretendKeys.contains key = Spec.keyListed cfg key
  pretendPair : ∀ sig key, e.pretendKeys.contains key = true →
    pretendHas e.pretendMap sig key = Spec.pairListed cfg sig key

theorem cfgRel_oracle (e : SEE) (cfg : Spec.Cfg) (hf : CfgFrame e cfg) : CfgRel (oracleCtx cfg.oracle) e cfg where
  flags := hf.flags
  sv := hf.sv
  z := hf.z
  rm := hf.rm
  sha256 := rfl
  ripemd160 := rfl
  sha1 := rfl
  checkLowS := rfl
  checkLockTime := rfl
  checkSequence := rfl
  ecdsa := rfl
  schnorr := by
    intro sig key sv ed
    simp only [oracleCtx]
    cases h : cfg.oracle.schnorr sig key sv ed.codesepPos with
    | ok u => cases u; simp [RelUnit]
    | error x => simp [RelUnit, errAbs, isAbnormal]
  pretendKeys := hf.pretendKeys
  pretendPair := hf.pretendPair

/-- the primitives of the specification are those the model's checker is built from -/
structure PrimsMatch (p : Spec.Prims) (cr : SigCrypto) (base : Ctx) : Prop where
  sha256 : p.sha256 = cr.sha256
  sha256Op : p.sha256 = base.sha256
  ripemd160 : p.ripemd160 = base.ripemd160
  sha1 : p.sha1 = base.sha1
  ecdsaVerify : p.ecdsaVerify = cr.ecdsaVerify
  schnorrVerify : p.schnorrVerify = cr.schnorrVerify
  checkLowS : p.checkLowS = base.checkLowS

def primsOf (cr : SigCrypto) (base : Ctx) (tap : Spec.TapOracle) : Spec.Prims where
  sha256 := cr.sha256
  ripemd160 := base.ripemd160
  sha1 := base.sha1
  ecdsaVerify := cr.ecdsaVerify
  schnorrVerify := cr.schnorrVerify
  checkLowS := base.checkLowS
  tap := tap

theorem primsMatch_primsOf (cr : SigCrypto) (base : Ctx) (tap : Spec.TapOracle) (h : base.sha256 = cr.sha256) :
    PrimsMatch (primsOf cr base tap) cr base :=
  ⟨rfl, h.symm, rfl, rfl, rfl, rfl, rfl⟩

/-- what a tapscript session needs: the BIP341 data of the checker are ready, the leaf hash is known, and the execution
    data the session starts with describe the annex and the leaf (`SchnorrPre`) -/
structure TapReady (cr : SigCrypto) (tx : Tx) (nIn : Nat) (txdata : PrecomputedTxData) (annex leaf : Option Bytes)
    (ed0 : ExecData) : Prop where
  ready341 : txdata.bip341TaprootReady = true
  readySpent : txdata.spentOutputsReady = true
  pre : ∃ l, leaf = some l ∧ SchnorrPre cr ed0 tx nIn annex (some ⟨l, ed0.codesepPos⟩) .TAPSCRIPT

/-- `SchnorrPre` only reads the static part of the execution data and the code-separator position -/
theorem schnorrPre_of_static {cr : SigCrypto} {ed0 ed : ExecData} {tx : Tx} {nIn : Nat} {annex : Option Bytes} {l : Bytes}
    (h0 : SchnorrPre cr ed0 tx nIn annex (some ⟨l, ed0.codesepPos⟩) .TAPSCRIPT) (hs : edStatic ed = edStatic ed0) :
    SchnorrPre cr ed tx nIn annex (some ⟨l, ed.codesepPos⟩) .TAPSCRIPT := by
  obtain ⟨_, _, rfl⟩ := edStatic_eq_iff.mp hs
  obtain ⟨a1, a2, a3, a4, a5⟩ := h0
  exact ⟨a1, a2, a3, ⟨rfl, a4.2.1, a4.2.2.1, a4.2.2.2.1, rfl⟩, a5⟩

/-- the agreement below with the list of spent outputs given to the specification left open: the list only matters for
    BIP341, i.e. for tapscript sessions, where it must be the one the checker holds -/
theorem sameOn_txOracle (cr : SigCrypto) (base : Ctx) (p : Spec.Prims) (hp : PrimsMatch p cr base)
    (tx : Tx) (nIn : Nat) (amount : Int) (txdata : PrecomputedTxData) (spent : List TxOut) (sv : SigVersion)
    (annex leaf : Option Bytes) (ed0 : ExecData) (hin : nIn < tx.vin.length) (hcoh : Coherent cr tx txdata)
    (htap : sv = .TAPSCRIPT → spent = txdata.spentOutputs ∧ TapReady cr tx nIn txdata annex leaf ed0) :
    SameOn (txCheckerWith cr base tx nIn amount txdata)
      (oracleCtx (Spec.txOracle p tx nIn amount spent sv annex leaf)) sv (edStatic ed0) := by
  refine ⟨?_, ?_, ?_, ?_, ?_, ?_, ?_, ?_⟩
  · rw [(txChecker_base_fields cr base tx nIn amount txdata).1]; exact hp.sha256Op.symm
  · rw [(txChecker_base_fields cr base tx nIn amount txdata).2.1]; exact hp.ripemd160.symm
  · rw [(txChecker_base_fields cr base tx nIn amount txdata).2.2.1]; exact hp.sha1.symm
  · rw [(txChecker_base_fields cr base tx nIn amount txdata).2.2.2]; exact hp.checkLowS.symm
  · simp only [txCheckerWith, oracleCtx, Spec.txOracle]
    exact funext fun n => checkLockTime_eq_spec tx nIn n hin
  · intro n hn
    simp only [txCheckerWith, oracleCtx, Spec.txOracle]
    rw [← checkSequence_eq_spec tx nIn n.toNat hin, Int.toNat_of_nonneg hn]
  · intro sig key code hc
    rw [txChecker_checkECDSA cr base tx nIn amount txdata sig key code sv hin hcoh]
    · simp only [oracleCtx, Spec.txOracle]
      rw [hp.sha256, hp.ecdsaVerify]
    · intro hne
      rcases hc with ⟨_, hd⟩ | hw
      · exact hd
      · exact absurd hw hne
  · intro sig key ed hsv hk hs
    obtain ⟨hsp, h1, h2, l, hl, hpre⟩ := htap hsv
    subst hsv
    rw [txChecker_checkSchnorr cr base tx nIn amount txdata sig key .TAPSCRIPT ed annex (some ⟨l, ed.codesepPos⟩) hin hcoh h1 h2
      (schnorrPre_of_static hpre hs) hk]
    simp only [oracleCtx, Spec.txOracle, hl, hsp, beq_self_eq_true, if_true, Option.map_some, hp.sha256, hp.schnorrVerify]
    cases Spec.schnorrSigValid cr.sha256 cr.schnorrVerify tx nIn txdata.spentOutputs annex (some ⟨l, ed.codesepPos⟩) sig key <;> rfl

/-- **The model's transaction checker and the BIP oracle agree on every query of a session.**
    `txCheckerWith cr base tx nIn amount txdata` is the model of `TransactionSignatureChecker(tx, nIn, amount, txdata, FAIL)`;
    `Spec.txOracle` is built from the original digest / BIP143 / BIP341+342, ECDSA / BIP340 verification, BIP65, BIP112.
    Needs: the input exists, the cache is coherent with the transaction (true for `PrecomputedTransactionData()` and for
    the result of `Init`), and for tapscript `TapReady`. -/
theorem sameOn_tx (cr : SigCrypto) (base : Ctx) (p : Spec.Prims) (hp : PrimsMatch p cr base)
    (tx : Tx) (nIn : Nat) (amount : Int) (txdata : PrecomputedTxData) (sv : SigVersion) (annex leaf : Option Bytes)
    (ed0 : ExecData) (hin : nIn < tx.vin.length) (hcoh : Coherent cr tx txdata)
    (htap : sv = .TAPSCRIPT → TapReady cr tx nIn txdata annex leaf ed0) :
    SameOn (txCheckerWith cr base tx nIn amount txdata)
      (oracleCtx (Spec.txOracle p tx nIn amount txdata.spentOutputs sv annex leaf)) sv (edStatic ed0) :=
  sameOn_txOracle cr base p hp tx nIn amount txdata _ sv annex leaf ed0 hin hcoh (fun h => ⟨rfl, htap h⟩)

/-- Why C02 is not stated as `CfgRel (txCheckerWith ..) e cfg`: that relation asks for agreement on ALL queries, and the
    C++ checker asserts on queries no session makes (here: a Schnorr check under `SigVersion::BASE`), so the relation
    holds for NO environment and NO configuration.  `SameOn` is the relation restricted to the queries sessions make. -/
theorem no_cfgRel_tx (cr : SigCrypto) (base : Ctx) (tx : Tx) (nIn : Nat) (amount : Int) (txdata : PrecomputedTxData)
    (e : SEE) (cfg : Spec.Cfg) : ¬ CfgRel (txCheckerWith cr base tx nIn amount txdata) e cfg := by
  intro h
  have h1 := h.schnorr [] [] .BASE {}
  have h2 : (txCheckerWith cr base tx nIn amount txdata).checkSchnorr [] [] .BASE {} =
      .error (.abnormal "assert(sigversion == TAPROOT || sigversion == TAPSCRIPT)") := by
    simp only [txCheckerWith]
    simp [checkSchnorrSignatureM]
  rw [h2] at h1
  cases hs : cfg.oracle.schnorr [] [] SigVersion.BASE ({} : ExecData).codesepPos with
  | ok u => rw [hs] at h1; cases u; simp [RelUnit] at h1
  | error y => rw [hs] at h1; simp [RelUnit, isAbnormal] at h1

/-- a second obstacle, on the lock-time side: `CheckSequence` works on the 64-bit two's complement of its operand while
    BIP112 is stated for the non-negative operands the opcode lets through; on -1 they differ -/
example :
    let tx : Tx := { version := 2, vin := [⟨⟨List.replicate 32 7, 0⟩, [], 0, []⟩], vout := [], lockTime := 0 }
    checkSequenceTx tx 0 (-1) = false ∧ Spec.bip112Satisfied tx 0 ((-1 : Int).toNat) = true := by decide

/-- the configuration of the specification for one input of a transaction: the oracle is built from the BIP digests -/
def txCfg (p : Spec.Prims) (tx : Tx) (nIn : Nat) (amount : Int) (spent : List TxOut) (annex leaf : Option Bytes)
    (flags : Nat) (sv : SigVersion) (z : Bool) (pretend : List (Bytes × Bytes)) : Spec.Cfg :=
  { flags := flags, sigversion := sv, allowDisabled := z,
    oracle := Spec.txOracle p tx nIn amount spent sv annex leaf, pretend := pretend }

/-- every script that went through `Instance::parse_script` (`HasValidOps`) decodes -/
theorem decode_of_hasValidOps (s : Bytes) (h : hasValidOps s = true) : Spec.decode s ≠ none := by
  intro hn
  rw [C01.gate_is_domain, Spec.inDomain, hn] at h
  cases h

/-- **C02, stepping.**  A session on one script whose checker is the transaction signature checker
    (`TransactionSignatureChecker(tx, nIn, amount, txdata, FAIL)`, what `Instance::setup_environment` installs) visits,
    operation by operation, exactly the states that Bitcoin's script rules prescribe when signatures are judged by the
    BIP oracle `Spec.txOracle` — ECDSA over the original digest (legacy) or the BIP143 digest (segwit v0) of the script
    code from the last executed OP_CODESEPARATOR with the signature pushes removed, BIP340 over the BIP341/342 digest
    with annex, leaf hash and code-separator position (tapscript), BIP65 and BIP112 for the lock-time opcodes — and
    stops with the same outcome: the same error at the same operation, never abnormally.

    Hypotheses: the script decodes (`decode_of_hasValidOps`: every script of a session does), the input exists, the
    cache is coherent (`coherent_default`, `precomputeInit_coherent`), the two mock-signature clauses `hpk`, `hpp` (what
    `C11.parse_gives_CfgRel_clauses` establishes for the `--pretend-valid` list), and for tapscript the budget is
    initialised and `TapReady`.  The key-path context `SigVersion::TAPROOT` executes no script. -/
theorem C02_trace (cr : SigCrypto) (base : Ctx) (p : Spec.Prims) (hp : PrimsMatch p cr base)
    (tx : Tx) (nIn : Nat) (amount : Int) (txdata : PrecomputedTxData) (annex leaf : Option Bytes) (tc : TapCtx)
    (stack : List Bytes) (script : Bytes) (flags : Nat) (sv : SigVersion) (z : Bool) (ed : ExecData)
    (pm pretend : List (Bytes × Bytes)) (e0 : IEnv)
    (hsetup : setupEnvironment stack script flags sv [] z ed none pm (pm.map (·.2)) = .ok e0)
    (hdec : Spec.decode script ≠ none) (hin : nIn < tx.vin.length) (hcoh : Coherent cr tx txdata)
    (hsv : sv ≠ .TAPROOT)
    (htap : sv = .TAPSCRIPT → ed.weightInit = true ∧ TapReady cr tx nIn txdata annex leaf ed)
    (hpk : ∀ key, (pm.map (·.2)).contains key = pretend.any (fun q => q.2 == key))
    (hpp : ∀ sig key, (pm.map (·.2)).contains key = true →
      pretendHas pm sig key = pretend.contains (sig, key)) :
    RelRun (runOps (txCheckerWith cr base tx nIn amount txdata) tc script.length e0)
      (Spec.evalInstrs (txCfg p tx nIn amount txdata.spentOutputs annex leaf flags sv z pretend)
        (Spec.decodePrefix script.length script).1 0 (C01.initSt stack script ed))
      true := by
  let cfg := txCfg p tx nIn amount txdata.spentOutputs annex leaf flags sv z pretend
  -- C01 for the session that uses the oracle itself
  have h1 := C01.C01_trace (oracleCtx cfg.oracle) tc cfg stack script flags sv z ed pm e0 hsetup
    (cfgRel_oracle e0.see cfg (by obtain ⟨-, -, -, rfl⟩ := setupEnvironment_ok hsetup; exact ⟨rfl, rfl, rfl, rfl, hpk, hpp⟩))
    (fun h => (htap h).1)
  rw [(decode_iff_complete script).mp hdec] at h1
  -- the two sessions coincide
  have hinv : RunInv e0 (edStatic ed) := runInv_setup hsetup hsv ((parses_iff_decode script).mpr hdec)
  obtain ⟨-, -, -, rfl⟩ := setupEnvironment_ok hsetup
  rw [runOps_congr _ _ tc (edStatic ed) script.length _ rfl
    (sameOn_tx cr base p hp tx nIn amount txdata sv annex leaf ed hin hcoh (fun h => (htap h).2)) hinv]
  exact h1

/-- **C02, one opcode.**  For every opcode: the `switch` of `StepScript` with the transaction checker refines the
    specification's `execOp` with the BIP oracle (same resulting state, or the same script error).  The opcode-level
    statements of section `SpecSide` below (about `Spec.execOp` / `Spec.checkSig` / `Spec.execMultisig`) carry over to the
    model through this theorem, as section `ModelSide` does for some of them. -/
theorem C02_opcode (cr : SigCrypto) (base : Ctx) (p : Spec.Prims) (hp : PrimsMatch p cr base)
    (tx : Tx) (nIn : Nat) (amount : Int) (txdata : PrecomputedTxData) (annex leaf : Option Bytes)
    (pretend : List (Bytes × Bytes)) (e : SEE) (st : Spec.St)
    (hin : nIn < tx.vin.length) (hcoh : Coherent cr tx txdata)
    (hsv : e.sigversion ≠ .TAPROOT)
    (hcode : e.sigversion = .BASE → Spec.decode e.pbegincodehash ≠ none ∧ e.pbegincodehash.length < 2 ^ 32)
    (htap : e.sigversion = .TAPSCRIPT → e.execdata.weightInit = true ∧ TapReady cr tx nIn txdata annex leaf e.execdata)
    (hframe : CfgFrame e (txCfg p tx nIn amount txdata.spentOutputs annex leaf e.flags e.sigversion e.allowDisabled pretend))
    (hrel : Rel e st) (op : Opcode) (fExec : Bool) (pc : Bytes) :
    RelOut (execOpcode (txCheckerWith cr base tx nIn amount txdata) e op fExec pc)
      (Spec.execOp (txCfg p tx nIn amount txdata.spentOutputs annex leaf e.flags e.sigversion e.allowDisabled pretend)
        op fExec pc e.opcodePos st) := by
  have hsame := sameOn_tx cr base p hp tx nIn amount txdata e.sigversion annex leaf e.execdata hin hcoh (fun h => (htap h).2)
  rw [execOpcode_congr hsame ⟨hsv, hcode, rfl⟩ op fExec pc]
  exact execOpcode_refines op _ _ e st fExec pc (cfgRel_oracle e _ hframe) hrel (fun h => (htap h).1)

section SpecSide
open Spec

/-- the oracle of `txCfg`: ECDSA validity over the original / BIP143 digest -/
theorem txCfg_ecdsa (p : Prims) (tx : Tx) (nIn : Nat) (amount : Int) (spent : List TxOut) (annex leaf : Option Bytes)
    (flags : Nat) (sv : SigVersion) (z : Bool) (pretend : List (Bytes × Bytes)) (sig key code : Bytes) (sv' : SigVersion) :
    (txCfg p tx nIn amount spent annex leaf flags sv z pretend).oracle.ecdsa sig key code sv' =
      ecdsaSigValid p.sha256 p.ecdsaVerify tx nIn amount sig key code sv' := rfl

/-- the oracle of `txCfg` in a tapscript session with leaf hash `l`: BIP340 validity over the BIP341 digest extended (BIP342)
    with the leaf hash and the position of the last executed OP_CODESEPARATOR -/
theorem txCfg_schnorr (p : Prims) (tx : Tx) (nIn : Nat) (amount : Int) (spent : List TxOut) (annex : Option Bytes) (l : Bytes)
    (flags : Nat) (z : Bool) (pretend : List (Bytes × Bytes)) (sig key : Bytes) (csp : Nat) :
    (txCfg p tx nIn amount spent annex (some l) flags .TAPSCRIPT z pretend).oracle.schnorr sig key .TAPSCRIPT csp =
      schnorrSigValid p.sha256 p.schnorrVerify tx nIn spent annex (some ⟨l, csp⟩) sig key := rfl


theorem execOp_CHECKSIGADD_pretapscript (cfg : Cfg) (st : St) (hsv : cfg.sigversion = .BASE ∨ cfg.sigversion = .WITNESS_V0)
    (exec : Bool) (after : Bytes) (pos : Nat) :
    execOp cfg .OP_CHECKSIGADD exec after pos st = .error .BAD_OPCODE := by
  rw [execOp_CHECKSIGADD]
  rcases hsv with h | h <;> simp [h]


/-- the script code that a legacy / segwit-v0 check of `sig` signs: the script from the last executed OP_CODESEPARATOR on
    (`codeFrom`), for legacy scripts with every push of `sig` removed (FindAndDelete) -/
def signedCode (cfg : Cfg) (st : St) (sig : Bytes) : Bytes :=
  if cfg.sigversion == .BASE then (Spec.findAndDelete st.codeFrom (pushOf sig)).1 else st.codeFrom

/-- legacy only: the signature occurs in the script code and CONST_SCRIPTCODE forbids removing it -/
def fadRefused (cfg : Cfg) (st : St) (sig : Bytes) : Bool :=
  cfg.sigversion == .BASE && decide ((Spec.findAndDelete st.codeFrom (pushOf sig)).2 > 0) && hasFlag cfg.flags Flag.CONST_SCRIPTCODE

/-- **The decision table of one legacy / segwit-v0 signature check**, in the order of the checks:
    FindAndDelete under CONST_SCRIPTCODE, signature encoding, key encoding, the oracle, NULLFAIL. -/
theorem checkSig_pretapscript (cfg : Cfg) (st : St) (sig key : Bytes)
    (hsv : cfg.sigversion = .BASE ∨ cfg.sigversion = .WITNESS_V0) (hmock : mockHit cfg sig key = false) :
    checkSig cfg st sig key =
      if fadRefused cfg st sig then .error .SIG_FINDANDDELETE
      else match sigEncodingOk cfg sig with
        | .error x => .error x
        | .ok () =>
          match keyEncodingOk cfg key with
          | .error x => .error x
          | .ok () =>
            if !cfg.oracle.ecdsa sig key (signedCode cfg st sig) cfg.sigversion && hasFlag cfg.flags Flag.NULLFAIL && !sig.isEmpty
            then .error .SIG_NULLFAIL
            else .ok (cfg.oracle.ecdsa sig key (signedCode cfg st sig) cfg.sigversion, st) := by
  unfold checkSig fadRefused signedCode
  simp only [hmock, Bool.false_eq_true, if_false]
  rcases hsv with h | h
  · simp only [h, beq_self_eq_true, if_true, Bool.true_and]
    by_cases hf : (decide ((Spec.findAndDelete st.codeFrom (pushOf sig)).2 > 0) && hasFlag cfg.flags Flag.CONST_SCRIPTCODE) = true
    · simp only [hf, if_true]; rfl
    · simp only [hf, Bool.false_eq_true, if_false]
      cases sigEncodingOk cfg sig with
      | error x => rfl
      | ok u =>
        cases keyEncodingOk cfg key with
        | error x => rfl
        | ok u' =>
          simp only [pure_bind, specOk_bind]
          split <;> rfl
  · have hb : (SigVersion.WITNESS_V0 == SigVersion.BASE) = false := by decide
    simp only [h, hb, Bool.false_and, Bool.false_eq_true, if_false]
    cases sigEncodingOk cfg sig with
    | error x => rfl
    | ok u =>
      cases keyEncodingOk cfg key with
      | error x => rfl
      | ok u' =>
        simp only [pure_bind, specOk_bind]
        split <;> rfl

/-- the stack-size check after a signature opcode cannot fail when the stack does not grow -/
private theorem checkSize_ok (st : St) (h : st.stack.length + st.alt.length ≤ maxStackSize) : checkSize st = .ok st := by
  unfold checkSize
  simp [show ¬ (st.stack.length + st.alt.length > maxStackSize) by omega]

/-- the hypotheses under which the outcome of OP_CHECKSIG(VERIFY) is decided by the signature alone: the pair is not a
    mock pair, FindAndDelete is not refused, signature and key are well encoded for the active flags -/
structure WellFormedCheck (cfg : Cfg) (st : St) (sig key : Bytes) : Prop where
  mock : mockHit cfg sig key = false
  fad : fadRefused cfg st sig = false
  sigEnc : sigEncodingOk cfg sig = .ok ()
  keyEnc : keyEncodingOk cfg key = .ok ()

theorem checkSig_wellFormed (cfg : Cfg) (st : St) (sig key : Bytes)
    (hsv : cfg.sigversion = .BASE ∨ cfg.sigversion = .WITNESS_V0) (hw : WellFormedCheck cfg st sig key) :
    checkSig cfg st sig key =
      if !cfg.oracle.ecdsa sig key (signedCode cfg st sig) cfg.sigversion && hasFlag cfg.flags Flag.NULLFAIL && !sig.isEmpty
      then .error .SIG_NULLFAIL
      else .ok (cfg.oracle.ecdsa sig key (signedCode cfg st sig) cfg.sigversion, st) := by
  rw [checkSig_pretapscript cfg st sig key hsv hw.mock, hw.fad, hw.sigEnc, hw.keyEnc]
  rfl

/-- **OP_CHECKSIG, legacy / segwit v0.**  With a well-encoded signature and key on the stack, OP_CHECKSIG replaces them
    by `true` exactly when the signature is a valid ECDSA signature by the key over the BIP-defined digest (original
    algorithm for legacy, BIP143 for segwit v0) of the signed script code; otherwise it pushes `false` — or fails with
    SIG_NULLFAIL when NULLFAIL is active and the signature is not empty. -/
theorem C02_checksig_ecdsa (p : Prims) (tx : Tx) (nIn : Nat) (amount : Int) (spent : List TxOut) (annex leaf : Option Bytes)
    (flags : Nat) (sv : SigVersion) (z : Bool) (pretend : List (Bytes × Bytes)) (hsv : sv = .BASE ∨ sv = .WITNESS_V0)
    (st : St) (key sig : Bytes) (s : List Bytes) (hst : st.stack = key :: sig :: s)
    (hw : WellFormedCheck (txCfg p tx nIn amount spent annex leaf flags sv z pretend) st sig key)
    (exec : Bool) (after : Bytes) (pos : Nat) :
    execOp (txCfg p tx nIn amount spent annex leaf flags sv z pretend) .OP_CHECKSIG exec after pos st =
      let valid := ecdsaSigValid p.sha256 p.ecdsaVerify tx nIn amount sig key
        (signedCode (txCfg p tx nIn amount spent annex leaf flags sv z pretend) st sig) sv
      if !valid && hasFlag flags Flag.NULLFAIL && !sig.isEmpty then .error .SIG_NULLFAIL
      else checkSize { st with stack := ofBool valid :: s } := by
  simp only [execOp_CHECKSIG, hst]
  rw [checkSig_wellFormed _ st sig key hsv hw]
  simp only [txCfg_ecdsa]
  show (if (!ecdsaSigValid p.sha256 p.ecdsaVerify tx nIn amount sig key _ sv && hasFlag flags Flag.NULLFAIL && !sig.isEmpty) = true
      then _ else _) >>= _ = _
  split <;> rfl

/-- **OP_CHECKSIGVERIFY, legacy / segwit v0**: succeeds (removing signature and key) exactly when the signature is valid;
    otherwise SIG_NULLFAIL (flag active, signature not empty) or CHECKSIGVERIFY. -/
theorem C02_checksigverify_ecdsa (p : Prims) (tx : Tx) (nIn : Nat) (amount : Int) (spent : List TxOut) (annex leaf : Option Bytes)
    (flags : Nat) (sv : SigVersion) (z : Bool) (pretend : List (Bytes × Bytes)) (hsv : sv = .BASE ∨ sv = .WITNESS_V0)
    (st : St) (key sig : Bytes) (s : List Bytes) (hst : st.stack = key :: sig :: s)
    (hw : WellFormedCheck (txCfg p tx nIn amount spent annex leaf flags sv z pretend) st sig key)
    (exec : Bool) (after : Bytes) (pos : Nat) :
    execOp (txCfg p tx nIn amount spent annex leaf flags sv z pretend) .OP_CHECKSIGVERIFY exec after pos st =
      let valid := ecdsaSigValid p.sha256 p.ecdsaVerify tx nIn amount sig key
        (signedCode (txCfg p tx nIn amount spent annex leaf flags sv z pretend) st sig) sv
      if !valid && hasFlag flags Flag.NULLFAIL && !sig.isEmpty then .error .SIG_NULLFAIL
      else if valid then checkSize { st with stack := s } else .error .CHECKSIGVERIFY := by
  simp only [execOp_CHECKSIGVERIFY, hst]
  rw [checkSig_wellFormed _ st sig key hsv hw]
  simp only [txCfg_ecdsa]
  show (if (!ecdsaSigValid p.sha256 p.ecdsaVerify tx nIn amount sig key _ sv && hasFlag flags Flag.NULLFAIL && !sig.isEmpty) = true
      then _ else _) >>= _ = _
  split <;> rfl

/-- **"exactly when".**  OP_CHECKSIG leaves `true` (the byte string 01) on top exactly when the signature is valid (and the
    stack limit is respected). -/
theorem C02_checksig_true_iff (p : Prims) (tx : Tx) (nIn : Nat) (amount : Int) (spent : List TxOut) (annex leaf : Option Bytes)
    (flags : Nat) (sv : SigVersion) (z : Bool) (pretend : List (Bytes × Bytes)) (hsv : sv = .BASE ∨ sv = .WITNESS_V0)
    (st : St) (key sig : Bytes) (s : List Bytes) (hst : st.stack = key :: sig :: s)
    (hw : WellFormedCheck (txCfg p tx nIn amount spent annex leaf flags sv z pretend) st sig key)
    (exec : Bool) (after : Bytes) (pos : Nat) :
    (∃ st', execOp (txCfg p tx nIn amount spent annex leaf flags sv z pretend) .OP_CHECKSIG exec after pos st = .ok st'
        ∧ st'.stack = [1] :: s) ↔
      (ecdsaSigValid p.sha256 p.ecdsaVerify tx nIn amount sig key
        (signedCode (txCfg p tx nIn amount spent annex leaf flags sv z pretend) st sig) sv = true
       ∧ s.length + 1 + st.alt.length ≤ maxStackSize) := by
  rw [C02_checksig_ecdsa p tx nIn amount spent annex leaf flags sv z pretend hsv st key sig s hst hw]
  simp only
  cases hv : ecdsaSigValid p.sha256 p.ecdsaVerify tx nIn amount sig key
      (signedCode (txCfg p tx nIn amount spent annex leaf flags sv z pretend) st sig) sv
  · simp only [Bool.not_false, Bool.true_and, ofBool, Bool.false_eq_true, if_false, false_and, iff_false]
    rintro ⟨st', h1, h2⟩
    split at h1
    · cases h1
    · unfold checkSize at h1
      split at h1
      · cases h1
      · cases h1; simp at h2
  · simp only [Bool.not_true, Bool.false_and, Bool.false_eq_true, if_false, ofBool, if_true, true_and]
    unfold checkSize
    simp only [List.length_cons]
    constructor
    · rintro ⟨st', h1, _⟩
      split at h1
      · cases h1
      · omega
    · intro h
      have : ¬ (s.length + 1 + st.alt.length > maxStackSize) := by omega
      exact ⟨_, by rw [if_neg this], rfl⟩


/-- a malformed signature / key makes OP_CHECKSIG(VERIFY) fail with the encoding error, before any digest is computed
    (signature first, then key) -/
theorem checkSig_encoding_error (cfg : Cfg) (st : St) (sig key : Bytes)
    (hsv : cfg.sigversion = .BASE ∨ cfg.sigversion = .WITNESS_V0) (hmock : mockHit cfg sig key = false)
    (hfad : fadRefused cfg st sig = false) (x : ScriptError)
    (h : sigEncodingOk cfg sig = .error x ∨ (sigEncodingOk cfg sig = .ok () ∧ keyEncodingOk cfg key = .error x)) :
    checkSig cfg st sig key = .error x := by
  rw [checkSig_pretapscript cfg st sig key hsv hmock, hfad]
  rcases h with h | ⟨h1, h2⟩
  · simp [h]
  · simp [h1, h2]

/-- **which signature encoding error, and when**: the rows of `CheckSignatureEncoding`, each with the conditions under which
    the earlier rows let it be reached -/
theorem sigEncodingOk_error_iff (cfg : Cfg) (sig : Bytes) (x : ScriptError) :
    sigEncodingOk cfg sig = .error x ↔ sig ≠ [] ∧
      ((x = .SIG_DER ∧ (hasFlag cfg.flags Flag.DERSIG = true ∨ hasFlag cfg.flags Flag.LOW_S = true ∨ hasFlag cfg.flags Flag.STRICTENC = true)
          ∧ strictDer sig = false) ∨
       (x = .SIG_HIGH_S ∧ hasFlag cfg.flags Flag.LOW_S = true ∧ strictDer sig = true ∧ cfg.oracle.checkLowS sig.dropLast = false) ∨
       (x = .SIG_HASHTYPE ∧ hasFlag cfg.flags Flag.STRICTENC = true ∧ strictDer sig = true
          ∧ (hasFlag cfg.flags Flag.LOW_S = true → cfg.oracle.checkLowS sig.dropLast = true) ∧ definedHashtype sig = false)) := by
  unfold sigEncodingOk
  cases sig with
  | nil => simp
  | cons b r =>
    -- a signature that is not strict DER is judged by the three flags alone; a strict one by LOW_S and STRICTENC
    cases strictDer (b :: r)
    · cases hasFlag cfg.flags Flag.DERSIG <;> cases hasFlag cfg.flags Flag.LOW_S <;> cases hasFlag cfg.flags Flag.STRICTENC <;>
        simp [@eq_comm _ _ x]
    · cases hasFlag cfg.flags Flag.LOW_S <;> cases hasFlag cfg.flags Flag.STRICTENC <;>
        cases cfg.oracle.checkLowS (b :: r).dropLast <;> cases definedHashtype (b :: r) <;> simp [@eq_comm _ _ x]

/-- SIG_DER: a non-empty signature that is not strict DER (BIP66) under any of DERSIG, LOW_S, STRICTENC -/
theorem sigEncoding_der_iff (cfg : Cfg) (sig : Bytes) :
    sigEncodingOk cfg sig = .error .SIG_DER ↔
      sig ≠ [] ∧ (hasFlag cfg.flags Flag.DERSIG = true ∨ hasFlag cfg.flags Flag.LOW_S = true ∨ hasFlag cfg.flags Flag.STRICTENC = true)
        ∧ strictDer sig = false := by
  simp [sigEncodingOk_error_iff]

/-- SIG_HIGH_S: strict DER, LOW_S active, and the S value is above half the group order -/
theorem sigEncoding_high_s_iff (cfg : Cfg) (sig : Bytes) :
    sigEncodingOk cfg sig = .error .SIG_HIGH_S ↔
      sig ≠ [] ∧ hasFlag cfg.flags Flag.LOW_S = true ∧ strictDer sig = true ∧ cfg.oracle.checkLowS sig.dropLast = false := by
  simp [sigEncodingOk_error_iff]

/-- SIG_HASHTYPE: strict DER (and low S if required), STRICTENC active, and the hash type byte is not one of
    ALL, NONE, SINGLE, each optionally with ANYONECANPAY -/
theorem sigEncoding_hashtype_iff (cfg : Cfg) (sig : Bytes) :
    sigEncodingOk cfg sig = .error .SIG_HASHTYPE ↔
      sig ≠ [] ∧ hasFlag cfg.flags Flag.STRICTENC = true ∧ strictDer sig = true
        ∧ (hasFlag cfg.flags Flag.LOW_S = true → cfg.oracle.checkLowS sig.dropLast = true) ∧ definedHashtype sig = false := by
  simp [sigEncodingOk_error_iff]

/-- these are the only signature encoding errors -/
theorem sigEncoding_errors (cfg : Cfg) (sig : Bytes) (x : ScriptError) (h : sigEncodingOk cfg sig = .error x) :
    x = .SIG_DER ∨ x = .SIG_HIGH_S ∨ x = .SIG_HASHTYPE :=
  ((sigEncodingOk_error_iff cfg sig x).mp h).2.imp And.left (Or.imp And.left And.left)

/-- the empty signature is always well encoded -/
theorem sigEncoding_empty (cfg : Cfg) : sigEncodingOk cfg [] = .ok () := by simp [sigEncodingOk]

/-- **which key encoding error, and when** (`CheckPubKeyEncoding`) -/
theorem keyEncodingOk_error_iff (cfg : Cfg) (key : Bytes) (x : ScriptError) :
    keyEncodingOk cfg key = .error x ↔
      (x = .PUBKEYTYPE ∧ hasFlag cfg.flags Flag.STRICTENC = true ∧ isCompressedOrUncompressed key = false) ∨
      (x = .WITNESS_PUBKEYTYPE ∧ (hasFlag cfg.flags Flag.STRICTENC = true → isCompressedOrUncompressed key = true)
        ∧ hasFlag cfg.flags Flag.WITNESS_PUBKEYTYPE = true ∧ cfg.sigversion = .WITNESS_V0 ∧ isCompressed key = false) := by
  unfold keyEncodingOk
  -- `CheckPubKeyEncoding` tests STRICTENC first, then WITNESS_PUBKEYTYPE under segwit v0: all combinations of the five tests
  by_cases hsv : cfg.sigversion = .WITNESS_V0 <;>
  cases hasFlag cfg.flags Flag.STRICTENC <;> cases isCompressedOrUncompressed key <;>
    cases hasFlag cfg.flags Flag.WITNESS_PUBKEYTYPE <;>
    cases isCompressed key <;> simp [hsv, @eq_comm _ _ x]

/-- PUBKEYTYPE: STRICTENC active and the key is neither compressed (33 bytes, 02/03) nor uncompressed (65 bytes, 04) -/
theorem keyEncoding_pubkeytype_iff (cfg : Cfg) (key : Bytes) :
    keyEncodingOk cfg key = .error .PUBKEYTYPE ↔
      hasFlag cfg.flags Flag.STRICTENC = true ∧ isCompressedOrUncompressed key = false := by
  simp [keyEncodingOk_error_iff]

/-- WITNESS_PUBKEYTYPE: segwit v0, the flag is active, the key passed the STRICTENC test (if any) and is not compressed -/
theorem keyEncoding_witness_pubkeytype_iff (cfg : Cfg) (key : Bytes) :
    keyEncodingOk cfg key = .error .WITNESS_PUBKEYTYPE ↔
      (hasFlag cfg.flags Flag.STRICTENC = true → isCompressedOrUncompressed key = true)
        ∧ hasFlag cfg.flags Flag.WITNESS_PUBKEYTYPE = true ∧ cfg.sigversion = .WITNESS_V0 ∧ isCompressed key = false := by
  simp [keyEncodingOk_error_iff]


/-- **The decision table of one tapscript signature check** (BIP342):
    * an empty signature is `false` and costs nothing; the key is examined all the same (PUBKEYTYPE,
      DISCOURAGE_UPGRADABLE_PUBKEYTYPE), only never verified against;
    * every non-empty signature first pays 50 from the validation weight budget (TAPSCRIPT_VALIDATION_WEIGHT when that
      goes below zero);
    * the empty key is PUBKEYTYPE; a 32-byte key makes the oracle decide a non-empty signature, and an invalid one is a
      script ERROR (not `false`); any other key size is an unknown key type: DISCOURAGE_UPGRADABLE_PUBKEYTYPE when that
      flag is active, otherwise nothing is verified and a non-empty signature counts as valid. -/
theorem checkSig_tapscript (cfg : Cfg) (st : St) (sig key : Bytes) (hsv : cfg.sigversion = .TAPSCRIPT)
    (hmock : mockHit cfg sig key = false) :
    checkSig cfg st sig key =
      if sig.isEmpty then
        (if key.isEmpty then .error .PUBKEYTYPE
         else if key.length = 32 then .ok (false, st)
         else if hasFlag cfg.flags Flag.DISCOURAGE_UPGRADABLE_PUBKEYTYPE then .error .DISCOURAGE_UPGRADABLE_PUBKEYTYPE
         else .ok (false, st))
      else if st.weightLeft - 50 < 0 then .error .TAPSCRIPT_VALIDATION_WEIGHT
      else if key.isEmpty then .error .PUBKEYTYPE
      else if key.length = 32 then
        (match cfg.oracle.schnorr sig key .TAPSCRIPT st.codesepPos with
         | .ok () => .ok (true, { st with weightLeft := st.weightLeft - 50 })
         | .error x => .error x)
      else if hasFlag cfg.flags Flag.DISCOURAGE_UPGRADABLE_PUBKEYTYPE then .error .DISCOURAGE_UPGRADABLE_PUBKEYTYPE
      else .ok (true, { st with weightLeft := st.weightLeft - 50 }) := by
  unfold checkSig
  simp only [hmock, Bool.false_eq_true, if_false, hsv]
  cases hs : sig.isEmpty
  · simp only [Bool.not_false, if_true, Bool.false_eq_true, if_false]
    by_cases hlt : st.weightLeft - 50 < 0
    · simp only [hlt, if_true]; rfl
    · simp only [hlt, if_false, pure_bind]
      cases hk : key.isEmpty
      · simp only [Bool.false_eq_true, if_false]
        by_cases h32 : key.length = 32
        · simp only [h32, if_true]
          cases cfg.oracle.schnorr sig key SigVersion.TAPSCRIPT st.codesepPos with
          | error x => rfl
          | ok u => cases u; rfl
        · simp only [h32, if_false]
      · simp only [if_true]
  · simp only [Bool.not_true, Bool.false_eq_true, if_false, if_true, pure_bind]

theorem checkSig_tapscript_known_key (cfg : Cfg) (st : St) (sig key : Bytes) (hsv : cfg.sigversion = .TAPSCRIPT)
    (hmock : mockHit cfg sig key = false) (hsig : sig ≠ []) (hk : key.length = 32) (hbudget : 50 ≤ st.weightLeft) :
    checkSig cfg st sig key =
      match cfg.oracle.schnorr sig key .TAPSCRIPT st.codesepPos with
      | .ok () => .ok (true, { st with weightLeft := st.weightLeft - 50 })
      | .error x => .error x := by
  rw [checkSig_tapscript cfg st sig key hsv hmock]
  have h1 := List.isEmpty_eq_false_iff.mpr hsig
  have h2 := List.isEmpty_eq_false_iff.mpr (List.ne_nil_of_length_pos (l := key) (by omega))
  have h3 : ¬ (st.weightLeft - 50 < 0) := by omega
  simp only [h1, h2, h3, hk, Bool.false_eq_true, if_false, if_true]

/-- **OP_CHECKSIG in tapscript, 32-byte key, non-empty signature, budget available**: the BIP341/342 rules decide —
    a valid signature gives `true` and costs 50; anything else is the script error BIP341 selects (SCHNORR_SIG_SIZE,
    SCHNORR_SIG_HASHTYPE, SCHNORR_SIG).  The digest commits to the annex, the leaf hash and the position of the last
    executed OP_CODESEPARATOR (`st.codesepPos`). -/
theorem C02_checksig_tapscript (p : Prims) (tx : Tx) (nIn : Nat) (amount : Int) (spent : List TxOut) (annex : Option Bytes) (l : Bytes)
    (flags : Nat) (z : Bool) (pretend : List (Bytes × Bytes))
    (st : St) (key sig : Bytes) (s : List Bytes) (hst : st.stack = key :: sig :: s)
    (hmock : mockHit (txCfg p tx nIn amount spent annex (some l) flags .TAPSCRIPT z pretend) sig key = false)
    (hsig : sig ≠ []) (hk : key.length = 32) (hbudget : 50 ≤ st.weightLeft)
    (exec : Bool) (after : Bytes) (pos : Nat) :
    execOp (txCfg p tx nIn amount spent annex (some l) flags .TAPSCRIPT z pretend) .OP_CHECKSIG exec after pos st =
      match schnorrSigValid p.sha256 p.schnorrVerify tx nIn spent annex (some ⟨l, st.codesepPos⟩) sig key with
      | .ok () => checkSize { st with stack := [1] :: s, weightLeft := st.weightLeft - 50 }
      | .error x => .error x := by
  simp only [execOp_CHECKSIG, hst]
  rw [checkSig_tapscript_known_key _ st sig key rfl hmock hsig hk hbudget, txCfg_schnorr]
  cases schnorrSigValid p.sha256 p.schnorrVerify tx nIn spent annex (some ⟨l, st.codesepPos⟩) sig key with
  | error x => rfl
  | ok u => cases u; rfl

/-- **OP_CHECKSIGADD in tapscript**, same situation: the number grows by one and the budget shrinks by 50 exactly when the
    signature is valid; an invalid signature is a script error -/
theorem C02_checksigadd_tapscript (p : Prims) (tx : Tx) (nIn : Nat) (amount : Int) (spent : List TxOut) (annex : Option Bytes) (l : Bytes)
    (flags : Nat) (z : Bool) (pretend : List (Bytes × Bytes))
    (st : St) (key nb sig : Bytes) (s : List Bytes) (n : Int) (hst : st.stack = key :: nb :: sig :: s)
    (hn : numOf (hasFlag flags Flag.MINIMALDATA) 4 nb = .ok n)
    (hmock : mockHit (txCfg p tx nIn amount spent annex (some l) flags .TAPSCRIPT z pretend) sig key = false)
    (hsig : sig ≠ []) (hk : key.length = 32) (hbudget : 50 ≤ st.weightLeft)
    (exec : Bool) (after : Bytes) (pos : Nat) :
    execOp (txCfg p tx nIn amount spent annex (some l) flags .TAPSCRIPT z pretend) .OP_CHECKSIGADD exec after pos st =
      match schnorrSigValid p.sha256 p.schnorrVerify tx nIn spent annex (some ⟨l, st.codesepPos⟩) sig key with
      | .ok () => checkSize { st with stack := encodeNum (n + 1) :: s, weightLeft := st.weightLeft - 50 }
      | .error x => .error x := by
  simp only [execOp_CHECKSIGADD, hst]
  show (numOf (hasFlag flags Flag.MINIMALDATA) 4 nb >>= _) = _
  rw [hn, checkSig_tapscript_known_key _ st sig key rfl hmock hsig hk hbudget, txCfg_schnorr]
  simp only [specOk_bind]
  cases schnorrSigValid p.sha256 p.schnorrVerify tx nIn spent annex (some ⟨l, st.codesepPos⟩) sig key with
  | error x => rfl
  | ok u => cases u; rfl

/-- one signature check (`Spec.checkSig`, what OP_CHECKSIG and OP_CHECKSIGADD both call) with the empty signature in tapscript:
    the answer is `false`, nothing is charged and no signature is verified, for every key of the known (32 bytes) type.
    OP_CHECKSIG then pushes `false` and OP_CHECKSIGADD leaves the number (`execOp_CHECKSIG`, `execOp_CHECKSIGADD`). -/
theorem C02_tapscript_empty_sig (cfg : Cfg) (st : St) (key : Bytes) (hsv : cfg.sigversion = .TAPSCRIPT)
    (hmock : mockHit cfg [] key = false) (hk : key.length = 32) :
    checkSig cfg st [] key = .ok (false, st) := by
  rw [checkSig_tapscript cfg st [] key hsv hmock]
  have h2 := List.isEmpty_eq_false_iff.mpr (List.ne_nil_of_length_pos (l := key) (by omega))
  simp [h2, hk]

/-- one signature check and the validation weight: a non-empty signature with less than 50 left fails, whatever the key -/
theorem C02_tapscript_weight (cfg : Cfg) (st : St) (sig key : Bytes) (hsv : cfg.sigversion = .TAPSCRIPT)
    (hmock : mockHit cfg sig key = false) (hsig : sig ≠ []) (hw : st.weightLeft < 50) :
    checkSig cfg st sig key = .error .TAPSCRIPT_VALIDATION_WEIGHT := by
  rw [checkSig_tapscript cfg st sig key hsv hmock]
  have h1 := List.isEmpty_eq_false_iff.mpr hsig
  have h3 : st.weightLeft - 50 < 0 := by omega
  simp [h1, h3]

/-- one signature check with an unknown public key type (not 0, not 32 bytes): the check succeeds without any verification (`true` for a non-empty
    signature, still charged), unless DISCOURAGE_UPGRADABLE_PUBKEYTYPE is active -/
theorem C02_tapscript_unknown_key (cfg : Cfg) (st : St) (sig key : Bytes) (hsv : cfg.sigversion = .TAPSCRIPT)
    (hmock : mockHit cfg sig key = false) (hsig : sig ≠ []) (hw : 50 ≤ st.weightLeft) (hk0 : key ≠ []) (hk : key.length ≠ 32) :
    checkSig cfg st sig key =
      if hasFlag cfg.flags Flag.DISCOURAGE_UPGRADABLE_PUBKEYTYPE then .error .DISCOURAGE_UPGRADABLE_PUBKEYTYPE
      else .ok (true, { st with weightLeft := st.weightLeft - 50 }) := by
  rw [checkSig_tapscript cfg st sig key hsv hmock]
  have h1 := List.isEmpty_eq_false_iff.mpr hsig
  have h2 := List.isEmpty_eq_false_iff.mpr hk0
  have h3 : ¬ (st.weightLeft - 50 < 0) := by omega
  simp [h1, h2, h3, hk]


/-- `sigs` can be matched to `keys` IN ORDER: each signature is valid for a key of its own, and the keys used appear in
    the same order as the signatures (both lists in the order in which the opcode examines them, i.e. top of stack first).
    `take`: the first signature uses the first key; `skip`: the first key is used by nobody. -/
inductive Matchable (valid : Bytes → Bytes → Bool) : List Bytes → List Bytes → Prop
  | nil (keys : List Bytes) : Matchable valid [] keys
  | take {sig key : Bytes} {sigs keys : List Bytes} :
      valid sig key = true → Matchable valid sigs keys → Matchable valid (sig :: sigs) (key :: keys)
  | skip {sig key : Bytes} {sigs keys : List Bytes} :
      Matchable valid (sig :: sigs) keys → Matchable valid (sig :: sigs) (key :: keys)

theorem Matchable.length_le {valid : Bytes → Bytes → Bool} {sigs keys : List Bytes} (h : Matchable valid sigs keys) :
    sigs.length ≤ keys.length := by
  induction h with
  | nil keys => simp
  | take _ _ ih => simp only [List.length_cons]; omega
  | skip _ ih => simp only [List.length_cons] at ih ⊢; omega

theorem Matchable.weaken {valid : Bytes → Bytes → Bool} {sigs keys : List Bytes} (key : Bytes)
    (h : Matchable valid sigs keys) : Matchable valid sigs (key :: keys) := by
  cases sigs with
  | nil => exact .nil _
  | cons s ss => exact .skip h

theorem Matchable.tail {valid : Bytes → Bytes → Bool} {sig : Bytes} {sigs keys : List Bytes}
    (h : Matchable valid (sig :: sigs) keys) : Matchable valid sigs keys := by
  generalize hx : sig :: sigs = x at h
  induction h generalizing sig sigs with
  | nil keys => cases hx
  | @take s k ss ks hv hm ih => cases hx; exact hm.weaken k
  | @skip s k ss ks hm ih => cases hx; exact (ih rfl).weaken k

/-- **OP_CHECKMULTISIG matches signatures to keys in order.**  When no key is a mock key and all signatures and keys are
    well encoded for the active flags, the matching loop never fails and answers `true` exactly when the signatures can
    be matched in order to keys for which they are valid (greedy matching finds an in-order matching whenever one exists). -/
theorem matchSigs_inorder (cfg : Cfg) (code : Bytes) : ∀ (keys sigs : List Bytes),
    (∀ key ∈ keys, keyListed cfg key = false) →
    (∀ sig ∈ sigs, sigEncodingOk cfg sig = .ok ()) → (∀ key ∈ keys, keyEncodingOk cfg key = .ok ()) →
    ∃ b, matchSigs cfg code sigs keys = .ok b ∧
      (b = true ↔ Matchable (fun s k => cfg.oracle.ecdsa s k code cfg.sigversion) sigs keys) := by
  intro keys
  induction keys with
  | nil =>
    intro sigs _ _ _
    cases sigs with
    | nil => exact ⟨true, rfl, by simp [Matchable.nil]⟩
    | cons s ss =>
      refine ⟨false, rfl, ?_⟩
      simp only [Bool.false_eq_true, false_iff]
      intro h; cases h
  | cons key keys ih =>
    intro sigs hl hse hke
    cases sigs with
    | nil => exact ⟨true, rfl, by simp [Matchable.nil]⟩
    | cons sig sigs =>
      have h1 : keyListed cfg key = false := hl key (by simp)
      have h2 : sigEncodingOk cfg sig = .ok () := hse sig (by simp)
      have h3 : keyEncodingOk cfg key = .ok () := hke key (by simp)
      simp only [matchSigs, h1, Bool.false_eq_true, if_false, h2, h3, specOk_bind, pure_bind]
      have hl' : ∀ k ∈ keys, keyListed cfg k = false := fun k hk => hl k (by simp [hk])
      have hke' : ∀ k ∈ keys, keyEncodingOk cfg k = .ok () := fun k hk => hke k (by simp [hk])
      cases hv : cfg.oracle.ecdsa sig key code cfg.sigversion
      · simp only [Bool.false_eq_true, if_false, List.length_cons]
        -- an invalid first pair: every matching skips the first key
        have hskip : Matchable (fun s k => cfg.oracle.ecdsa s k code cfg.sigversion) (sig :: sigs) (key :: keys) →
            Matchable (fun s k => cfg.oracle.ecdsa s k code cfg.sigversion) (sig :: sigs) keys := by
          intro h
          cases h with
          | take hv' _ => exact absurd (hv.symm.trans hv') Bool.false_ne_true
          | skip hm => exact hm
        by_cases hgt : sigs.length + 1 > keys.length
        · refine ⟨false, by rw [if_pos hgt], ?_⟩
          simp only [Bool.false_eq_true, false_iff]
          intro h
          have := (hskip h).length_le
          simp only [List.length_cons] at this; omega
        · obtain ⟨b, hb, hiff⟩ := ih (sig :: sigs) hl' hse hke'
          exact ⟨b, by rw [if_neg hgt]; exact hb, hiff.trans ⟨Matchable.skip, hskip⟩⟩
      · simp only [if_true]
        have hse' : ∀ s ∈ sigs, sigEncodingOk cfg s = .ok () := fun s hs => hse s (by simp [hs])
        by_cases hgt : sigs.length > keys.length
        · refine ⟨false, by rw [if_pos hgt], ?_⟩
          simp only [Bool.false_eq_true, false_iff]
          intro h
          have := h.length_le
          simp only [List.length_cons] at this; omega
        · obtain ⟨b, hb, hiff⟩ := ih sigs hl' hse' hke'
          refine ⟨b, by rw [if_neg hgt]; exact hb, hiff.trans ⟨Matchable.take hv, ?_⟩⟩
          intro h
          cases h with
          | take _ hm => exact hm
          | skip hm => exact hm.tail

/-- the stack layout OP_CHECKMULTISIG expects, top first: key count, keys, signature count, signatures, dummy element -/
theorem execMultisig_shape (cfg : Cfg) (verify : Bool) (st : St) (nkB nsB dummy : Bytes) (keys sigs s4 : List Bytes)
    (hst : st.stack = nkB :: (keys ++ nsB :: (sigs ++ dummy :: s4)))
    (hsv : cfg.sigversion ≠ .TAPSCRIPT)
    (hnk : numOf (hasFlag cfg.flags Flag.MINIMALDATA) 4 nkB = .ok (keys.length : Int))
    (hns : numOf (hasFlag cfg.flags Flag.MINIMALDATA) 4 nsB = .ok (sigs.length : Int))
    (hk20 : keys.length ≤ maxPubkeysPerMultisig) (hsk : sigs.length ≤ keys.length)
    (hops : st.opCount + keys.length ≤ maxOpsPerScript) :
    execMultisig cfg (hasFlag cfg.flags Flag.MINIMALDATA) verify st =
      (deleteAll cfg sigs st.codeFrom >>= fun code =>
       matchSigs cfg code sigs keys >>= fun ok =>
        if !ok && hasFlag cfg.flags Flag.NULLFAIL && sigs.any (fun s => !s.isEmpty) then .error .SIG_NULLFAIL
        else if hasFlag cfg.flags Flag.NULLDUMMY && !dummy.isEmpty then .error .SIG_NULLDUMMY
        else if verify then
          (if ok then checkSize { st with stack := s4, opCount := st.opCount + keys.length } else .error .CHECKMULTISIGVERIFY)
        else checkSize { st with stack := ofBool ok :: s4, opCount := st.opCount + keys.length }) := by
  unfold execMultisig
  have hsv' : (cfg.sigversion == SigVersion.TAPSCRIPT) = false := beq_eq_false_iff_ne.mpr hsv
  have hgi : ∀ n : Nat, n ≤ 20 → Model.getint (n : Int) = (n : Int) := by
    intro n hn
    unfold Model.getint Model.intMax Model.intMin
    have h1 : ¬ ((n : Int) > 2147483647) := by omega
    have h2 : ¬ ((n : Int) < -2147483648) := by omega
    simp [h1, h2]
  have h20 : maxPubkeysPerMultisig = 20 := rfl
  have hk : Model.getint (keys.length : Int) = keys.length := hgi _ (by omega)
  have hs : Model.getint (sigs.length : Int) = sigs.length := hgi _ (by omega)
  simp only [hsv', Bool.false_eq_true, if_false, hst, hnk, specOk_bind, hk, Int.toNat_natCast]
  -- the opcode's five gates pass by the hypotheses: key count, operation count, stack depth (c3, c5), signature count
  have c1 : ¬ ((decide ((keys.length : Int) < 0) || decide ((keys.length : Int) > (maxPubkeysPerMultisig : Int))) = true) := by
    simp <;> omega
  have c2 : ¬ (st.opCount + keys.length > maxOpsPerScript) := by omega
  have c3 : ¬ ((keys ++ nsB :: (sigs ++ dummy :: s4)).length < keys.length + 1) := by simp <;> omega
  rw [if_neg c1, if_neg c2, if_neg c3]
  simp only [List.drop_left, List.take_left, hns, specOk_bind, hs, Int.toNat_natCast]
  have c4 : ¬ ((decide ((sigs.length : Int) < 0) || decide ((sigs.length : Int) > (keys.length : Int))) = true) := by
    simp <;> omega
  have c5 : ¬ ((sigs ++ dummy :: s4).length < sigs.length + 1) := by simp
  rw [if_neg c4, if_neg c5]
  cases deleteAll cfg sigs st.codeFrom with
  | error x => rfl
  | ok code =>
    simp only [specOk_bind]
    cases matchSigs cfg code sigs keys with
    | error x => rfl
    | ok ok =>
      simp only [specOk_bind]
      by_cases d1 : (!ok && hasFlag cfg.flags Flag.NULLFAIL && sigs.any (fun s => !s.isEmpty)) = true
      · simp only [d1, if_true]; rfl
      · simp only [d1, Bool.false_eq_true, if_false]
        by_cases d2 : (hasFlag cfg.flags Flag.NULLDUMMY && !dummy.isEmpty) = true
        · simp only [d2, if_true]; rfl
        · simp only [d2, Bool.false_eq_true, if_false]

/-- **NULLDUMMY**: with the flag active a non-empty dummy element fails the opcode — after the signatures were checked
    (so a NULLFAIL violation is reported first), whatever the matching said -/
theorem C02_multisig_nulldummy (cfg : Cfg) (verify : Bool) (st : St) (nkB nsB dummy : Bytes) (keys sigs s4 : List Bytes)
    (hst : st.stack = nkB :: (keys ++ nsB :: (sigs ++ dummy :: s4)))
    (hsv : cfg.sigversion ≠ .TAPSCRIPT)
    (hnk : numOf (hasFlag cfg.flags Flag.MINIMALDATA) 4 nkB = .ok (keys.length : Int))
    (hns : numOf (hasFlag cfg.flags Flag.MINIMALDATA) 4 nsB = .ok (sigs.length : Int))
    (hk20 : keys.length ≤ maxPubkeysPerMultisig) (hsk : sigs.length ≤ keys.length)
    (hops : st.opCount + keys.length ≤ maxOpsPerScript)
    (code : Bytes) (ok : Bool) (hcode : deleteAll cfg sigs st.codeFrom = .ok code) (hm : matchSigs cfg code sigs keys = .ok ok)
    (hnf : (!ok && hasFlag cfg.flags Flag.NULLFAIL && sigs.any (fun s => !s.isEmpty)) = false)
    (hflag : hasFlag cfg.flags Flag.NULLDUMMY = true) (hd : dummy ≠ []) :
    execMultisig cfg (hasFlag cfg.flags Flag.MINIMALDATA) verify st = .error .SIG_NULLDUMMY := by
  rw [execMultisig_shape cfg verify st nkB nsB dummy keys sigs s4 hst hsv hnk hns hk20 hsk hops]
  have := List.isEmpty_eq_false_iff.mpr hd
  simp only [hcode, specOk_bind, hm]
  simp [hnf, hflag, this]

/-- the script code OP_CHECKMULTISIG signs outside legacy scripts is the script code as it stands: the pushes of the signatures
    are removed (FindAndDelete) under `SigVersion::BASE` only -/
theorem deleteAll_segwit (cfg : Cfg) (hsv : cfg.sigversion ≠ .BASE) : ∀ (sigs : List Bytes) (code : Bytes), deleteAll cfg sigs code = .ok code := by
  intro sigs
  have : (cfg.sigversion == SigVersion.BASE) = false := beq_eq_false_iff_ne.mpr hsv
  induction sigs with
  | nil => intro code; rfl
  | cons s ss ih => intro code; simp only [deleteAll, this, Bool.false_eq_true, if_false]; exact ih code

/-- **OP_CHECKMULTISIG, full statement** (legacy / segwit v0; keys not mock keys, everything well encoded, stack as the
    opcode expects): with `code` the script code after FindAndDelete of all signatures, the opcode pushes `true` exactly
    when the signatures match keys IN ORDER as valid ECDSA signatures over the BIP-defined digest of `code`; a failed match
    with a non-empty signature is SIG_NULLFAIL under NULLFAIL; a non-empty dummy is SIG_NULLDUMMY under NULLDUMMY. -/
theorem C02_checkmultisig (p : Prims) (tx : Tx) (nIn : Nat) (amount : Int) (spent : List TxOut) (annex leaf : Option Bytes)
    (flags : Nat) (sv : SigVersion) (z : Bool) (pretend : List (Bytes × Bytes)) (hsv : sv ≠ .TAPSCRIPT)
    (verify : Bool) (st : St) (nkB nsB dummy : Bytes) (keys sigs s4 : List Bytes)
    (hst : st.stack = nkB :: (keys ++ nsB :: (sigs ++ dummy :: s4)))
    (hnk : numOf (hasFlag flags Flag.MINIMALDATA) 4 nkB = .ok (keys.length : Int))
    (hns : numOf (hasFlag flags Flag.MINIMALDATA) 4 nsB = .ok (sigs.length : Int))
    (hk20 : keys.length ≤ maxPubkeysPerMultisig) (hsk : sigs.length ≤ keys.length)
    (hops : st.opCount + keys.length ≤ maxOpsPerScript)
    (code : Bytes) (hcode : deleteAll (txCfg p tx nIn amount spent annex leaf flags sv z pretend) sigs st.codeFrom = .ok code)
    (hl : ∀ key ∈ keys, keyListed (txCfg p tx nIn amount spent annex leaf flags sv z pretend) key = false)
    (hse : ∀ sig ∈ sigs, sigEncodingOk (txCfg p tx nIn amount spent annex leaf flags sv z pretend) sig = .ok ())
    (hke : ∀ key ∈ keys, keyEncodingOk (txCfg p tx nIn amount spent annex leaf flags sv z pretend) key = .ok ()) :
    ∃ ok : Bool,
      (ok = true ↔ Matchable (fun s k => ecdsaSigValid p.sha256 p.ecdsaVerify tx nIn amount s k code sv) sigs keys) ∧
      execMultisig (txCfg p tx nIn amount spent annex leaf flags sv z pretend) (hasFlag flags Flag.MINIMALDATA) verify st =
        (if !ok && hasFlag flags Flag.NULLFAIL && sigs.any (fun s => !s.isEmpty) then .error .SIG_NULLFAIL
         else if hasFlag flags Flag.NULLDUMMY && !dummy.isEmpty then .error .SIG_NULLDUMMY
         else if verify then
           (if ok then checkSize { st with stack := s4, opCount := st.opCount + keys.length } else .error .CHECKMULTISIGVERIFY)
         else checkSize { st with stack := ofBool ok :: s4, opCount := st.opCount + keys.length }) := by
  obtain ⟨ok, hm, hiff⟩ := matchSigs_inorder (txCfg p tx nIn amount spent annex leaf flags sv z pretend) code keys sigs hl hse hke
  refine ⟨ok, hiff, ?_⟩
  have := execMultisig_shape (txCfg p tx nIn amount spent annex leaf flags sv z pretend) verify st nkB nsB dummy keys sigs s4 hst hsv hnk hns hk20 hsk hops
  simp only [hcode, specOk_bind, hm] at this
  exact this

end SpecSide

theorem relOut_err_inv {m : M SEE} {y : ScriptError} (h : RelOut m (.error y)) :
    ∃ x, m = .error x ∧ errAbs x = y ∧ isAbnormal x = false := by
  cases m with
  | error x => exact ⟨x, rfl, h.1, h.2⟩
  | ok e' => simp [RelOut] at h

section ModelSide
variable (cr : SigCrypto) (base : Ctx) (p : Spec.Prims) (hp : PrimsMatch p cr base)
  (tx : Tx) (nIn : Nat) (amount : Int) (txdata : PrecomputedTxData) (annex leaf : Option Bytes)
  (pretend : List (Bytes × Bytes)) (e : SEE) (st : Spec.St)
  (hin : nIn < tx.vin.length) (hcoh : Coherent cr tx txdata)

include hp hin hcoh in
/-- `C02_opcode` for legacy / segwit-v0 sessions, where nothing is asked of the BIP341 data -/
theorem C02_opcode_ecdsa
    (hsv : e.sigversion = .BASE ∨ e.sigversion = .WITNESS_V0)
    (hcode : e.sigversion = .BASE → Spec.decode e.pbegincodehash ≠ none ∧ e.pbegincodehash.length < 2 ^ 32)
    (hframe : CfgFrame e (txCfg p tx nIn amount txdata.spentOutputs annex leaf e.flags e.sigversion e.allowDisabled pretend))
    (hrel : Rel e st) (op : Opcode) (fExec : Bool) (pc : Bytes) :
    RelOut (execOpcode (txCheckerWith cr base tx nIn amount txdata) e op fExec pc)
      (Spec.execOp (txCfg p tx nIn amount txdata.spentOutputs annex leaf e.flags e.sigversion e.allowDisabled pretend)
        op fExec pc e.opcodePos st) :=
  C02_opcode cr base p hp tx nIn amount txdata annex leaf pretend e st hin hcoh
    (by rcases hsv with h | h <;> rw [h] <;> decide) hcode
    (fun h => by rcases hsv with h' | h' <;> rw [h'] at h <;> cases h) hframe hrel op fExec pc

include hp hin hcoh in
/-- **OP_CHECKSIG of the debugger, legacy / segwit v0** (the model with the transaction checker): related to the
    specification's outcome, which is decided by `Spec.ecdsaSigValid` over the BIP-defined digest. -/
theorem C02_model_checksig_ecdsa
    (hsv : e.sigversion = .BASE ∨ e.sigversion = .WITNESS_V0)
    (hcode : e.sigversion = .BASE → Spec.decode e.pbegincodehash ≠ none ∧ e.pbegincodehash.length < 2 ^ 32)
    (hframe : CfgFrame e (txCfg p tx nIn amount txdata.spentOutputs annex leaf e.flags e.sigversion e.allowDisabled pretend))
    (hrel : Rel e st) (key sig : Bytes) (s : List Bytes) (hst : st.stack = key :: sig :: s)
    (hw : WellFormedCheck (txCfg p tx nIn amount txdata.spentOutputs annex leaf e.flags e.sigversion e.allowDisabled pretend) st sig key)
    (fExec : Bool) (pc : Bytes) :
    RelOut (execOpcode (txCheckerWith cr base tx nIn amount txdata) e .OP_CHECKSIG fExec pc)
      (let valid := Spec.ecdsaSigValid p.sha256 p.ecdsaVerify tx nIn amount sig key
          (signedCode (txCfg p tx nIn amount txdata.spentOutputs annex leaf e.flags e.sigversion e.allowDisabled pretend) st sig) e.sigversion
       if !valid && hasFlag e.flags Flag.NULLFAIL && !sig.isEmpty then .error .SIG_NULLFAIL
       else Spec.checkSize { st with stack := Spec.ofBool valid :: s }) := by
  have := C02_opcode_ecdsa cr base p hp tx nIn amount txdata annex leaf pretend e st hin hcoh hsv hcode hframe hrel .OP_CHECKSIG fExec pc
  rw [C02_checksig_ecdsa p tx nIn amount txdata.spentOutputs annex leaf e.flags e.sigversion e.allowDisabled pretend hsv st key sig s hst hw] at this
  exact this

include hp hin hcoh in
/-- **"exactly when", for the debugger.**  With a well-encoded signature and key on top of the stack, the debugger's
    OP_CHECKSIG succeeds leaving `01` in their place exactly when the signature is a valid ECDSA signature by that key over
    the BIP-defined digest (and the stack limit is respected). -/
theorem C02_model_checksig_accepts_iff
    (hsv : e.sigversion = .BASE ∨ e.sigversion = .WITNESS_V0)
    (hcode : e.sigversion = .BASE → Spec.decode e.pbegincodehash ≠ none ∧ e.pbegincodehash.length < 2 ^ 32)
    (hframe : CfgFrame e (txCfg p tx nIn amount txdata.spentOutputs annex leaf e.flags e.sigversion e.allowDisabled pretend))
    (hrel : Rel e st) (key sig : Bytes) (s : List Bytes) (hst : st.stack = key :: sig :: s)
    (hw : WellFormedCheck (txCfg p tx nIn amount txdata.spentOutputs annex leaf e.flags e.sigversion e.allowDisabled pretend) st sig key)
    (fExec : Bool) (pc : Bytes) :
    (∃ e', execOpcode (txCheckerWith cr base tx nIn amount txdata) e .OP_CHECKSIG fExec pc = .ok e' ∧ e'.stack = s.reverse ++ [[1]]) ↔
      (Spec.ecdsaSigValid p.sha256 p.ecdsaVerify tx nIn amount sig key
          (signedCode (txCfg p tx nIn amount txdata.spentOutputs annex leaf e.flags e.sigversion e.allowDisabled pretend) st sig) e.sigversion = true
        ∧ s.length + 1 + st.alt.length ≤ Spec.maxStackSize) := by
  have hop := C02_opcode_ecdsa cr base p hp tx nIn amount txdata annex leaf pretend e st hin hcoh hsv hcode hframe hrel .OP_CHECKSIG fExec pc
  rw [← C02_checksig_true_iff p tx nIn amount txdata.spentOutputs annex leaf e.flags e.sigversion e.allowDisabled pretend hsv st key sig s hst hw
    fExec pc e.opcodePos]
  -- both sides end alike; related states have the same stack, the model's reversed
  rcases (relOut_iff.mp hop).cases with ⟨e1, st1, he, hs, hr⟩ | ⟨x, he, hs, -⟩
  · simp only [he, hs, Except.ok.injEq, exists_eq_left', hr.stack]
    rw [← List.reverse_cons, List.reverse_inj]
  · simp only [he, hs, reduceCtorEq, false_and, exists_false]

include hp hin hcoh in
/-- **OP_CHECKSIG of the debugger in tapscript**, 32-byte key, non-empty signature, budget available: a valid BIP340
    signature over the BIP341/342 digest gives `true` and costs 50; otherwise the script error that BIP341 selects. -/
theorem C02_model_checksig_tapscript (l : Bytes)
    (hsv : e.sigversion = .TAPSCRIPT) (hwi : e.execdata.weightInit = true)
    (hready : TapReady cr tx nIn txdata annex (some l) e.execdata)
    (hframe : CfgFrame e (txCfg p tx nIn amount txdata.spentOutputs annex (some l) e.flags .TAPSCRIPT e.allowDisabled pretend))
    (hrel : Rel e st) (key sig : Bytes) (s : List Bytes) (hst : st.stack = key :: sig :: s)
    (hmock : Spec.mockHit (txCfg p tx nIn amount txdata.spentOutputs annex (some l) e.flags .TAPSCRIPT e.allowDisabled pretend) sig key = false)
    (hsig : sig ≠ []) (hk : key.length = 32) (hbudget : 50 ≤ st.weightLeft) (fExec : Bool) (pc : Bytes) :
    RelOut (execOpcode (txCheckerWith cr base tx nIn amount txdata) e .OP_CHECKSIG fExec pc)
      (match Spec.schnorrSigValid p.sha256 p.schnorrVerify tx nIn txdata.spentOutputs annex (some ⟨l, st.codesepPos⟩) sig key with
       | .ok () => Spec.checkSize { st with stack := [1] :: s, weightLeft := st.weightLeft - 50 }
       | .error x => .error x) := by
  have hnt : e.sigversion ≠ .TAPROOT := by rw [hsv]; decide
  have hcode : e.sigversion = .BASE → Spec.decode e.pbegincodehash ≠ none ∧ e.pbegincodehash.length < 2 ^ 32 := by
    intro h; rw [hsv] at h; cases h
  have hframe' : CfgFrame e (txCfg p tx nIn amount txdata.spentOutputs annex (some l) e.flags e.sigversion e.allowDisabled pretend) := by
    rw [hsv]; exact hframe
  have := C02_opcode cr base p hp tx nIn amount txdata annex (some l) pretend e st hin hcoh hnt hcode (fun _ => ⟨hwi, hready⟩) hframe' hrel
    .OP_CHECKSIG fExec pc
  rw [hsv, C02_checksig_tapscript p tx nIn amount txdata.spentOutputs annex l e.flags e.allowDisabled pretend st key sig s hst hmock hsig hk hbudget] at this
  exact this

include hp hin hcoh in
/-- **OP_CHECKMULTISIG(VERIFY) of the debugger** (legacy / segwit v0): in-order matching over the BIP-defined digest,
    NULLFAIL, NULLDUMMY, exactly as `C02_checkmultisig` states for the specification. -/
theorem C02_model_checkmultisig
    (hsv : e.sigversion = .BASE ∨ e.sigversion = .WITNESS_V0)
    (hcode : e.sigversion = .BASE → Spec.decode e.pbegincodehash ≠ none ∧ e.pbegincodehash.length < 2 ^ 32)
    (hframe : CfgFrame e (txCfg p tx nIn amount txdata.spentOutputs annex leaf e.flags e.sigversion e.allowDisabled pretend))
    (hrel : Rel e st) (verify : Bool) (nkB nsB dummy : Bytes) (keys sigs s4 : List Bytes)
    (hst : st.stack = nkB :: (keys ++ nsB :: (sigs ++ dummy :: s4)))
    (hnk : Spec.numOf (hasFlag e.flags Flag.MINIMALDATA) 4 nkB = .ok (keys.length : Int))
    (hns : Spec.numOf (hasFlag e.flags Flag.MINIMALDATA) 4 nsB = .ok (sigs.length : Int))
    (hk20 : keys.length ≤ Spec.maxPubkeysPerMultisig) (hsk : sigs.length ≤ keys.length)
    (hops : st.opCount + keys.length ≤ Spec.maxOpsPerScript)
    (code : Bytes)
    (hcodeOk : Spec.deleteAll (txCfg p tx nIn amount txdata.spentOutputs annex leaf e.flags e.sigversion e.allowDisabled pretend) sigs st.codeFrom = .ok code)
    (hl : ∀ key ∈ keys, Spec.keyListed (txCfg p tx nIn amount txdata.spentOutputs annex leaf e.flags e.sigversion e.allowDisabled pretend) key = false)
    (hse : ∀ sig ∈ sigs, Spec.sigEncodingOk (txCfg p tx nIn amount txdata.spentOutputs annex leaf e.flags e.sigversion e.allowDisabled pretend) sig = .ok ())
    (hke : ∀ key ∈ keys, Spec.keyEncodingOk (txCfg p tx nIn amount txdata.spentOutputs annex leaf e.flags e.sigversion e.allowDisabled pretend) key = .ok ())
    (fExec : Bool) (pc : Bytes) :
    ∃ ok : Bool,
      (ok = true ↔ Matchable (fun s k => Spec.ecdsaSigValid p.sha256 p.ecdsaVerify tx nIn amount s k code e.sigversion) sigs keys) ∧
      RelOut (execOpcode (txCheckerWith cr base tx nIn amount txdata) e
                (if verify then .OP_CHECKMULTISIGVERIFY else .OP_CHECKMULTISIG) fExec pc)
        (if !ok && hasFlag e.flags Flag.NULLFAIL && sigs.any (fun s => !s.isEmpty) then .error .SIG_NULLFAIL
         else if hasFlag e.flags Flag.NULLDUMMY && !dummy.isEmpty then .error .SIG_NULLDUMMY
         else if verify then
           (if ok then Spec.checkSize { st with stack := s4, opCount := st.opCount + keys.length } else .error .CHECKMULTISIGVERIFY)
         else Spec.checkSize { st with stack := Spec.ofBool ok :: s4, opCount := st.opCount + keys.length }) := by
  have hnts : e.sigversion ≠ .TAPSCRIPT := by rcases hsv with h | h <;> rw [h] <;> decide
  obtain ⟨ok, hiff, hex⟩ := C02_checkmultisig p tx nIn amount txdata.spentOutputs annex leaf e.flags e.sigversion e.allowDisabled pretend hnts
    verify st nkB nsB dummy keys sigs s4 hst hnk hns hk20 hsk hops code hcodeOk hl hse hke
  refine ⟨ok, hiff, ?_⟩
  have hop := C02_opcode_ecdsa cr base p hp tx nIn amount txdata annex leaf pretend e st hin hcoh hsv hcode hframe hrel
    (if verify then .OP_CHECKMULTISIGVERIFY else .OP_CHECKMULTISIG) fExec pc
  have hexec : Spec.execOp (txCfg p tx nIn amount txdata.spentOutputs annex leaf e.flags e.sigversion e.allowDisabled pretend)
      (if verify then .OP_CHECKMULTISIGVERIFY else .OP_CHECKMULTISIG) fExec pc e.opcodePos st =
      Spec.execMultisig (txCfg p tx nIn amount txdata.spentOutputs annex leaf e.flags e.sigversion e.allowDisabled pretend)
        (hasFlag e.flags Flag.MINIMALDATA) verify st := by
    cases verify
    · exact execOp_CHECKMULTISIG ..
    · exact execOp_CHECKMULTISIGVERIFY ..
  rw [hexec, hex] at hop
  exact hop

end ModelSide

/-- the checker `Instance::setup_environment` installs (`Glue.checkerBuilder`) is the transaction checker of this file,
    with a coherent cache: either `PrecomputedTransactionData()` or the result of `Init`.  With `stdPrims_match` below this
    is what instantiates `cr`, `base`, `p`, `txdata` and `hcoh` of `C02_trace` / `C02_opcode` for a real session
    (`C03.C03_verdict_session` does that instantiation for C03). -/
theorem checkerBuilder_is_txChecker (tx : Tx) (nIn : Nat) (amount : Int) (init : Option (List TxOut × Bool)) :
    ∃ d, Glue.checkerBuilder.build tx nIn amount init = txCheckerWith stdCrypto stdBaseCtx tx nIn amount d
      ∧ Coherent stdCrypto tx d := by
  cases init with
  | none => exact ⟨{}, rfl, coherent_default _ _⟩
  | some sf =>
    obtain ⟨spent, force⟩ := sf
    cases h : precomputeInit stdCrypto tx spent force with
    | error x =>
      refine ⟨{}, ?_, coherent_default _ _⟩
      simp only [Glue.checkerBuilder, h]; rfl
    | ok d =>
      refine ⟨d, ?_, precomputeInit_coherent stdCrypto tx spent force d h⟩
      simp only [Glue.checkerBuilder, h]; rfl

/-- the primitives of the real session: SHA-256, RIPEMD-160, SHA-1, `CPubKey::Verify`, `XOnlyPubKey::VerifySchnorr`, `CheckLowS` -/
def stdPrims : Spec.Prims := primsOf stdCrypto stdBaseCtx Glue.tapOracle

theorem stdPrims_match : PrimsMatch stdPrims stdCrypto stdBaseCtx := primsMatch_primsOf _ _ _ rfl

namespace Examples

/-- a crypto instance whose verification functions accept everything (the theorems hold for every instance) -/
def crT : SigCrypto := { sha256 := id, ecdsaVerify := fun _ _ _ => true, schnorrVerify := fun _ _ _ => true }

def baseT : Ctx :=
  { sha256 := id, ripemd160 := id, sha1 := id, checkLowS := fun _ => true, checkLockTime := fun _ => false,
    checkSequence := fun _ => false, checkECDSA := fun _ _ _ _ => false,
    checkSchnorr := fun _ _ _ _ => .error (.script .UNKNOWN_ERROR) }

def tapT : Spec.TapOracle := Glue.tapOracle
def pT : Spec.Prims := primsOf crT baseT tapT
theorem pT_match : PrimsMatch pT crT baseT := primsMatch_primsOf _ _ _ rfl

def key33 : Bytes := 0x02 :: List.replicate 32 1
def sigL : Bytes := [0x30, 0x01]                                   -- non-empty, hash type byte SIGHASH_ALL
def txL : Tx := { version := 1, vin := [⟨⟨List.replicate 32 7, 0⟩, [], 0xffffffff, []⟩], vout := [⟨900, [0x51]⟩], lockTime := 0 }
/-- `<key> OP_CODESEPARATOR OP_CHECKSIG` -/
def scriptL : Bytes := [0x21] ++ key33 ++ [0xab, 0xac]

/-- legacy session, a code separator before OP_CHECKSIG, default cache: `C02_trace` applies -/
example (tc : TapCtx) : ∃ e0, setupEnvironment [sigL] scriptL 0 .BASE [] false {} none [] [] = .ok e0 ∧
    RelRun (runOps (txCheckerWith crT baseT txL 0 1000 {}) tc scriptL.length e0)
      (Spec.evalInstrs (txCfg pT txL 0 1000 [] none none 0 .BASE false [])
        (Spec.decodePrefix scriptL.length scriptL).1 0 (C01.initSt [sigL] scriptL {})) true :=
  ⟨_, rfl, C02_trace crT baseT pT pT_match txL 0 1000 {} none none tc [sigL] scriptL 0 .BASE false {} [] [] _ rfl
    (by decide) (by decide) (coherent_default _ _) (by decide) (fun h => by cases h) (fun _ => rfl) (fun _ _ h => by cases h)⟩

/-- … and on the specification side that run ends with `true` on the stack, the script code signed being what follows
    the OP_CODESEPARATOR -/
example : ((Spec.evalInstrs (txCfg pT txL 0 1000 [] none none 0 .BASE false [])
    (Spec.decodePrefix scriptL.length scriptL).1 0 (C01.initSt [sigL] scriptL {})).2.map (fun st => (st.stack, st.codeFrom)))
      = .ok ([[1]], [0xac]) := by rfl

/-- a well-formed check in the sense of `C02_checksig_ecdsa` -/
example : WellFormedCheck (txCfg pT txL 0 1000 [] none none 0 .BASE false []) { stack := [key33, sigL], codeFrom := [0xac] } sigL key33 :=
  ⟨by decide, by decide, by rfl, by rfl⟩

def iT : TxIn := ⟨⟨List.replicate 32 7, 1⟩, [], 0xfffffffd, [[1, 2, 3], [0x51], 0xc0 :: List.replicate 32 4]⟩
def oT : TxOut := ⟨1000, 0x51 :: 0x20 :: List.replicate 32 9⟩
def txT : Tx := { version := 2, vin := [iT], vout := [⟨900, [0x51]⟩], lockTime := 0 }
def edT (leafH : Bytes) : ExecData :=
  { annexInit := true, annexPresent := false, tapleafHashInit := true, tapleafHash := leafH,
    codesepPosInit := true, weightInit := true, weightLeft := 100 }
/-- `<key32> OP_CHECKSIG` -/
def scriptT : Bytes := [0x20] ++ List.replicate 32 5 ++ [0xac]

private theorem scanT : scanOpSuccess false scriptT = false := by
  have hg1 : getOp scriptT = some ⟨0x20, List.replicate 32 5, [0xac]⟩ := by rfl
  have hg2 : getOp [0xac] = some ⟨0xac, [], []⟩ := by rfl
  have hg3 : getOp [] = none := by rfl
  rw [scanOpSuccess]
  split
  · rfl
  · rename_i g h
    rw [hg1] at h; cases h
    have h1 : (Gen.opSuccess.getD 0x20 false && !(false && isDisabledOpcode (Opcode.ofNat 0x20))) = false := by decide
    simp only [h1, Bool.false_eq_true, if_false]
    rw [scanOpSuccess]
    split
    · rfl
    · rename_i g h
      rw [hg2] at h; cases h
      have h2 : (Gen.opSuccess.getD 0xac false && !(false && isDisabledOpcode (Opcode.ofNat 0xac))) = false := by decide
      simp only [h2, Bool.false_eq_true, if_false]
      rw [scanOpSuccess]
      split
      · rfl
      · rename_i g h; rw [hg3] at h; cases h

/-- tapscript: a one-input script-path spend; `Init` makes the BIP341 data ready (`precomputeInit_single_input_ready`), the
    execution data carry the leaf hash, no annex, a budget: the session exists and `C02_trace` applies to `<key32> OP_CHECKSIG` -/
example (tc : TapCtx) (leafH : Bytes) (sig64 : Bytes) :
    ∃ d, precomputeInit crT txT [oT] false = .ok d ∧
      ∃ e0, setupEnvironment [sig64] scriptT 0 .TAPSCRIPT [] false (edT leafH) none [] [] = .ok e0 ∧
      RelRun (runOps (txCheckerWith crT baseT txT 0 1000 d) tc scriptT.length e0)
        (Spec.evalInstrs (txCfg pT txT 0 1000 [oT] none (some leafH) 0 .TAPSCRIPT false [])
          (Spec.decodePrefix scriptT.length scriptT).1 0 (C01.initSt [sig64] scriptT (edT leafH))) true := by
  obtain ⟨d, hd, h1, h2, h3, hc⟩ := precomputeInit_single_input_ready crT txT iT oT false rfl (Or.inr ⟨by decide, by decide⟩)
  refine ⟨d, hd, ?_⟩
  have hs : ∃ e0, setupEnvironment [sig64] scriptT 0 .TAPSCRIPT [] false (edT leafH) none [] [] = .ok e0 := by
    rw [setupEnvironment_eq]
    simp [scanT]
  obtain ⟨e0, he0⟩ := hs
  refine ⟨e0, he0, ?_⟩
  have hpre : SchnorrPre crT (edT leafH) txT 0 none (some ⟨leafH, (edT leafH).codesepPos⟩) .TAPSCRIPT :=
    ⟨rfl, rfl, (fun a ha => by cases ha), ⟨rfl, rfl, rfl, rfl, rfl⟩, Or.inl rfl⟩
  have := C02_trace crT baseT pT pT_match txT 0 1000 d none (some leafH) tc [sig64] scriptT 0 .TAPSCRIPT false (edT leafH) [] [] e0 he0
    (by decide) (by decide) hc (by decide) (fun _ => ⟨rfl, h1, h2, leafH, rfl, hpre⟩) (fun _ => rfl) (fun _ _ h => by cases h)
  rw [h3] at this
  exact this

/-- in-order matching: with a validity relation that only accepts (a, A) and (b, B), the signatures [a, b] match the keys
    [A, X, B], the signatures [b, a] do not -/
example : Matchable (fun s k => (s, k) == (([1] : Bytes), ([10] : Bytes)) || (s, k) == (([2] : Bytes), ([20] : Bytes)))
    [[1], [2]] [[10], [99], [20]] :=
  .take (by decide) (.skip (.take (by decide) (.nil _)))

example : ¬ Matchable (fun s k => (s, k) == (([1] : Bytes), ([10] : Bytes)) || (s, k) == (([2] : Bytes), ([20] : Bytes)))
    [[2], [1]] [[10], [99], [20]] := by
  intro h
  cases h with
  | take hv _ => exact absurd hv (by decide)
  | skip h =>
    cases h with
    | take hv _ => exact absurd hv (by decide)
    | skip h =>
      cases h with
      | take _ h => cases h
      | skip h => cases h

end Examples

end Btcdeb.Proofs.C02
