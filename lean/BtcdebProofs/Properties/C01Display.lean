/-
  C01, the part about what the user sees — the commands `stack`, `altstack`, `vfexec` of an interactive session
  (`fn_stack`, `fn_altstack`, `fn_vfexec` → `print_stack`, `print_bool_stack`, functions.cpp:197-234; model:
  Btcdeb/Model/Display.lean; specification of the texts: Btcdeb/Spec/Display.lean).
  Three things, for every stack (any number of items, of any length, the empty item included), every condition stack and
  every session state: the exact text printed is the specification's rendering; the state is read back from its display,
  so equal displays mean equal stacks (of the conditional nesting the display shows, and the compressed `ConditionStack`
  stores, the depth and the first false level — exactly that is recoverable); and, composed with the refinement
  `C01_trace`, after every operation and every history over {step, rewind} the displays render the state Bitcoin's rules
  prescribe.
-/
import Btcdeb
import BtcdebProofs.Lemmas.Display
import BtcdebProofs.Lemmas.DisplayRun
import BtcdebProofs.Properties.C01
namespace Btcdeb.Proofs.C01Display
open Btcdeb Btcdeb.Model Btcdeb.Refine Btcdeb.Display


/-- `stack` / `altstack`: the text printed for a stack (vector order, bottom first) is the specification's rendering of
    it read from the top: `- empty stack -`, or one line per item from the top down, numbered from 1, the first marked -/
theorem C01_stack_text (stack : List Bytes) : printStack stack false = Spec.showStack stack.reverse := by
  rw [printStack_numbered]
  unfold Spec.showStack
  by_cases h : stack = []
  · subst h; rfl
  · have : stack.reverse.isEmpty = false := by simpa using h
    rw [if_neg h, this, unlines_numbered stackLine_eq_itemLine]; rfl

/-- raw mode (the last output of a piped run): one hex line per item, bottom first; nothing for an empty stack -/
theorem C01_raw_text (stack : List Bytes) : printStack stack true = Spec.showRaw stack.reverse := by
  simp [printStack, Spec.showRaw, unlines, List.flatMap_map, hexStr, Spec.showHex]

/-- `vfexec`: the text printed for a condition stack that represents the nesting `l` (innermost level first) is the
    specification's rendering of `l` -/
theorem C01_vfexec_text (c : CondStack) (l : List Bool) (h : CondRel c l) : printBoolStack c = Spec.showCond l := by
  rw [printBoolStack_eq, toList_reverse_of_condRel h]
  unfold Spec.showCond
  by_cases hz : c.size = 0
  · have : l = [] := List.length_eq_zero_iff.mp (by rw [← h.1]; exact hz)
    subst this; rw [if_pos hz]; rfl
  · have : l.isEmpty = false := by
      cases l with
      | nil => exact absurd h.1 hz
      | cons _ _ => rfl
    rw [if_neg hz, this, unlines_numbered boolLine_eq_levelLine, zipIdx_map_range]
    simp [List.flatMap_map, Nat.add_comm]

/-- the lines of the numbered display: the empty-stack line, or line `k` (counted from 0) = number `k + 1`, TAB, the hex
    of the item `k` below the top, and the marker on the first line (`numbered`, `stackLine`) -/
theorem C01_stack_lines (stack : List Bytes) :
    splitLines (printStack stack false) = if stack = [] then [emptyStackLine] else numbered stackLine 0 stack.reverse := by
  rw [printStack_numbered]
  split
  · exact splitLines_unlines _ (by intro l hl; simp at hl; subst hl; exact emptyStackLine_no_newline)
  · exact splitLines_unlines _ (forall_numbered stackLine_no_newline _ _)

/-- line `k` of a stack display shows the item `k` below the top under the number `k + 1` -/
theorem C01_stack_line (stack : List Bytes) (k : Nat) (hk : k < stack.length) :
    (splitLines (printStack stack false))[k]? = some (stackLine (k + 1) (stack.reverse.getD k [])) := by
  have hne : stack ≠ [] := by intro h; subst h; simp at hk
  rw [C01_stack_lines, if_neg hne]
  rw [numbered_getElem? stackLine _ 0 k (by simpa using hk)]
  simp [List.getD_eq_getElem?_getD, hk]

/-- the number read back from the line printed for position `i` is `i` -/
theorem C01_line_number (i : Nat) (it : Bytes) : readNumber (stackLine i it) = i := by
  unfold readNumber stackLine
  have : ['<'] ++ dec02 i ++ ['>', '\t'] ++ hexStr it ++ (if (i == 1) = true then topMark else []) =
      '<' :: (dec02 i ++ ('>' :: ('\t' :: hexStr it ++ (if (i == 1) = true then topMark else [])))) := by simp
  rw [this, List.drop_one, List.tail_cons,
    List.takeWhile_append_of_pos (fun c hc => bne_iff_ne.mpr (plain_dec02 i c hc).2.2)]
  simp only [List.takeWhile_cons, bne_self_eq_false, Bool.false_eq_true, if_false, List.append_nil]
  unfold dec02
  rw [Nat.ofDigitChars_append, Nat.ofDigitChars_replicate_zero, Nat.mul_zero]
  exact Nat.ofDigitChars_ten_toDigits

/-- `%02d`: two digits below 100 (a leading `0` below 10); from 100 on the field widens — no digit is lost -/
theorem C01_number_width (n : Nat) :
    (n < 10 → dec02 n = ['0', Nat.digitChar n]) ∧ (n < 100 → (dec02 n).length = 2) ∧
    (10 ≤ n → dec02 n = Nat.toDigits 10 n) ∧ (100 ≤ n → 3 ≤ (dec02 n).length) := by
  have hle1 : (Nat.toDigits 10 n).length ≤ 1 ↔ n < 10 := by
    rw [Nat.length_toDigits_le_iff (by decide) (by decide)]
  have hle2 : (Nat.toDigits 10 n).length ≤ 2 ↔ n < 100 := by
    rw [Nat.length_toDigits_le_iff (by decide) (by decide)]
  have hpos : 0 < (Nat.toDigits 10 n).length := Nat.length_toDigits_pos
  refine ⟨?_, ?_, ?_, ?_⟩
  · intro h; simp [dec02, Nat.toDigits_of_lt_base h]
  · intro h
    have := hle2.mpr h
    simp only [dec02, List.length_append, List.length_replicate]; omega
  · intro h
    have : ¬ (Nat.toDigits 10 n).length ≤ 1 := fun h' => by have := hle1.mp h'; omega
    have : 2 - (Nat.toDigits 10 n).length = 0 := by omega
    simp [dec02, this]
  · intro h
    have : ¬ (Nat.toDigits 10 n).length ≤ 2 := fun h' => by have := hle2.mp h'; omega
    simp only [dec02, List.length_append, List.length_replicate]; omega

/-- a line spelled out: `<`, the number, `>`, TAB, the hex of the item, and the marker `(top)` exactly when the number is 1 -/
theorem C01_top_marker (i : Nat) (it : Bytes) :
    stackLine i it = ['<'] ++ dec02 i ++ ['>', '\t'] ++ hexStr it ++ (if i = 1 then topMark else []) := by
  unfold stackLine; by_cases h : i = 1 <;> simp [h]


/-- The display determines the stack: reading the numbered display back gives exactly the stack that was printed —
    every item, in order; the empty item, items of any length, any number of items (the field of the number widening
    from 100 on does not disturb it) -/
theorem C01_readStack (stack : List Bytes) : readStack (printStack stack false) = some stack := by
  unfold readStack
  rw [C01_stack_lines]
  by_cases h : stack = []
  · subst h; simp
  · simp [if_neg h, numbered_ne_emptyLine (line := stackLine) fun _ _ => rfl, mapM_numbered readItem_stackLine]

/-- the raw display determines the stack as well -/
theorem C01_readRaw (stack : List Bytes) : readRaw (printStack stack true) = some stack := by
  unfold readRaw printStack
  simp only [if_true]
  rw [splitLines_unlines]
  · induction stack with
    | nil => rfl
    | cons it rest ih => simp [List.mapM_cons, ofHexChars_hexStr, ih]
  · intro l hl c hc
    simp only [List.mem_map] at hl
    obtain ⟨it, _, rfl⟩ := hl
    exact (plain_hexStr it c hc).2.1

/-- two stacks with the same display (either mode) are the same stack: no item is lost, merged or reordered -/
theorem C01_printStack_injective (raw : Bool) (a b : List Bytes) (h : printStack a raw = printStack b raw) : a = b := by
  cases raw
  · exact eq_of_read (C01_readStack a) (C01_readStack b) h
  · exact eq_of_read (C01_readRaw a) (C01_readRaw b) h

/-- a condition stack without the unreachable junk: a first-false position outside the stack is no position -/
def normCond (c : CondStack) : CondStack :=
  { c with firstFalse := match c.firstFalse with
      | none => none
      | some p => if p < c.size then some p else none }

theorem normCond_wf (c : CondStack) (hw : c.Wf) : normCond c = c := by
  obtain ⟨sz, ff⟩ := c
  cases ff with
  | none => rfl
  | some p =>
    have hp : p < sz := hw p rfl
    simp [normCond, hp]

/-- what `vfexec` displays is read back as the condition stack itself — size and first false position — for every
    value of the two fields (a position outside the stack, which no operation produces, is displayed like "none") -/
theorem C01_readCond_all (c : CondStack) : readCond (printBoolStack c) = some (normCond c) := by
  unfold readCond
  rw [printBoolStack_eq]
  by_cases hz : c.size = 0
  · rw [if_pos hz, splitLines_unlines _ (by intro l hl; simp at hl; subst hl; exact emptyStackLine_no_newline)]
    simp only [BEq.rfl, if_true, normCond, hz]
    -- no position lies inside an empty stack
    obtain ⟨sz, ff⟩ := c
    cases ff with
    | none => rfl
    | some p => simp
  · rw [if_neg hz, splitLines_unlines _ (forall_numbered boolLine_no_newline _ _)]
    have hlen : c.toList.length = c.size := by simp [CondStack.toList]
    simp only [numbered_ne_emptyLine (line := boolLine) fun _ _ => rfl, Bool.false_eq_true, if_false, mapM_numbered readBool_boolLine,
      Option.map_some, List.reverse_reverse, List.length_reverse, hlen, findIdx_toList, normCond]
    rfl

/-- The display determines the condition stack (well-formed, as every reachable one is: Lemmas/CondWf.lean) -/
theorem C01_readCond (c : CondStack) (hw : c.Wf) : readCond (printBoolStack c) = some c := by
  rw [C01_readCond_all, normCond_wf c hw]

/-- two session states whose three displays agree have the same main stack, alt stack and condition stack -/
theorem C01_display_determines_state (e1 e2 : IEnv) (hw1 : e1.see.cond.Wf) (hw2 : e2.see.cond.Wf)
    (h : shown e1 = shown e2) :
    e1.see.stack = e2.see.stack ∧ e1.see.altstack = e2.see.altstack ∧ e1.see.cond = e2.see.cond := by
  simp only [shown, fnStack, fnAltstack, fnVfexec, Prod.mk.injEq] at h
  exact ⟨C01_printStack_injective false _ _ h.1, C01_printStack_injective false _ _ h.2.1,
    eq_of_read (C01_readCond _ hw1) (C01_readCond _ hw2) h.2.2⟩

/-- the compressed condition stack of a nesting `l` (innermost first) -/
def condOf (l : List Bool) : CondStack := { size := l.length, firstFalse := firstFalseOuter l }

theorem condRel_condOf (l : List Bool) : CondRel (condOf l) l :=
  ⟨rfl, rfl, fun _ hp => firstFalseOuter_lt hp⟩

/-- What is and what is not recoverable of the specification's nesting from the `vfexec` display: its depth and the
    position of its first false level counted from the outside — exactly that, nothing more, nothing less.  Levels
    inside the first false one cannot be told apart (Bitcoin's rules never look at them). -/
theorem C01_showCond_eq_iff (l1 l2 : List Bool) :
    Spec.showCond l1 = Spec.showCond l2 ↔ l1.length = l2.length ∧ firstFalseOuter l1 = firstFalseOuter l2 := by
  rw [← C01_vfexec_text _ _ (condRel_condOf l1), ← C01_vfexec_text _ _ (condRel_condOf l2)]
  constructor
  · intro h
    have := eq_of_read (C01_readCond _ (condRel_condOf l1).wf) (C01_readCond _ (condRel_condOf l2).wf) h
    simp only [condOf, CondStack.mk.injEq] at this
    exact this
  · rintro ⟨h1, h2⟩
    simp [condOf, h1, h2]

/-- the entries `vfexec` lists, innermost first: a level reads `01` exactly when it and every level around it is
    true — every level from the first false one inwards reads `00`, whatever the specification's list holds there -/
theorem C01_vfexec_entries (c : CondStack) (l : List Bool) (h : CondRel c l) (hne : l ≠ []) :
    (splitLines (printBoolStack c)).mapM readBool = some ((List.range l.length).map (fun k => (l.drop k).all id)) := by
  have hz : ¬ c.size = 0 := by
    rw [h.1]; intro h0; exact hne (List.length_eq_zero_iff.mp h0)
  rw [printBoolStack_eq, if_neg hz, splitLines_unlines _ (forall_numbered boolLine_no_newline _ _),
    mapM_numbered readBool_boolLine, toList_reverse_of_condRel h]


/-- a session state that represents the specification state `st` displays `st`: the three commands print the
    renderings of the specification's main stack, alt stack and conditional nesting -/
theorem C01_display_of_rel (e : IEnv) (st : Spec.St) (h : Rel e.see st) : shown e = Spec.shownOf st := by
  simp only [shown, Spec.shownOf, fnStack, fnAltstack, fnVfexec, Prod.mk.injEq]
  refine ⟨?_, ?_, C01_vfexec_text _ _ h.cond⟩
  · rw [C01_stack_text, h.stack, List.reverse_reverse]
  · rw [C01_stack_text, h.alt, List.reverse_reverse]

/-- Faithfulness at the level of the specification.  Two session states that represent specification states (as every
    state a session reaches does, `C01_trace`) and print the same three texts represent specification states with
    the same main stack, the same alt stack, and nestings of the same depth with the same first false level. -/
theorem C01_display_determines_spec (e1 e2 : IEnv) (st1 st2 : Spec.St) (h1 : Rel e1.see st1) (h2 : Rel e2.see st2)
    (h : shown e1 = shown e2) :
    st1.stack = st2.stack ∧ st1.alt = st2.alt ∧ st1.cond.length = st2.cond.length ∧
      firstFalseOuter st1.cond = firstFalseOuter st2.cond := by
  obtain ⟨hs, ha, hcnd⟩ := C01_display_determines_state e1 e2 h1.cond.wf h2.cond.wf h
  refine ⟨?_, ?_, ?_, ?_⟩
  · have := h1.stack.symm.trans (hs.trans h2.stack); exact List.reverse_inj.mp this
  · have := h1.alt.symm.trans (ha.trans h2.alt); exact List.reverse_inj.mp this
  · rw [← h1.cond.1, ← h2.cond.1, hcnd]
  · rw [← h1.cond.2.1, ← h2.cond.2.1, hcnd]

/-- and the piped run's last output is the specification's stack, bottom first -/
theorem C01_pipe_of_rel (e : IEnv) (st : Spec.St) (h : Rel e.see st) : pipeResult e = Spec.showRaw st.stack := by
  rw [pipeResult, C01_raw_text, h.stack, List.reverse_reverse]

/-- before the first step the displays show the initial stack, an empty alt stack and no nesting -/
theorem C01_display_initial (stack : List Bytes) (script : Bytes) (flags : Nat) (sv : SigVersion) (z : Bool)
    (ed : ExecData) (pm : List (Bytes × Bytes)) (pk : List Bytes) (e0 : IEnv)
    (hsetup : setupEnvironment stack script flags sv [] z ed none pm pk = .ok e0) :
    shown e0 = Spec.shownOf (C01.initSt stack script ed) :=
  C01_display_of_rel e0 _ (C01.setup_rel stack script flags sv z ed pm pk e0 hsetup).1

/-- What the user sees.  Under the hypotheses of `C01_trace` — a session set up on one script, any
    script, initial stack, flags, signature version, checker — after every operation the debugger executes, the
    commands `stack`, `altstack` and `vfexec` print exactly the renderings of the main stack, the alt stack and the
    conditional nesting of the state Bitcoin's rules prescribe after that operation (state `k` of the session with
    state `k` of `Spec.evalInstrs`, as many of them on both sides), and when the script has been run to its end, of
    the final state. -/
theorem C01_display_trace (cx : Ctx) (tc : TapCtx) (cfg : Spec.Cfg)
    (stack : List Bytes) (script : Bytes) (flags : Nat) (sv : SigVersion) (z : Bool) (ed : ExecData)
    (pm : List (Bytes × Bytes)) (e0 : IEnv)
    (hsetup : setupEnvironment stack script flags sv [] z ed none pm (pm.map (·.2)) = .ok e0)
    (hc : CfgRel cx e0.see cfg)
    (hw : sv = .TAPSCRIPT → ed.weightInit = true) :
    Forall2 (fun (e : IEnv) (st : Spec.St) => shown e = Spec.shownOf st)
      (runOps cx tc script.length e0).1
      (Spec.evalInstrs cfg (Spec.decodePrefix script.length script).1 0 (C01.initSt stack script ed)).1 ∧
    (∀ e st, (runOps cx tc script.length e0).2 = .ok e →
       (Spec.evalInstrs cfg (Spec.decodePrefix script.length script).1 0 (C01.initSt stack script ed)).2 = .ok st →
       shown e = Spec.shownOf st ∧ pipeResult e = Spec.showRaw st.stack) := by
  have h := C01.C01_trace cx tc cfg stack script flags sv z ed pm e0 hsetup hc hw
  obtain ⟨hf, hout⟩ := h
  refine ⟨forall2_imp (fun e st hr => C01_display_of_rel e st hr) hf, ?_⟩
  intro e st he hs
  rw [he, hs] at hout
  exact ⟨C01_display_of_rel e st hout.2.1, C01_pipe_of_rel e st hout.2.1⟩


/-- the specification's state at position `k` of a session on one script: the initial state, the state after each
    operation, and — the end-of-script step — the final state once more -/
def specAt (tr : List Spec.St × Spec.R Spec.St) (init : Spec.St) (k : Nat) : Option Spec.St :=
  if k ≤ tr.1.length then (init :: tr.1)[k]?
  else if k = tr.1.length + 1 then (match tr.2 with | .ok st => some st | .error _ => none)
  else none

/-- Every reachable state of every session.  Take a session set up on one script (hypotheses of `C01_trace`; the
    script not of the pay-to-script-hash shape, which would start a second script) and any history of `step` and
    `rewind` commands in which no step fails (refused commands included, unbounded length).  With `n` the net number
    of steps performed, the state reached is position `n` of the specification's evaluation — it exists — and
    `stack`, `altstack`, `vfexec` print the renderings of that state's main stack, alt stack and nesting. -/
theorem C01_display_history (cx : Ctx) (tc : TapCtx) (cfg : Spec.Cfg)
    (stack : List Bytes) (script : Bytes) (flags : Nat) (sv : SigVersion) (z : Bool) (ed : ExecData)
    (pm : List (Bytes × Bytes)) (e0 : IEnv)
    (hsetup : setupEnvironment stack script flags sv [] z ed none pm (pm.map (·.2)) = .ok e0)
    (hc : CfgRel cx e0.see cfg)
    (hw : sv = .TAPSCRIPT → ed.weightInit = true)
    (hp : e0.isP2sh = false)
    (cmds : List C04.Cmd) (e : IEnv) (n : Int)
    (hh : C04.execHist cx tc cmds (e0, 0) = some (e, n)) :
    ∃ st, specAt (Spec.evalInstrs cfg (Spec.decodePrefix script.length script).1 0 (C01.initSt stack script ed))
            (C01.initSt stack script ed) n.toNat = some st ∧
          shown e = Spec.shownOf st := by
  obtain ⟨hinv, hstart⟩ := C04.setup_starts_fresh stack script flags sv [] z ed none pm (pm.map (·.2)) e0 hsetup
  obtain ⟨_, hadv⟩ := C04.C04_rewind_exact cx tc e0 hinv hstart cmds e n hh
  obtain ⟨hrel0, _, ht0, hsu0⟩ := C01.setup_rel stack script flags sv z ed pm (pm.map (·.2)) e0 hsetup
  obtain ⟨hf, hout⟩ := C01.C01_trace cx tc cfg stack script flags sv z ed pm e0 hsetup hc hw
  generalize hr : runOps cx tc script.length e0 = r at hf hout
  generalize htr : Spec.evalInstrs cfg (Spec.decodePrefix script.length script).1 0 (C01.initSt stack script ed) = tr at hf hout
  have hfin : ∀ e', (runOps cx tc script.length e0).2 = .ok e' → e'.pc = [] := by
    intro e' he'
    rw [hr] at he'
    rw [he'] at hout
    cases hs : tr.2 with
    | ok st => rw [hs] at hout; exact hout.2.2.1
    | error y => rw [hs] at hout; exact hout.elim
  have hcons : Forall2 (fun (e' : IEnv) (st' : Spec.St) => Rel e'.see st') (e0 :: r.1)
      (C01.initSt stack script ed :: tr.1) := Forall2.cons hrel0 hf
  obtain ⟨hlen, hget⟩ := forall2_getElem? hcons
  simp only [List.length_cons, Nat.add_right_cancel_iff] at hlen
  -- the state after `n` net steps is entry `n` of `e0 :: runOps …`, or the last entry with `done` set (the end-of-script step)
  rcases advance_runOps cx tc script.length e0 ht0 hp hsu0 hfin n.toNat e hadv with ⟨hle, hk⟩ | ⟨hk, e', he', heq⟩
  · rw [hr] at hle hk
    obtain ⟨st, hst, hrel⟩ := hget n.toNat e hk
    refine ⟨st, ?_, C01_display_of_rel e st hrel⟩
    simp only [specAt, ← hlen, hle, if_true, hst]
  · rw [hr] at hk he'
    rw [he'] at hout
    cases hs : tr.2 with
    | error y => rw [hs] at hout; exact hout.elim
    | ok st =>
      rw [hs] at hout
      refine ⟨st, ?_, ?_⟩
      · have h1 : ¬ n.toNat ≤ tr.1.length := by omega
        have h2 : n.toNat = tr.1.length + 1 := by omega
        unfold specAt
        rw [if_neg h1, if_pos h2, hs]
      · subst heq
        exact C01_display_of_rel { e' with done := true } st hout.2.1


/-- a stack with an empty item in the middle: the exact text, and the stack read back from it -/
example : printStack [[1], [], [2, 3]] false = ['<', '0', '1', '>', '\t', '0', '2', '0', '3', '\t', '(', 't', 'o', 'p', ')', '\n', '<', '0', '2', '>', '\t', '\n', '<', '0', '3', '>', '\t', '0', '1', '\n'] ∧
    readStack (printStack [[1], [], [2, 3]] false) = some [[1], [], [2, 3]] ∧
    printStack [[1], [], [2, 3]] true = ['0', '1', '\n', '\n', '0', '2', '0', '3', '\n'] ∧ printStack [] false = ['-', ' ', 'e', 'm', 'p', 't', 'y', ' ', 's', 't', 'a', 'c', 'k', ' ', '-', '\n'] ∧ printStack [] true = [] := by
  decide

/-- 101 items: line 99 is `<99>`, line 100 is `<100>` (the field widens), line 101 `<101>`; all 101 items are read back -/
example : (splitLines (printStack (List.replicate 101 [0xab]) false))[98]? = some ['<', '9', '9', '>', '\t', 'a', 'b'] ∧
    (splitLines (printStack (List.replicate 101 [0xab]) false))[99]? = some ['<', '1', '0', '0', '>', '\t', 'a', 'b'] ∧
    (splitLines (printStack (List.replicate 101 [0xab]) false))[100]? = some ['<', '1', '0', '1', '>', '\t', 'a', 'b'] ∧
    readStack (printStack ([] :: List.replicate 100 [0xab]) false) = some ([] :: List.replicate 100 [0xab]) :=
  ⟨(C01_stack_line _ 98 (by decide)).trans (by decide), (C01_stack_line _ 99 (by decide)).trans (by decide),
   (C01_stack_line _ 100 (by decide)).trans (by decide), C01_readStack _⟩

/-- `vfexec` for a false level inside a false level, and for a true level inside a false one (`0 IF 0 IF ELSE`):
    the same text — the inner level reads `00` both times; the condition stack is read back from it -/
example : printBoolStack { size := 2, firstFalse := some 0 } = ['<', '0', '1', '>', '\t', '0', '0', '\n', '<', '0', '2', '>', '\t', '0', '0', '\n'] ∧
    Spec.showCond [false, false] = ['<', '0', '1', '>', '\t', '0', '0', '\n', '<', '0', '2', '>', '\t', '0', '0', '\n'] ∧ Spec.showCond [true, false] = ['<', '0', '1', '>', '\t', '0', '0', '\n', '<', '0', '2', '>', '\t', '0', '0', '\n'] ∧
    Spec.showCond [false, true] = ['<', '0', '1', '>', '\t', '0', '0', '\n', '<', '0', '2', '>', '\t', '0', '1', '\n'] ∧
    readCond (printBoolStack { size := 2, firstFalse := some 0 }) = some { size := 2, firstFalse := some 0 } ∧
    readCond (printBoolStack {}) = some {} := by
  decide

/-- the session `OP_1 OP_TOALTSTACK OP_0 OP_IF OP_0 OP_IF OP_ELSE` on the initial stack `[07]`: the hypotheses of the main
    theorems are met (the session is set up, it is not of the P2SH shape), and after the seven operations the three
    commands print: the stack `07`, the alt stack `01`, two nesting levels both `00` -/
example : ∃ e0, setupEnvironment [[7]] [0x51, 0x6b, 0x00, 0x63, 0x00, 0x63, 0x67] 0 .BASE [] false {} none [] [] = .ok e0 ∧
    e0.isP2sh = false ∧
    ((runOps C04.exCx C04.exTc 7 e0).1.getLast?.map shown) =
      some (['<', '0', '1', '>', '\t', '0', '7', '\t', '(', 't', 'o', 'p', ')', '\n'], ['<', '0', '1', '>', '\t', '0', '1', '\t', '(', 't', 'o', 'p', ')', '\n'], ['<', '0', '1', '>', '\t', '0', '0', '\n', '<', '0', '2', '>', '\t', '0', '0', '\n']) := by
  refine ⟨_, rfl, ?_⟩
  decide +kernel

end Btcdeb.Proofs.C01Display
