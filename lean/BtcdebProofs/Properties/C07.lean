/-
  C07 — btcc assembles every token sequence into the exact minimal encoding.
  `Value::operator>>` is the only place the assembler emits bytes.  For an integer and for data it emits the
  specification's minimal push (`int_emits_minimal`, `data_emits_minimal`, which `C07Lexer.valueOf_readTok` joins with the
  lexer; outside `Small` the minimal push is the push chosen by length), for an opcode its byte.  The minimal push decodes
  back to one instruction that places exactly the given bytes on the stack and satisfies Bitcoin's minimal-push rule
  (`minimal_push_decodes`, by which `C14.extractValues_assemble` reads pushed values back).
  The lexical layer (classification of text into values) is Properties/C07Lexer.lean.
-/
import Btcdeb
import BtcdebProofs.Properties.C18
import BtcdebProofs.Lemmas.Instr
namespace Btcdeb.Proofs.C07
open Btcdeb Btcdeb.Model
open Btcdeb.Refine (lengthOp lengthOp_le decodeOne_lengthPush)

theorem pushData_eq_lengthPush (b : Bytes) : pushData b = Spec.lengthPush b := rfl

/-- the data with a push opcode of its own: nothing (OP_0), or the one byte of a number 1..16 (OP_1..OP_16)
    or of -1 (OP_1NEGATE) -/
def Small (d : Bytes) : Prop := d = [] ∨ ∃ b, d = [b] ∧ ((1 ≤ b.toNat ∧ b.toNat ≤ 16) ∨ b.toNat = 0x81)

theorem minimalPushOf_eq_lengthPush {d : Bytes} (h : ¬ Small d) : Spec.minimalPushOf d = Spec.lengthPush d := by
  unfold Spec.minimalPushOf
  split
  · exact absurd (Or.inl rfl) h
  · rename_i b
    rw [if_neg fun hb => h (Or.inr ⟨b, rfl, Or.inl hb⟩), if_neg fun hb => h (Or.inr ⟨b, rfl, Or.inr hb⟩)]
  · rfl

theorem small_num {d : Bytes} (h : Small d) :
    serialize (setVch d) = d ∧ (setVch d = 0 ∨ setVch d = -1 ∨ (1 ≤ setVch d ∧ setVch d ≤ 16)) := by
  rcases h with rfl | ⟨b, rfl, hb⟩
  · exact ⟨rfl, Or.inl rfl⟩
  · have hlt := u8_lt b
    refine ⟨C18.encode_decode [b] (by unfold minimalOk lo7; simp; omega), ?_⟩
    have hv := setVch_snoc [] b
    simp only [List.nil_append, leValue_nil, List.length_nil, Nat.pow_zero, Nat.one_mul, Nat.zero_add] at hv
    rw [hv]
    rcases hb with hb | hb
    · rw [if_neg (by rw [Bool.not_eq_true, hi_false_iff]; omega)]; omega
    · rw [if_pos ((hi_iff b).mpr (by omega)), hb]; decide

/-- a decimal integer is emitted as the minimal push of its script-number encoding -/
theorem int_emits_minimal (n : Int) : pushInt64 n = Spec.minimalPushOf (serialize n) := by
  unfold pushInt64
  by_cases h1 : n = -1
  · subst h1; rw [C18.serialize_neg_one]; rfl
  · by_cases h2 : 1 ≤ n ∧ n ≤ 16
    · obtain ⟨k, rfl⟩ : ∃ k : Nat, n = (k : Int) := ⟨n.toNat, by omega⟩
      have hk : (UInt8.ofNat k).toNat = k := by rw [UInt8.toNat_ofNat']; omega
      have hs := C18.serialize_small k (by omega)
      rw [if_neg (show ¬ k = 0 by omega)] at hs
      rw [hs, if_pos (show ((k : Int) == -1 || (decide ((1 : Int) ≤ k) && decide ((k : Int) ≤ 16))) = true by simp; omega)]
      simp only [Spec.minimalPushOf, hk]
      rw [if_pos (by omega)]
      congr 2; omega
    · by_cases h0 : n = 0
      · subst h0; rfl
      · rw [if_neg (by simp [h1]; omega), if_neg (by simpa using h0), pushData_eq_lengthPush, minimalPushOf_eq_lengthPush]
        -- the encoding of any other number has no opcode of its own: it decodes back to that number
        intro hs
        have := (small_num hs).2
        rw [C18.decode_encode] at this
        omega

/-- a data value (hex literal, compiled sub-script) is emitted as the minimal push of exactly its bytes -/
theorem data_emits_minimal (v : Value) (hv : v.type = .T_DATA) (s : Bytes) :
    v.appendTo s = .ok (s ++ Spec.minimalPushOf v.data) := by
  unfold Value.appendTo
  simp only [hv]
  by_cases hlen : v.data.length < 5
  · rw [if_pos hlen]
    have h4 : ¬ v.data.length > 4 := by omega
    unfold dataIntValue scriptNum
    simp only [h4, if_false, Bool.false_and, Bool.false_eq_true]
    show (if serialize (setVch v.data) == v.data then Except.ok (s ++ pushInt64 (setVch v.data)) else Except.ok (s ++ pushData v.data)) = _
    by_cases hcanon : serialize (setVch v.data) = v.data
    · rw [if_pos (by simpa using hcanon), int_emits_minimal, hcanon]
    · rw [if_neg (by simpa using hcanon), pushData_eq_lengthPush,
        minimalPushOf_eq_lengthPush fun hs => hcanon (small_num hs).1]
  · rw [if_neg hlen, pushData_eq_lengthPush, minimalPushOf_eq_lengthPush]
    rintro (h | ⟨b, h, _⟩) <;> rw [h] at hlen <;> simp at hlen

/-- an opcode token is emitted as its byte -/
theorem opcode_emits_byte (v : Value) (hv : v.type = .T_OPCODE) (s : Bytes) :
    v.appendTo s = .ok (s ++ [UInt8.ofNat v.opcode]) := by
  unfold Value.appendTo; simp [hv]

/-- the value an instruction places on the stack when executed -/
def pushedBy (i : Spec.Instr) : Option Bytes :=
  if i.opcode ≤ 0x4e then some i.data
  else if i.opcode = 0x4f then some [0x81]
  else if 0x51 ≤ i.opcode ∧ i.opcode ≤ 0x60 then some [UInt8.ofNat (i.opcode - 0x50)]
  else none

theorem minimalPush_lengthOp {d : Bytes} (h : ¬ Small d) : Spec.minimalPush (lengthOp d.length) d = true := by
  have h0 : d.length ≠ 0 := fun h0 => h (Or.inl (List.length_eq_zero_iff.mp h0))
  have hs : ∀ P : UInt8 → Prop, (∀ b, d = [b] → ¬ P b) → ¬ (d.length = 1 ∧ P (d.headD 0)) := fun P hP ⟨hl, hp⟩ => by
    match d, hl with
    | [b], _ => exact hP b rfl hp
  unfold Spec.minimalPush lengthOp
  rw [if_neg h0, if_neg (hs (fun b => 1 ≤ b.toNat ∧ b.toNat ≤ 16) fun b hb hr => h (Or.inr ⟨b, hb, Or.inl hr⟩)),
    if_neg (hs (fun b => b.toNat = 0x81) fun b hb hr => h (Or.inr ⟨b, hb, Or.inr hr⟩))]
  by_cases ha : d.length ≤ 75
  · simp [ha, show d.length < 0x4c by omega]
  · by_cases hb : d.length ≤ 255
    · simp [ha, hb, show ¬ d.length < 0x4c by omega]
    · by_cases hc : d.length ≤ 65535
      · simp [ha, hb, hc, show ¬ d.length < 0x4c by omega]
      · simp [ha, hb, hc]

/-- Decoding the minimal push yields exactly one instruction, which places exactly the given bytes on
    the stack and satisfies Bitcoin's minimal-push rule (any data length below 2^32) -/
theorem minimal_push_decodes (d rest : Bytes) (hd : d.length < 2 ^ 32) :
    ∃ i, Spec.decodeOne (Spec.minimalPushOf d ++ rest) = some (i, rest) ∧ pushedBy i = some d ∧
      (i.opcode ≤ 0x4e → Spec.minimalPush i.opcode i.data = true) := by
  by_cases hs : Small d
  · rcases hs with rfl | ⟨b, rfl, hb⟩
    · exact ⟨⟨0, []⟩, rfl, rfl, fun _ => rfl⟩
    · have hlt := u8_lt b
      unfold Spec.minimalPushOf
      rcases hb with hb | hb
      · have hof : (UInt8.ofNat (0x50 + b.toNat)).toNat = 0x50 + b.toNat := by rw [UInt8.toNat_ofNat']; omega
        refine ⟨⟨0x50 + b.toNat, []⟩, ?_, ?_, fun h => by simp only at h; omega⟩
        · simp only [hb, and_self, if_true, List.cons_append, List.nil_append, Spec.decodeOne, hof]
          rw [if_neg (by omega)]
        · simp only [pushedBy]
          rw [if_neg (by omega), if_neg (by omega), if_pos (by omega), Nat.add_sub_cancel_left, u8_ofNat_toNat]
      · obtain rfl : b = 0x81 := u8_ext hb
        exact ⟨⟨0x4f, []⟩, rfl, rfl, fun h => absurd h (by decide)⟩
  · rw [minimalPushOf_eq_lengthPush hs]
    refine ⟨_, decodeOne_lengthPush d rest hd, ?_, fun _ => minimalPush_lengthOp hs⟩
    rw [pushedBy, if_pos (lengthOp_le _)]

end Btcdeb.Proofs.C07
