/-
  C05 — the step-by-step taproot commitment check of the debugger (`TaprootCommitmentEnv`, modelled by `Tce`)
  equals the BIP341 rule (`Spec.bip341Valid`).
-/
import Btcdeb
import BtcdebProofs.Lemmas.Tce
import BtcdebProofs.Lemmas.SpendShapes
namespace Btcdeb.Proofs.C05
open Btcdeb Btcdeb.Model Btcdeb.Proofs.Tce

/-- the model's context and the specification's oracle are the same functions: the same tagged hash, and
    `CheckTapTweak(p, k, parity)` is the BIP341 tweak check with the scalar `hash_TapTweak(p ‖ k)`.
    This one relates the debugger's functions (`TapCtx`) to the oracle, as an equation.  C06 has two more: `C06.Agree`
    relates the `tap` tool's functions (`Tap.Ctx`) to the oracle and `C06.AgreeTce` relates them to the debugger's; both
    only ask that a key `tweakAdd` made passes the check. -/
def Agree (tc : TapCtx) (o : Spec.TapOracle) : Prop :=
  (∀ tag m, tc.taggedHash tag m = o.taggedHash tag m) ∧
  (∀ q p k par, tc.checkTapTweak q p k par = o.tweakCheck q p (o.taggedHash "TapTweak" (p ++ k)) par)

/-- the functions btcdeb is linked with (`Glue.tapCtx`: SHA-256 and secp256k1's `CheckTapTweak`) and the oracle BIP341
    is checked against (`Glue.tapOracle`) agree -/
theorem glue_agree : Agree Glue.tapCtx Glue.tapOracle :=
  ⟨fun _ _ => rfl, fun _ _ _ _ => rfl⟩

/-- `pathLen - i + 1` calls of `Iterate()` always reach a verdict -/
theorem C05_run_fuel (tc : TapCtx) (t : Tce) :
    (Tce.run tc (t.pathLen - t.i + 1) t).1 ≠ .processing := by
  generalize hd : t.pathLen - t.i = d
  induction d generalizing t with
  | zero =>
    rw [run_one_final tc t (by omega)]
    split <;> simp
  | succ d ih =>
    simp only [Tce.run, iterate_processing tc t (by omega)]
    exact ih _ (by simp only; omega)

/-- once a verdict is reached more fuel changes nothing -/
theorem C05_run_fuel_mono (tc : TapCtx) : ∀ (n f : Nat) (t : Tce),
    (Tce.run tc n t).1 ≠ .processing → Tce.run tc (n + f) t = Tce.run tc n t
  | 0, _, t, h => by simp [Tce.run] at h
  | n + 1, f, t, h => by
    have : n + 1 + f = (n + f) + 1 := by omega
    rw [this]
    simp only [Tce.run] at h ⊢
    generalize t.iterate tc = r at h ⊢
    obtain ⟨s, t'⟩ := r
    cases s
    · exact C05_run_fuel_mono tc n f t' h
    · rfl
    · rfl

/-- **C05, intermediate values.** For a control block of `33 + 32·m` bytes and every `i ≤ m`: the first `i`
    calls of `Iterate()` all answered `processing`, the path index then is `i`, and the hash on display (`m_k`)
    is the `i`-th element of the BIP341 Merkle chain (leaf hash folded with the first `i` path nodes). -/
theorem C05_intermediate (tc : TapCtx) (o : Spec.TapOracle) (hag : Agree tc o)
    (control program script : Bytes) (m : Nat) (hlen : control.length = 33 + 32 * m) (i : Nat) (hi : i ≤ m) :
    let t0 := Tce.init tc control program script
    let c0 := (control.headD 0).toNat
    let leafVersion := c0 - c0 % 2
    let nodes := Spec.pathNodes m (control.drop 33)
    (∀ j, j < i → ((Tce.iterN tc j t0).iterate tc).1 = .processing) ∧
    (Tce.iterN tc i t0).i = i ∧
    (Spec.merkleChain o (Spec.tapLeafHash o leafVersion script) nodes)[i]? = some (Tce.iterN tc i t0).k := by
  have hdiv : (control.length - 33) / 32 = m := by omega
  obtain ⟨h1, h2, h3⟩ := iterN_init tc o hag.1 control program script i (by omega)
  rw [hdiv] at h3
  refine ⟨h1, h2, ?_⟩
  rw [TapTree.merkleChain_eq_scanl, List.getElem?_scanl, h3,
    if_pos (by rw [TapTree.pathNodes_length m _ (by simp only [List.length_drop]; omega)]; exact hi)]

/-- the path nodes the chain is folded with are the 32-byte slices of the control block after byte 33 -/
theorem C05_nodes (control : Bytes) (m : Nat) (hlen : control.length = 33 + 32 * m) (i : Nat) (hi : i < m) :
    (Spec.pathNodes m (control.drop 33)).length = m ∧
    (Spec.pathNodes m (control.drop 33))[i]? = some ((control.drop (33 + 32 * i)).take 32) := by
  have hl : 32 * m ≤ (control.drop 33).length := by simp only [List.length_drop]; omega
  refine ⟨TapTree.pathNodes_length m _ hl, ?_⟩
  rw [TapTree.pathNodes_getElem? m _ i hl hi, List.drop_drop]

/-- the size conditions of BIP341 hold exactly for `33 + 32·m` bytes with `m ≤ 128` -/
theorem C05_size_iff (control : Bytes) :
    (33 ≤ control.length ∧ control.length ≤ 33 + 32 * 128 ∧ (control.length - 33) % 32 = 0) ↔
    ∃ m, m ≤ 128 ∧ control.length = 33 + 32 * m :=
  size_iff control.length

/-- behind the size condition of `configure_tx_txin` the check, run to its end, answers what BIP341's rule says -/
theorem C05_run_of_gate (tc : TapCtx) (o : Spec.TapOracle) (hag : Agree tc o) (control program script : Bytes)
    (hsz : (decide (control.length < Gen.TAPROOT_CONTROL_BASE_SIZE) || decide (control.length > Gen.TAPROOT_CONTROL_MAX_SIZE) ||
      (control.length - Gen.TAPROOT_CONTROL_BASE_SIZE) % Gen.TAPROOT_CONTROL_NODE_SIZE != 0) = false) :
    (Tce.run tc ((Tce.init tc control program script).pathLen + 1) (Tce.init tc control program script)).1 =
      if Spec.bip341Valid o control script program then .done else .failed := by
  obtain ⟨a1, a2, a3⟩ := (size_iff control.length).2 ((C05_gate_bool control.length).1 hsz)
  rw [init_pathLen, run_init tc o hag.1, hag.2, TapTree.bip341Valid_eq, decide_eq_true a1, decide_eq_true a2, beq_iff_eq.2 a3]
  rfl

/-- **C05, verdict.** With `m + 1` calls the check answers `done` if BIP341's rule holds and `failed` if not. -/
theorem C05_run_eq (tc : TapCtx) (o : Spec.TapOracle) (hag : Agree tc o)
    (control program script : Bytes) (m : Nat) (hlen : control.length = 33 + 32 * m) (hm : m ≤ 128) :
    (Tce.run tc (m + 1) (Tce.init tc control program script)).1 =
      if Spec.bip341Valid o control script program = true then .done else .failed := by
  have := C05_run_of_gate tc o hag control program script ((C05_gate_bool control.length).2 ⟨m, hm, hlen⟩)
  rwa [init_pathLen, show (control.length - 33) / 32 = m by omega] at this

/-- the verdict read three ways: `done` exactly when BIP341's rule holds, `failed` exactly when it does not, and never
    `processing` after `m + 1` calls -/
theorem C05_done_iff (tc : TapCtx) (o : Spec.TapOracle) (hag : Agree tc o)
    (control program script : Bytes) (m : Nat) (hlen : control.length = 33 + 32 * m) (hm : m ≤ 128) :
    ((Tce.run tc (m + 1) (Tce.init tc control program script)).1 = .done ↔
      Spec.bip341Valid o control script program = true) ∧
    ((Tce.run tc (m + 1) (Tce.init tc control program script)).1 = .failed ↔
      Spec.bip341Valid o control script program = false) ∧
    (Tce.run tc (m + 1) (Tce.init tc control program script)).1 ≠ .processing := by
  rw [C05_run_eq tc o hag control program script m hlen hm]
  cases Spec.bip341Valid o control script program <;> simp

/-- the constructor's leaf hash is BIP341's TapLeaf hash (leaf version = control byte without its parity bit),
    and no number of `Iterate()` calls changes it -/
theorem C05_leaf_hash (tc : TapCtx) (o : Spec.TapOracle) (hag : Agree tc o) (control program script : Bytes) :
    let c0 := (control.headD 0).toNat
    (Tce.init tc control program script).leaf = Spec.tapLeafHash o (c0 - c0 % 2) script ∧
    (∀ t : Tce, (t.iterate tc).2.leaf = t.leaf) ∧
    (∀ (n : Nat) (t : Tce), (Tce.iterN tc n t).leaf = t.leaf) :=
  ⟨init_leaf tc o hag.1 control program script, fun t => (iterate_sameFrame tc t).leaf,
   fun n t => (iterN_sameFrame tc n t).leaf⟩

/-- the session step that finishes the commitment phase stores exactly the environment's leaf hash in the
    execution data (what the BIP342 signature digest later reads), marks it initialised and ends the phase -/
theorem C05_leaf_hash_step (cx : Ctx) (tc : TapCtx) (e : IEnv) (t t' : Tce)
    (he : e.tce = some t) (hit : t.iterate tc = (.done, t')) :
    ∃ e', stepSession cx tc e = .ok e' ∧ e'.tce = none ∧
      e'.see.execdata.tapleafHash = t.leaf ∧ e'.see.execdata.tapleafHashInit = true := by
  rw [stepSession_commit cx tc he, hit]
  exact ⟨_, rfl, rfl, iterate_leaf hit, rfl⟩

/-- while the commitment phase is running a session step only advances the environment (and the step counter
    `currOpSeq`), and a failed commitment fails the step with WITNESS_PROGRAM_MISMATCH -/
theorem C05_step_phase (cx : Ctx) (tc : TapCtx) (e : IEnv) (t t' : Tce) (he : e.tce = some t) :
    (t.iterate tc = (.processing, t') →
      stepSession cx tc e = .ok { e with tce := some t', currOpSeq := e.currOpSeq + 1 }) ∧
    (t.iterate tc = (.failed, t') → stepSession cx tc e = .error (.script .WITNESS_PROGRAM_MISMATCH)) := by
  rw [stepSession_commit cx tc he]
  exact ⟨fun hit => by rw [hit], fun hit => by rw [hit]⟩

/-- the witness stack with the optional annex removed (instance.cpp) -/
def witnessSansAnnex (w : List Bytes) : List Bytes :=
  match w.getLast? with
  | none => w
  | some wlast =>
    if w.length ≥ 2 && !wlast.isEmpty && byteAt wlast 0 == Gen.ANNEX_TAG then w.dropLast else w

/-- with witness data, `witnessSansAnnex` is the stack `configure_tx_txin` goes on with -/
theorem witnessSansAnnex_some {w : List Bytes} {wlast : Bytes} (h : w.getLast? = some wlast) :
    witnessSansAnnex w = if Shapes.hasAnnexM w wlast then w.dropLast else w := by
  simp only [witnessSansAnnex, h]
  rfl

/-- **C05, what a tapscript session is set up with (size gate, accepting direction).** Whenever `configure_tx_txin`
    sets up a tapscript session, the commitment environment it hands to the debugger is `Tce.init` of the witness's
    control block (last element after annex removal), the 32-byte witness program (second push of the 34-byte
    `OP_1 <32 bytes>` script, which is the spent scriptPubKey for a native output) and the leaf script (second-to-last
    element); the control block has `33 + 32·m` bytes with `m ≤ 128` and leaf version `0xc0`; and the execution data
    already carries the environment's leaf hash. -/
theorem C05_size_gate (h : HashCtx) (tc : TapCtx) (tx txin : Tx) (idx vout : Nat) (sv : SigVersion)
    (c : Configured) (hc : configureTxTxin h tc tx txin idx vout sv = some c) (hs : c.sigver = .TAPSCRIPT) :
    ∃ (inp : TxIn) (spent : TxOut) (validation : Bytes) (v1 v2 : GotOp) (control leafScript : Bytes) (m : Nat),
      tx.vin[idx]? = some inp ∧ txin.vout[vout]? = some spent ∧
      (inp.scriptSig = [] → validation = spent.scriptPubKey) ∧
      validation.length = 34 ∧ getOp validation = some v1 ∧ v1.opcode = Op.OP_1 ∧ getOp v1.rest = some v2 ∧
      v2.data.length = 32 ∧
      (witnessSansAnnex inp.witness).getLast? = some control ∧
      (witnessSansAnnex inp.witness).dropLast.getLast? = some leafScript ∧
      m ≤ 128 ∧ control.length = 33 + 32 * m ∧
      (control.headD 0).toNat - (control.headD 0).toNat % 2 = 0xc0 ∧
      c.script = leafScript ∧
      c.tce = some (Tce.init tc control v2.data leafScript) ∧
      c.execdata.tapleafHash = (Tce.init tc control v2.data leafScript).leaf ∧
      c.execdata.tapleafHashInit = true := by
  obtain ⟨inp, spent, hinp, hspent, ⟨_, _, rfl⟩ | ⟨wlast, v, prog, hwl, hv, ⟨_, h0, _⟩ | ⟨rfl, hp, hct⟩⟩⟩ :=
    Shapes.configureTxTxin_cases hc
  · cases hs
  · rw [hs] at h0; cases h0
  rcases Shapes.configureTaproot_some hct _ _ rfl rfl with
    ⟨_, rfl⟩ | ⟨control, leafScript, _, hctl, hleaf, hgate, hlv, _, _, _, rfl⟩
  · cases hs
  obtain ⟨m, hm, hlen⟩ := (C05_gate_bool control.length).1 hgate
  rw [← witnessSansAnnex_some hwl] at hctl hleaf
  refine ⟨inp, spent, 0x51 :: 0x20 :: prog, _, _, control, leafScript, m, hinp, hspent, fun hss => ?_, by simp [hp],
    Refine.getOp_op 0x51 _ (by decide), rfl, Refine.getOp_push_end 0x20 prog (by decide) (by rw [hp]; rfl), hp,
    hctl, hleaf, hm, hlen, by rw [← leafVersion_eq, hlv]; rfl, rfl, rfl, rfl, rfl⟩
  rw [hss, Shapes.validationScript_nil] at hv
  exact (Option.some.inj hv).symm

/-- **C05, size gate (rejecting direction).** For a native taproot output (`OP_1 <32-byte program>`, empty
    scriptSig) spent by the script path (at least two witness elements after annex removal), a control block that
    is shorter than 33 bytes, longer than 4129 bytes or not of the form `33 + 32·m` makes `configure_tx_txin`
    refuse: no session is started. -/
theorem C05_size_gate_reject (h : HashCtx) (tc : TapCtx) (tx txin : Tx) (idx vout : Nat) (sv : SigVersion)
    (inp : TxIn) (spent : TxOut) (program control : Bytes)
    (hinp : tx.vin[idx]? = some inp) (hspent : txin.vout[vout]? = some spent)
    (hsig : inp.scriptSig = []) (hspk : spent.scriptPubKey = 0x51 :: 0x20 :: program) (hp : program.length = 32)
    (hpath : 2 ≤ (witnessSansAnnex inp.witness).length)
    (hctl : (witnessSansAnnex inp.witness).getLast? = some control)
    (hbad : control.length < 33 ∨ 4129 < control.length ∨ (control.length - 33) % 32 ≠ 0) :
    configureTxTxin h tc tx txin idx vout sv = none := by
  cases hr : configureTxTxin h tc tx txin idx vout sv with
  | none => rfl
  | some c =>
    exfalso
    obtain ⟨inp', spent', hinp', hspent', ⟨h0, _⟩ | ⟨wlast, v, prog, hwl, hv, hcases⟩⟩ := Shapes.configureTxTxin_cases hr
    · rw [hinp] at hinp'; cases hinp'
      rw [h0] at hpath
      simp [witnessSansAnnex] at hpath
    rw [hinp] at hinp'; cases hinp'
    rw [hspent] at hspent'; cases hspent'
    rw [hsig, Shapes.validationScript_nil, hspk] at hv
    cases hv
    rcases hcases with ⟨h0 | h0, _⟩ | ⟨h0, _, hct⟩
    · cases h0
    · cases h0
    cases h0
    rw [witnessSansAnnex_some hwl] at hpath hctl
    rcases Shapes.configureTaproot_some hct _ _ rfl rfl with ⟨h1, _⟩ | ⟨control', _, _, hctl', _, hgate, _⟩
    · omega
    · rw [hctl] at hctl'; cases hctl'
      obtain ⟨m, hm, hlen⟩ := (C05_gate_bool control.length).1 hgate
      omega

/-- a control block of a wrong size never yields a tapscript session, whatever the rest of the spend looks like -/
theorem C05_size_gate_never (h : HashCtx) (tc : TapCtx) (tx txin : Tx) (idx vout : Nat) (sv : SigVersion)
    (inp : TxIn) (control : Bytes) (hinp : tx.vin[idx]? = some inp)
    (hctl : (witnessSansAnnex inp.witness).getLast? = some control)
    (hbad : control.length < 33 ∨ 4129 < control.length ∨ (control.length - 33) % 32 ≠ 0)
    (c : Configured) (hc : configureTxTxin h tc tx txin idx vout sv = some c) : c.sigver ≠ .TAPSCRIPT := by
  intro hs
  obtain ⟨inp', _, _, _, _, control', _, m, hinp', _, _, _, _, _, _, _, hctl', _, hm, hlen, _⟩ :=
    C05_size_gate h tc tx txin idx vout sv c hc hs
  rw [hinp] at hinp'
  cases hinp'
  rw [hctl] at hctl'
  cases hctl'
  omega

/-- **C05, end to end.** The commitment phase of a tapscript session set up by `configure_tx_txin` ends in
    `done` exactly when BIP341's rule holds for the control block, leaf script and witness program the environment
    holds (which parts of the spend these are: `C05_size_gate`). -/
theorem C05_session_commitment (h : HashCtx) (tc : TapCtx) (o : Spec.TapOracle) (hag : Agree tc o)
    (tx txin : Tx) (idx vout : Nat) (sv : SigVersion)
    (c : Configured) (hc : configureTxTxin h tc tx txin idx vout sv = some c) (hs : c.sigver = .TAPSCRIPT) :
    ∃ (t : Tce) (m : Nat), c.tce = some t ∧ t.pathLen = m ∧ m ≤ 128 ∧
      c.execdata.tapleafHash = t.leaf ∧
      ((Tce.run tc (m + 1) t).1 = .done ↔ Spec.bip341Valid o t.control t.script t.program = true) ∧
      ((Tce.run tc (m + 1) t).1 = .failed ↔ Spec.bip341Valid o t.control t.script t.program = false) := by
  obtain ⟨_, _, _, _, v2, control, leafScript, m, _, _, _, _, _, _, _, _, _, _, hm, hlen, _, _, htce, hleaf, _⟩ :=
    C05_size_gate h tc tx txin idx vout sv c hc hs
  obtain ⟨d1, d2, _⟩ := C05_done_iff tc o hag control v2.data leafScript m hlen hm
  exact ⟨_, m, htce, by rw [init_pathLen]; omega, hm, hleaf, d1, d2⟩

section Examples

/-- toy hash / tweak functions which the kernel can evaluate: the "hash" keeps its whole input -/
private def toyTc : TapCtx where
  taggedHash := fun _ m => 0xAA :: m
  checkTapTweak := fun q _ k par => q.take 2 == k.take 2 && par

private def toyO : Spec.TapOracle where
  taggedHash := fun _ m => 0xAA :: m
  tweakCheck := fun q p t par => q.take 2 == (((t.drop 1).drop p.length).take 2) && par

/-- one path node, odd parity, leaf version 0xc0: a 65-byte control block -/
private def ctl65 : Bytes := 0xc1 :: (List.replicate 32 7 ++ List.replicate 32 0xBB)
/-- the "tweaked key" the toy check accepts: starts with the first two bytes of the Merkle root -/
private def prog32 : Bytes := 0xAA :: 0xAA :: List.replicate 30 0
private def scr : Bytes := [0x51]

private theorem toy_agree : Agree toyTc toyO := by
  refine ⟨fun _ _ => rfl, fun q p k par => ?_⟩
  simp [toyTc, toyO]

example : ctl65.length = 33 + 32 * 1 ∧ (1 : Nat) ≤ 128 ∧ prog32.length = 32 := by decide
example : (Tce.run toyTc 2 (Tce.init toyTc ctl65 prog32 scr)).1 = .done := by decide
example : Spec.bip341Valid toyO ctl65 scr prog32 = true :=
  ((C05_done_iff toyTc toyO toy_agree ctl65 prog32 scr 1 (by decide) (by decide)).1).1 (by decide)
example : Spec.bip341Valid toyO ctl65 scr (List.replicate 32 8) = false :=
  ((C05_done_iff toyTc toyO toy_agree ctl65 (List.replicate 32 8) scr 1 (by decide) (by decide)).2.1).1 (by decide)
/-- the size hypothesis of `C05_done_iff` is needed: on its own the commitment environment accepts a 34-byte
    control block (it rounds the path length down to 0 and ignores the trailing byte), which BIP341 rejects;
    `configure_tx_txin` never builds such an environment (`C05_size_gate`, `C05_size_gate_reject`) -/
example :
    (Tce.run toyTc 1 (Tce.init toyTc (0xc1 :: (List.replicate 32 7 ++ [0])) (0xAA :: 0xc0 :: List.replicate 30 0) scr)).1
      = .done ∧
    Spec.bip341Valid toyO (0xc1 :: (List.replicate 32 7 ++ [0])) scr (0xAA :: 0xc0 :: List.replicate 30 0) = false := by
  decide
example : Agree Glue.tapCtx Glue.tapOracle := glue_agree

/-- a native taproot script-path spend whose control block has 34 bytes: refused -/
example (h : HashCtx) (tc : TapCtx) (sv : SigVersion) :
    configureTxTxin h tc
      { version := 2, lockTime := 0, vout := [],
        vin := [{ prevout := { hash := [], n := 0 }, scriptSig := [], sequence := 0,
                  witness := [[0x51], List.replicate 34 0xc0] }] }
      { version := 2, lockTime := 0, vin := [], vout := [{ value := 1000, scriptPubKey := 0x51 :: 0x20 :: prog32 }] }
      0 0 sv = none :=
  C05_size_gate_reject h tc _ _ 0 0 sv _ _ prog32 (List.replicate 34 0xc0) rfl rfl rfl rfl (by decide) (by decide)
    (by decide) (by decide)

end Examples

end Btcdeb.Proofs.C05
