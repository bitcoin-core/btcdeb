/-
  C10 (continued) — the numeric-operand limit together with the minimal-encoding requirement: the
  complete three-way verdict of `CScriptNum(vch, fRequireMinimal, nMaxNumSize)` as the interpreter uses
  it (`num`), for every byte string, size limit and minimality setting.  Size is tested first, so an
  over-long operand reports *overflow* even when it is also non-minimal; the round trip shows the
  operand limit is exactly |n| < 2^31 (2^39 for lock-time operands) on what `serialize` produces.
-/
import Btcdeb
import BtcdebProofs.Properties.C18Ctor
import BtcdebProofs.Properties.C18Minimal
namespace Btcdeb.Proofs.C10
open Btcdeb Btcdeb.Model

/-- the full verdict: overflow first, then (only when required) minimality, else the value -/
theorem num_verdict (v : Bytes) (rm : Bool) (k : Nat) :
    num v rm k =
      if v.length > k then .error (.exc "script number overflow")
      else if rm = true ∧ minimalOk v = false then .error (.exc "non-minimally encoded script number")
      else .ok (Spec.numValue v) :=
  Btcdeb.Proofs.C18.num_eq v rm k

/-- with minimality required, a within-limit operand is accepted exactly when it is the unique shortest
    encoding of its value -/
theorem num_minimal_iff (v : Bytes) (k : Nat) (hk : v.length ≤ k) :
    (∃ n, num v true k = .ok n) ↔ Spec.Minimal v := by
  rw [num_verdict, ← Btcdeb.Proofs.C18.minimal_iff]
  have : ¬ v.length > k := by omega
  cases hm : minimalOk v <;> simp [this]

/-- what the arithmetic opcodes push is always readable again within the limit it fits:
    `num (serialize n) rm k = n` iff `(serialize n).length ≤ k` -/
theorem num_serialize_iff (n : Int) (rm : Bool) (k : Nat) :
    num (serialize n) rm k = .ok n ↔ (serialize n).length ≤ k := by
  constructor
  · intro h
    rw [num_verdict] at h
    by_cases hl : (serialize n).length > k
    · simp [hl] at h
    · omega
  · intro h
    unfold num
    rw [Btcdeb.Proofs.C18.ctor_serialize n k h rm]

/-- the default operand range, as integers -/
theorem num_default_range (n : Int) (rm : Bool) :
    num (serialize n) rm 4 = .ok n ↔ n.natAbs < 2 ^ 31 := by
  rw [num_serialize_iff, Btcdeb.Proofs.C18.encode_length_le_4_iff]

/-- the lock-time operand range, as integers -/
theorem num_locktime_range (n : Int) (rm : Bool) :
    num (serialize n) rm 5 = .ok n ↔ n.natAbs < 2 ^ 39 := by
  rw [num_serialize_iff, Btcdeb.Proofs.C18.encode_length_le_5_iff]

end Btcdeb.Proofs.C10
