/-
  C13 (amounts) — `ParseFixedPoint(·, 8, ·)` converts decimal amounts exactly.  Model: `Btcdeb/Model/Tx.lean`
  (`parseFixedPoint`); specification: `Spec.amountOf` in `Btcdeb/Spec/Tx.lean`.

  Both functions are computed on the strings of one `Grammar` (`amountStr neg ip fp`: sign, integer part without
  superfluous leading zero, fraction): the model by following the mantissa loop, whose state (mantissa, pending zeros)
  stands for mantissa · 10^zeros (`mantissaDigits_run`), the specification by its definition.  Each accepts only strings of
  the grammar, the model also `1e8` and `1.000000000`, which is why `C13_amount_iff` has side conditions.
  Text is bytes.  The values in the statements: 45 `-`, 46 `.`, 48 `0` (`isDigit`: 48..57), 49 `1`, 56 `8`, 101 `e`, 69 `E`.
-/
import Btcdeb.Model.Tx
import Btcdeb.Spec.Tx
import BtcdebProofs.Lemmas.LE
import BtcdebProofs.Lemmas.C07Int
namespace Btcdeb.Proofs.C13
open Btcdeb Btcdeb.Model

def decValFrom (acc : Nat) (ds : Bytes) : Nat := ds.foldl (fun a c => a * 10 + (c.toNat - 48)) acc

theorem decVal_eq (ds : Bytes) : Spec.decVal ds = decValFrom 0 ds := by
  unfold Spec.decVal decValFrom; rfl

theorem decValFrom_cons (acc : Nat) (d : UInt8) (ds : Bytes) :
    decValFrom acc (d :: ds) = decValFrom (acc * 10 + (d.toNat - 48)) ds := by
  simp only [decValFrom, List.foldl_cons]

theorem decValFrom_eq (acc : Nat) (ds : Bytes) : decValFrom acc ds = acc * 10 ^ ds.length + decValFrom 0 ds := by
  induction ds generalizing acc with
  | nil => simp [decValFrom]
  | cons d ds ih =>
    rw [decValFrom_cons, ih, decValFrom_cons, ih (0 * 10 + (d.toNat - 48))]
    simp only [List.length_cons, Nat.pow_succ, Nat.zero_mul, Nat.zero_add]
    rw [Nat.add_mul, Nat.add_assoc, Nat.mul_assoc, Nat.mul_comm 10]

theorem decValFrom_ge (acc : Nat) (ds : Bytes) : acc ≤ decValFrom acc ds := by
  rw [decValFrom_eq]
  exact Nat.le_trans (Nat.le_mul_of_pos_right _ (Nat.pow_pos (by omega))) (Nat.le_add_right _ _)

theorem ub10 : UPPER_BOUND / 10 = 99999999999999999 := by decide

theorem ub_val : UPPER_BOUND = 999999999999999999 := by decide

def sgn (neg : Bool) (n : Nat) : Int := if neg then -(n : Int) else (n : Int)

/-- The loop that multiplies by ten `k` times, checking against `UPPER_BOUND / 10` before each step, succeeds exactly
    when the product stays below 10^18 (no check is made when `k = 0`). -/
theorem scaleTen_sgn (k n : Nat) (neg : Bool) :
    scaleTen k (sgn neg n) = if k = 0 ∨ n * 10 ^ k < 10 ^ 18 then some (sgn neg (n * 10 ^ k)) else none := by
  induction k generalizing n with
  | zero => simp [scaleTen]
  | succ k ih =>
    have hs : sgn neg n * 10 = sgn neg (n * 10) := by cases neg <;> simp [sgn] <;> omega
    have hle : n ≤ n * 10 ^ k := Nat.le_mul_of_pos_right _ (Nat.pow_pos (by omega))
    have hk : k = 0 → n * 10 ^ k = n := by rintro rfl; simp
    have e1 : n * 10 ^ (k + 1) = 10 * (n * 10 ^ k) := by rw [Nat.pow_succ]; ac_rfl
    have e2 : n * 10 * 10 ^ k = 10 * (n * 10 ^ k) := by ac_rfl
    have hbad : (sgn neg n > 99999999999999999 ∨ sgn neg n < -99999999999999999) ↔ 10 ^ 17 ≤ n := by
      cases neg <;> simp only [sgn, Bool.false_eq_true, if_false, if_true] <;> omega
    rw [scaleTen, hs, ih, ub10, e1, e2]
    simp only [Bool.or_eq_true, decide_eq_true_eq, hbad]
    generalize n * 10 ^ k = Y at *
    by_cases h17 : 10 ^ 17 ≤ n
    · rw [if_pos h17, if_neg (by omega)]
    · rw [if_neg h17]
      have : (k = 0 ∨ 10 * Y < 10 ^ 18) ↔ (k + 1 = 0 ∨ 10 * Y < 10 ^ 18) := by omega
      simp only [this]

theorem mulTen_eq_scaleTen (k n : Nat) : mulTen k (n : Int) = scaleTen k (n : Int) := by
  induction k generalizing n with
  | zero => rfl
  | succ k ih =>
    have : ¬ ((n : Int) < -(UPPER_BOUND / 10)) := by rw [ub10]; omega
    have e : (n : Int) * 10 = ((n * 10 : Nat) : Int) := by omega
    simp only [mulTen, scaleTen, this, decide_false, Bool.or_false, decide_eq_true_eq, e, ih]

theorem mulTen_succ (k n : Nat) :
    mulTen (k + 1) (n : Int) = if n * 10 ^ (k + 1) < 10 ^ 18 then some ((n * 10 ^ (k + 1) : Nat) : Int) else none := by
  rw [mulTen_eq_scaleTen]
  simpa [sgn] using scaleTen_sgn (k + 1) n false

abbrev NoDigitHead (rest : Bytes) : Prop := ∀ c ∈ rest.head?, isDigit c = false

/-- **The mantissa loop on a run of digits** `ds`, started with mantissa `mn` and `tz` pending zeros (value `mn * 10^tz`):
    either it consumes exactly `ds` and ends with a mantissa and pending zeros whose value is the number written by `ds`
    after the start value, or it fails and that number is at least 10^18. -/
theorem mantissaDigits_run (ds rest : Bytes) (hds : ∀ c ∈ ds, isDigit c = true) (hrest : NoDigitHead rest)
    (mn tz cnt : Nat) :
    (∃ mn' tz' : Nat, mantissaDigits (ds ++ rest) (mn : Int) tz cnt = some ((mn' : Int), tz', cnt + ds.length, rest)
        ∧ mn' * 10 ^ tz' = decValFrom (mn * 10 ^ tz) ds ∧ (mn' = 0 → mn = 0 ∧ tz' = tz + ds.length))
      ∨ (mantissaDigits (ds ++ rest) (mn : Int) tz cnt = none ∧ 10 ^ 18 ≤ decValFrom (mn * 10 ^ tz) ds) := by
  induction ds generalizing mn tz cnt with
  | nil =>
    refine .inl ⟨mn, tz, ?_, rfl, fun h => ⟨h, rfl⟩⟩
    cases rest with
    | nil => rfl
    | cons c r => simp [mantissaDigits, hrest c rfl]
  | cons d ds ih =>
    obtain ⟨hd, hds⟩ := List.forall_mem_cons.mp hds
    have hd' := (C07Int.isDigit_iff d).mp hd
    have e : mn * 10 ^ tz * 10 = mn * 10 ^ (tz + 1) := by rw [Nat.pow_succ, Nat.mul_assoc]
    simp only [List.cons_append, mantissaDigits, hd, if_true, processMantissaDigit, decValFrom_cons, e]
    by_cases h0 : d.toNat = 48
    · -- a zero digit: one more pending zero
      simp only [h0, if_true, Nat.sub_self, Nat.add_zero]
      rcases ih hds mn (tz + 1) (cnt + 1) with ⟨mn', tz', h1, h2, h3⟩ | h
      · exact .inl ⟨mn', tz', by rw [h1]; simp; omega, h2, fun hz => ⟨(h3 hz).1, by simp; have := (h3 hz).2; omega⟩⟩
      · exact .inr h
    · -- a non-zero digit: the pending zeros and the digit are shifted in, unless that overflows
      simp only [h0, if_false, mulTen_succ]
      by_cases hlt : mn * 10 ^ (tz + 1) < 10 ^ 18
      · have ec : ((mn * 10 ^ (tz + 1) : Nat) : Int) + ((d.toNat : Int) - 48)
            = ((mn * 10 ^ (tz + 1) + (d.toNat - 48) : Nat) : Int) := by omega
        simp only [hlt, if_true, ec]
        rcases ih hds (mn * 10 ^ (tz + 1) + (d.toNat - 48)) 0 (cnt + 1) with ⟨mn', tz', h1, h2, h3⟩ | h
        · exact .inl ⟨mn', tz', by rw [h1]; simp; omega, by simpa using h2, fun hz => by have := (h3 hz).1; omega⟩
        · exact .inr (by simpa using h)
      · have := decValFrom_ge (mn * 10 ^ (tz + 1) + (d.toNat - 48)) ds
        exact .inr ⟨by simp [hlt], by omega⟩

/-- the end of `ParseFixedPoint` for 8 decimals and no exponent: mantissa `mn` with `tz` pending zeros and `fl ≤ 8`
    fraction digits is scaled by `10^(tz + 8 - fl)` and accepted iff the result is below 10^18 -/
theorem pfpFinal_eq (neg : Bool) (mn tz fl : Nat) (hfl : fl ≤ 8) (hz : mn = 0 → tz = fl) :
    pfpFinal neg (mn : Int) tz fl 0 false 8 =
      if mn * 10 ^ (tz + (8 - fl)) < 10 ^ 18 then some (sgn neg (mn * 10 ^ (tz + (8 - fl)))) else none := by
  have hnat : ((0 : Int) - (fl : Int) + (tz : Int) + ((8 : Nat) : Int)).toNat = tz + (8 - fl) := by omega
  have hm : (if neg = true then -(mn : Int) else (mn : Int)) = sgn neg mn := rfl
  have c1 : ¬ ((0 : Int) - (fl : Int) + (tz : Int) + ((8 : Nat) : Int) < 0) := by omega
  unfold pfpFinal
  simp only [Bool.false_eq_true, if_false, hm, hnat, c1, scaleTen_sgn, ub_val]
  generalize hk : tz + (8 - fl) = k
  have hk18 : (0 : Int) - (fl : Int) + (tz : Int) + ((8 : Nat) : Int) ≥ 18 ↔ 18 ≤ k := by omega
  simp only [hk18]
  by_cases h18 : 18 ≤ k
  · -- eighteen or more factors of ten: only zero would stay in range, and zero has `tz = fl`
    have hpow : 10 ^ 18 ≤ 10 ^ k := Nat.pow_le_pow_right (by omega) h18
    have : 10 ^ k ≤ mn * 10 ^ k := Nat.le_mul_of_pos_left _ (Nat.pos_of_ne_zero fun h => by have := hz h; omega)
    rw [if_pos h18, if_neg (by omega)]
  · rw [if_neg h18]
    generalize mn * 10 ^ k = N
    by_cases hN : N < 10 ^ 18
    · have : ¬ (sgn neg N > 999999999999999999 ∨ sgn neg N < -999999999999999999) := by
        cases neg <;> simp only [sgn, Bool.false_eq_true, if_false, if_true] <;> omega
      simp [hN, this]
    · by_cases hk0 : k = 0
      · have : sgn neg N > 999999999999999999 ∨ sgn neg N < -999999999999999999 := by
          cases neg <;> simp only [sgn, Bool.false_eq_true, if_false, if_true] <;> omega
        simp [hN, hk0, this]
      · simp [hN, hk0]

theorem pfpSign_spec (neg : Bool) (t : Bytes) (ht : t.head? ≠ some 45) :
    pfpSign ((if neg then [45] else []) ++ t) = (neg, t) := by
  cases neg with
  | true => rfl
  | false =>
    simp only [Bool.false_eq_true, if_false, List.nil_append]
    unfold pfpSign
    split
    · exact absurd rfl ht
    · rfl

/-- the strings `ParseFixedPoint` and `Spec.amountOf` agree on: an integer part without superfluous leading zero and
    a fraction (empty: no point) -/
structure Grammar (ip fp : Bytes) : Prop where
  ip_ne : ip ≠ []
  ip_digits : ∀ c ∈ ip, isDigit c = true
  ip_lead : ip.head? = some 48 → ip.length = 1
  fp_digits : ∀ c ∈ fp, isDigit c = true

def fracStr (fp : Bytes) : Bytes := if fp = [] then [] else 46 :: fp

def amountStr (neg : Bool) (ip fp : Bytes) : Bytes := (if neg then [45] else []) ++ (ip ++ fracStr fp)

/-- the number of satoshi written by integer part `ip` and fraction `fp` -/
def amountVal (ip fp : Bytes) : Nat := decValFrom 0 ip * 10 ^ 8 + decValFrom 0 fp * 10 ^ (8 - fp.length)

theorem fracStr_noDigitHead (fp : Bytes) : NoDigitHead (fracStr fp) := by
  unfold fracStr
  split
  · intro c h; cases h
  · intro c h; cases h; decide

theorem ne_of_isDigit {c d : UInt8} (h : isDigit c = true) (hd : isDigit d = false) : c ≠ d :=
  fun e => by rw [e, hd] at h; cases h

theorem Grammar.head_ne_minus {ip fp : Bytes} (g : Grammar ip fp) (t : Bytes) : (ip ++ t).head? ≠ some 45 := by
  obtain ⟨c, r, rfl⟩ := List.exists_cons_of_ne_nil g.ip_ne
  exact fun h => ne_of_isDigit (g.ip_digits c (by simp)) rfl (Option.some.inj h)

theorem pfpInt_run {ip : Bytes} (rest : Bytes) (h1 : ip ≠ []) (h2 : ∀ c ∈ ip, isDigit c = true)
    (h3 : ip.head? = some 48 → ip.length = 1) (hrest : NoDigitHead rest) :
    (∃ mn tz : Nat, pfpInt (ip ++ rest) = some ((mn : Int), tz, rest) ∧ mn * 10 ^ tz = decValFrom 0 ip ∧ (mn = 0 → tz = 0))
      ∨ (pfpInt (ip ++ rest) = none ∧ 10 ^ 18 ≤ decValFrom 0 ip) := by
  cases ip with
  | nil => exact absurd rfl h1
  | cons c r =>
    have hc := (C07Int.isDigit_iff c).mp (h2 c (by simp))
    by_cases h0 : c.toNat = 48
    · obtain rfl : c = 48 := u8_ext h0
      obtain rfl : r = [] := by simpa using h3 rfl
      exact .inl ⟨0, 0, rfl, rfl, fun _ => rfl⟩
    · have hrange : (decide (49 ≤ c.toNat) && decide (c.toNat ≤ 57)) = true := by simp; omega
      simp only [pfpInt, List.cons_append, h0, if_false, hrange, if_true]
      have hrun := mantissaDigits_run (c :: r) rest h2 hrest 0 0 0
      simp only [List.cons_append, Int.natCast_zero, decValFrom_cons] at hrun
      rcases hrun with ⟨mn, tz, hm, hv, _⟩ | ⟨hm, hv⟩
      · have := decValFrom_ge (0 * 10 ^ 0 * 10 + (c.toNat - 48)) r
        exact .inl ⟨mn, tz, by rw [hm], by simpa [decValFrom_cons] using hv, fun hz => by subst hz; omega⟩
      · exact .inr ⟨by rw [hm], by simpa [decValFrom_cons] using hv⟩

/-- also for the empty fraction (no point): both sides are `some (m, tz, 0, [])` -/
theorem pfpFrac_fracStr (m : Int) (tz : Nat) {fp : Bytes} (h : ∀ c ∈ fp, isDigit c = true) :
    pfpFrac m tz (fracStr fp) = mantissaDigits fp m tz 0 := by
  cases fp with
  | nil => rfl
  | cons d fr => simp [fracStr, pfpFrac, h d]

/-- **`ParseFixedPoint(·, 8, ·)` on the strings of the grammar** with at most 8 fraction digits: the exact number of
    satoshi with its sign when that is below 10^18 in magnitude, failure otherwise. -/
theorem parseFixedPoint_grammar (neg : Bool) {ip fp : Bytes} (g : Grammar ip fp) (h8 : fp.length ≤ 8) :
    parseFixedPoint (amountStr neg ip fp) 8
      = if amountVal ip fp < 10 ^ 18 then some (sgn neg (amountVal ip fp)) else none := by
  have hsign := pfpSign_spec neg _ (g.head_ne_minus (fracStr fp))
  have hpow : 10 ^ 8 = 10 ^ fp.length * 10 ^ (8 - fp.length) := by rw [← Nat.pow_add]; congr 1; omega
  have hp1 : 1 ≤ 10 ^ (8 - fp.length) := Nat.pow_pos (by omega)
  have hT : amountVal ip fp = (decValFrom 0 ip * 10 ^ fp.length + decValFrom 0 fp) * 10 ^ (8 - fp.length) := by
    rw [amountVal, Nat.add_mul, Nat.mul_assoc, ← hpow]
  have hge1 : decValFrom 0 ip * 10 ^ fp.length + decValFrom 0 fp ≤ amountVal ip fp := by
    rw [hT]; exact Nat.le_mul_of_pos_right _ hp1
  have hge2 : decValFrom 0 ip ≤ amountVal ip fp :=
    Nat.le_trans (Nat.le_mul_of_pos_right _ (by omega)) (Nat.le_add_right _ _)
  unfold parseFixedPoint amountStr
  rw [hsign]
  rcases pfpInt_run (fracStr fp) g.ip_ne g.ip_digits g.ip_lead (fracStr_noDigitHead fp) with
    ⟨mn1, tz1, hint, hv1, hz1⟩ | ⟨hint, hv1⟩
  · simp only [hint, pfpFrac_fracStr _ _ g.fp_digits]
    have hrun := mantissaDigits_run fp [] g.fp_digits (fun c h => by cases h) mn1 tz1 0
    rw [List.append_nil, Nat.zero_add] at hrun
    rcases hrun with ⟨mn2, tz2, hfrac, hv2, hz2⟩ | ⟨hfrac, hv2⟩
    · have hv : mn2 * 10 ^ (tz2 + (8 - fp.length)) = amountVal ip fp := by
        rw [Nat.pow_add, ← Nat.mul_assoc, hv2, hv1, decValFrom_eq, hT]
      simp only [hfrac, pfpExp, Bool.false_eq_true, if_false, List.isEmpty_nil, Bool.not_true]
      rw [pfpFinal_eq neg mn2 tz2 fp.length h8 (fun h0 => by have := hz2 h0; have := hz1 this.1; omega), hv]
    · rw [hv1, decValFrom_eq] at hv2
      simp only [hfrac]
      rw [if_neg (by omega)]
  · simp only [hint]
    rw [if_neg (by omega)]

theorem isDecDigit_eq : Spec.isDecDigit = isDigit := rfl

theorem fracStr_drop (fp : Bytes) : (fracStr fp).drop 1 = fp := by
  unfold fracStr; split <;> simp [*]

theorem amountStr_parts (neg : Bool) {ip fp : Bytes} (g : Grammar ip fp) :
    decide ((amountStr neg ip fp).head? = some 45) = neg
    ∧ (if neg = true then (amountStr neg ip fp).drop 1 else amountStr neg ip fp) = ip ++ fracStr fp
    ∧ (ip ++ fracStr fp).takeWhile (fun c => c != 46) = ip
    ∧ (ip ++ fracStr fp).dropWhile (fun c => c != 46) = fracStr fp := by
  have hp : ∀ c ∈ ip, (c != 46) = true := fun c hc => by simpa using ne_of_isDigit (g.ip_digits c hc) (d := 46) rfl
  refine ⟨?_, by cases neg <;> rfl, ?_, ?_⟩
  · cases neg with
    | true => rfl
    | false => simpa [amountStr] using g.head_ne_minus (fracStr fp)
  · rw [List.takeWhile_append_of_pos hp]; unfold fracStr; split <;> simp
  · rw [List.dropWhile_append_of_pos hp]; unfold fracStr; split <;> simp

theorem amountOf_grammar (neg : Bool) {ip fp : Bytes} (g : Grammar ip fp) :
    Spec.amountOf (amountStr neg ip fp)
      = if fp.length ≤ 8 ∧ amountVal ip fp < 10 ^ 18 then some (sgn neg (amountVal ip fp)) else none := by
  obtain ⟨hneg, hbody, htw, hdw⟩ := amountStr_parts neg g
  have hc4 : fracStr fp ≠ [] → fp ≠ [] := by unfold fracStr; split <;> simp [*]
  have hall1 : ip.all Spec.isDecDigit = true := by rw [isDecDigit_eq]; simpa using g.ip_digits
  have hall2 : fp.all Spec.isDecDigit = true := by rw [isDecDigit_eq]; simpa using g.fp_digits
  unfold Spec.amountOf
  simp only [hneg, hbody, htw, hdw, fracStr_drop, decVal_eq]
  by_cases h8 : fp.length ≤ 8
  · rw [if_pos ⟨g.ip_ne, hall1, g.ip_lead, hc4, hall2, h8⟩]
    simp only [h8, true_and]
    rfl
  · rw [if_neg (fun h => h8 h.2.2.2.2.2), if_neg (fun h => h8 h.1)]

theorem amountStr_frac (neg : Bool) {ip fp : Bytes} (g : Grammar ip fp) :
    ((amountStr neg ip fp).dropWhile (fun c => c != 46)).drop 1 = fp := by
  have hs : amountStr neg ip fp = (if neg then [45] else []) ++ (ip ++ fracStr fp) := rfl
  have h45 : ∀ c ∈ (if neg then [45] else [] : Bytes), (c != 46) = true := by
    cases neg <;> simp
  rw [hs, List.dropWhile_append_of_pos h45, (amountStr_parts neg g).2.2.2, fracStr_drop]

theorem grammar_of_amountOf (s : Bytes) (v : Int) (h : Spec.amountOf s = some v) :
    ∃ neg ip fp, s = amountStr neg ip fp ∧ Grammar ip fp ∧ fp.length ≤ 8 := by
  unfold Spec.amountOf at h
  simp only at h
  generalize hneg : decide (s.head? = some 45) = neg at h
  generalize hbody : (if neg = true then List.drop 1 s else s) = body at h
  have hs : s = (if neg then [45] else []) ++ body := by
    cases neg with
    | true =>
      have h45 : s.head? = some 45 := by simpa using hneg
      cases s with
      | nil => simp at h45
      | cons c r =>
        simp only [List.head?_cons, Option.some.injEq] at h45
        subst h45
        simpa using hbody
    | false => simpa using hbody
  have hbt : body = body.takeWhile (fun c => c != 46) ++ body.dropWhile (fun c => c != 46) :=
    List.takeWhile_append_dropWhile.symm
  have hhead := List.head?_dropWhile_not (fun c => c != 46) body
  generalize body.takeWhile (fun c => c != 46) = ip at h hbt
  generalize body.dropWhile (fun c => c != 46) = tail at h hbt hhead
  split at h
  next hc =>
    obtain ⟨c1, c2, c3, c4, c5, c6⟩ := hc
    rw [isDecDigit_eq] at c2 c5
    refine ⟨neg, ip, tail.drop 1, ?_, ⟨c1, by simpa using c2, c3, by simpa using c5⟩, c6⟩
    have htl : tail = fracStr (tail.drop 1) := by
      cases tail with
      | nil => rfl
      | cons c r =>
        have : c = 46 := by simpa using hhead
        have hr : r ≠ [] := by simpa using c4
        simp [fracStr, this, hr]
    rw [hs, hbt, amountStr, ← htl]
  · cases h

theorem mantissaDigits_rest (s : Bytes) (m : Int) (tz cnt : Nat) {m' : Int} {tz' cnt' : Nat} {rest : Bytes}
    (h : mantissaDigits s m tz cnt = some (m', tz', cnt', rest)) : rest = s.dropWhile isDigit := by
  induction s generalizing m tz cnt with
  | nil => cases h; rfl
  | cons c r ih =>
    rw [mantissaDigits] at h
    split at h
    next hd =>
      rw [List.dropWhile_cons_of_pos hd]
      split at h
      · cases h
      · exact ih _ _ _ h
    next hd =>
      cases h
      rw [List.dropWhile_cons_of_neg hd]

/-- the run of digits at the head of `c :: r`: what the mantissa loop, started at a digit, consumes -/
theorem digitRun {c : UInt8} {r : Bytes} (hc : isDigit c = true) :
    c :: r = (c :: r).takeWhile isDigit ++ (c :: r).dropWhile isDigit ∧ (c :: r).takeWhile isDigit ≠ []
      ∧ (∀ x ∈ (c :: r).takeWhile isDigit, isDigit x = true) ∧ ((c :: r).takeWhile isDigit).head? = some c :=
  ⟨List.takeWhile_append_dropWhile.symm, by simp [List.takeWhile_cons_of_pos hc],
    fun _ hx => List.all_eq_true.mp List.all_takeWhile _ hx, by simp [List.takeWhile_cons_of_pos hc]⟩

theorem pfpInt_some {s1 : Bytes} {m : Int} {tz : Nat} {s2 : Bytes} (h : pfpInt s1 = some (m, tz, s2)) :
    ∃ ip, s1 = ip ++ s2 ∧ ip ≠ [] ∧ (∀ c ∈ ip, isDigit c = true) ∧ (ip.head? = some 48 → ip.length = 1) := by
  unfold pfpInt at h
  split at h
  · cases h
  next c r =>
    split at h
    next h0 =>
      cases h
      exact ⟨[c], rfl, by simp, by simp [isDigit, h0], fun _ => rfl⟩
    next h0 =>
      split at h
      next hr =>
        have hc : isDigit c = true := by simp [isDigit] at hr ⊢; omega
        split at h
        · cases h
        next hm =>
          cases h
          obtain ⟨e1, e2, e3, e4⟩ := digitRun (r := r) hc
          rw [← mantissaDigits_rest _ _ _ _ hm] at e1
          refine ⟨_, e1, e2, e3, fun h48 => ?_⟩
          rw [e4] at h48
          cases h48
          exact absurd rfl h0
      · cases h

theorem pfpFrac_some {m : Int} {tz : Nat} {s2 : Bytes} {m2 : Int} {tz2 po : Nat} {s3 : Bytes}
    (h : pfpFrac m tz s2 = some (m2, tz2, po, s3)) :
    s2 = s3 ∨ ∃ fp, s2 = 46 :: (fp ++ s3) ∧ fp ≠ [] ∧ ∀ c ∈ fp, isDigit c = true := by
  unfold pfpFrac at h
  split at h
  next r =>
    split at h
    next d r' =>
      split at h
      next hd =>
        obtain ⟨e1, e2, e3, _⟩ := digitRun (r := r') hd
        rw [← mantissaDigits_rest _ _ _ _ h] at e1
        exact .inr ⟨_, by rw [← e1], e2, e3⟩
      · cases h
    · cases h
  · cases h
    exact .inl rfl

theorem pfpExp_inv (s3 : Bytes) (e : Int) (eneg : Bool) (s4 : Bytes) (h : pfpExp s3 = some (e, eneg, s4))
    (hno : ∀ c ∈ s3, c.toNat ≠ 101 ∧ c.toNat ≠ 69) : s4 = s3 := by
  cases s3 with
  | nil =>
    simp [pfpExp] at h
    exact h.2.2
  | cons c r =>
    have := hno c (by simp)
    simp [pfpExp, this.1, this.2] at h
    exact h.2.2.symm

/-- what `ParseFixedPoint` accepts, for a string without exponent marker (`e`/`E`), is a string of the grammar: nothing
    else gets through (leading zeros, missing digits, `+`, white space are rejected) -/
theorem grammar_of_parseFixedPoint (s : Bytes) (v : Int) (h : parseFixedPoint s 8 = some v)
    (hnoexp : ∀ c ∈ s, c.toNat ≠ 101 ∧ c.toNat ≠ 69) : ∃ neg ip fp, s = amountStr neg ip fp ∧ Grammar ip fp := by
  unfold parseFixedPoint at h
  split at h
  · cases h
  next m tz s2 hint =>
    split at h
    · cases h
    next m2 tz2 po s3 hfr =>
      split at h
      · cases h
      next e eneg s4 hexp =>
        split at h
        · cases h
        next hs4 =>
          obtain rfl : s4 = [] := by simpa using hs4
          have hsgn : s = (if (pfpSign s).1 then [45] else []) ++ (pfpSign s).2 := by
            unfold pfpSign; split <;> simp
          generalize (pfpSign s).1 = neg at h hsgn
          generalize (pfpSign s).2 = s1 at hint hsgn
          obtain ⟨ip, e1, i1, i2, i3⟩ := pfpInt_some hint
          have hsub : ∀ c ∈ s3, c ∈ s := by
            intro c hc
            rw [hsgn, e1]
            rcases pfpFrac_some hfr with f1 | ⟨fp, f1, _⟩ <;> rw [f1] <;> simp [hc]
          obtain rfl := pfpExp_inv _ _ _ _ hexp fun c hc => hnoexp c (hsub c hc)
          rcases pfpFrac_some hfr with rfl | ⟨fp, rfl, f2, f3⟩
          · exact ⟨neg, ip, [], by rw [hsgn, e1]; rfl, ⟨i1, i2, i3, by simp⟩⟩
          · exact ⟨neg, ip, fp, by rw [hsgn, e1]; simp [amountStr, fracStr, f2], ⟨i1, i2, i3, f3⟩⟩

theorem parseFixedPoint_eq_amountOf (neg : Bool) {ip fp : Bytes} (g : Grammar ip fp) (h8 : fp.length ≤ 8) :
    parseFixedPoint (amountStr neg ip fp) 8 = Spec.amountOf (amountStr neg ip fp) := by
  rw [parseFixedPoint_grammar neg g h8, amountOf_grammar neg g]
  simp only [h8, true_and]

/-- **Amounts are converted exactly.**  For every string in the grammar of `Spec.amountOf`
    (`[-] (0 | [1-9][0-9]*) [. [0-9]{1,8}]`, value below 10^18 satoshi in magnitude) `ParseFixedPoint(s, 8, &a)` succeeds
    with exactly the specified number of satoshi (no rounding, no truncation, no sign error): on the grammar of the
    specification the two functions coincide. -/
theorem C13_amount_exact (s : Bytes) : (∃ v, Spec.amountOf s = some v) → parseFixedPoint s 8 = Spec.amountOf s := by
  rintro ⟨v, hv⟩
  obtain ⟨neg, ip, fp, rfl, g, h8⟩ := grammar_of_amountOf s v hv
  exact parseFixedPoint_eq_amountOf neg g h8

/-- **On strings without exponent and with at most 8 characters after the first `.`, `ParseFixedPoint(s, 8, ·)` IS
    the specified conversion** (both accept exactly the same strings and give the same number of satoshi). -/
theorem C13_amount_iff (s : Bytes) (hnoexp : ∀ c ∈ s, c.toNat ≠ 101 ∧ c.toNat ≠ 69)
    (hfrac : ((s.dropWhile (fun c => c != 46)).drop 1).length ≤ 8) : parseFixedPoint s 8 = Spec.amountOf s := by
  cases hp : parseFixedPoint s 8 with
  | some v =>
    obtain ⟨neg, ip, fp, rfl, g⟩ := grammar_of_parseFixedPoint s v hp hnoexp
    rw [← hp]
    exact parseFixedPoint_eq_amountOf neg g (by rwa [amountStr_frac neg g] at hfrac)
  | none =>
    cases ha : Spec.amountOf s with
    | none => rfl
    | some v => rw [← hp, C13_amount_exact s ⟨v, ha⟩, ha]

/-- the two side conditions of `C13_amount_iff` are necessary: `ParseFixedPoint` also accepts scientific notation
    ("1e8" = 10^16 satoshi) and superfluous trailing zeros beyond 8 decimals ("1.000000000"), which are outside the
    grammar of `Spec.amountOf` -/
theorem amount_exponent_accepted :
    parseFixedPoint [49, 101, 56] 8 = some 10000000000000000 ∧ Spec.amountOf [49, 101, 56] = none := by decide

theorem amount_nine_decimals_accepted :
    parseFixedPoint [49, 46, 48, 48, 48, 48, 48, 48, 48, 48, 48] 8 = some 100000000
      ∧ Spec.amountOf [49, 46, 48, 48, 48, 48, 48, 48, 48, 48, 48] = none := by decide

end Btcdeb.Proofs.C13
