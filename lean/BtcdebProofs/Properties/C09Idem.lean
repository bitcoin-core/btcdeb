/-
  C09, on top of Properties/C09Parse.lean — a modification list is idempotent: applying the same `+NAME,-NAME,…` text to
  its own result changes nothing (each item sets one bit to a constant, so the last mention of a
  flag decides it, whatever the base).  Proved for the model of `svf_parse_flags` on every 32-bit
  base and every text, through `parse_exact_partial`.
-/
import Btcdeb
import BtcdebProofs.Properties.C09Parse
namespace Btcdeb.Proofs.C09Parse
open Btcdeb Btcdeb.Model

/-- one accepted item is accepted on any other word too, and the two results agree on the item's bit
    and otherwise follow their own inputs -/
theorem specStep_transfer (fl fl' : Nat) (item : Bytes) (f : Nat) (hfl : fl < 2 ^ 32) (hfl' : fl' < 2 ^ 32)
    (h : specStep fl item = some f) :
    ∃ f', specStep fl' item = some f' ∧
      ∀ k, f'.testBit k = f.testBit k ∨ (f'.testBit k = fl'.testBit k ∧ f.testBit k = fl.testBit k) := by
  rw [specStep_eq] at h ⊢
  obtain ⟨sb, hsb, rfl⟩ := Option.map_eq_some_iff.1 h
  exact ⟨_, by rw [hsb]; rfl, foldl_setOrClear_transfer [sb] fl fl'⟩

theorem fold_transfer (items : List Bytes) : ∀ (fl fl' r : Nat), fl < 2 ^ 32 → fl' < 2 ^ 32 →
    items.foldlM specStep fl = some r →
    ∃ r', items.foldlM specStep fl' = some r' ∧
      ∀ k, r'.testBit k = r.testBit k ∨ (r'.testBit k = fl'.testBit k ∧ r.testBit k = fl.testBit k) := by
  intro fl fl' r _ _ h
  rw [ListAux.foldlM_eq_foldl specStep_eq] at h ⊢
  split at h <;> cases h
  exact ⟨_, if_pos ‹_›, foldl_setOrClear_transfer _ fl fl'⟩

/-- **C09: a modification list is idempotent.**  If `svf_parse_flags` accepts `text` on a 32-bit base and
    yields `r`, then it accepts `text` on `r` and yields `r` again. -/
theorem parse_idempotent (base : Nat) (text : Bytes) (r : Nat) (hbase : base < 2 ^ 32)
    (h : Model.parseFlags base text = some r) : Model.parseFlags r text = some r := by
  rw [parse_exact_partial r text (parse_lt base text r hbase h)]
  rw [parse_exact_partial base text hbase, modifyFlags_closed] at h
  rw [modifyFlags_closed]
  split at h <;> cases h
  rw [if_pos ‹_›]
  refine congrArg some (Nat.eq_of_testBit_eq fun k => ?_)
  -- a bit some step names is that step's constant both times; any other bit is never touched
  rcases foldl_setOrClear_testBit (textBits text) k with ⟨-, v, hv⟩ | hk
  · rw [hv, hv]
  · rw [hk]

/-- more generally the result depends on the base only through the bits the text does not mention:
    two 32-bit bases give results that agree wherever the results differ from their own bases -/
theorem parse_transfer (base base' : Nat) (text : Bytes) (r : Nat) (hbase : base < 2 ^ 32) (hbase' : base' < 2 ^ 32)
    (h : Model.parseFlags base text = some r) :
    ∃ r', Model.parseFlags base' text = some r' ∧
      ∀ k, r'.testBit k = r.testBit k ∨ (r'.testBit k = base'.testBit k ∧ r.testBit k = base.testBit k) := by
  rw [parse_exact_partial base text hbase, modifyFlags_closed] at h
  rw [parse_exact_partial base' text hbase', modifyFlags_closed]
  split at h <;> cases h
  exact ⟨_, if_pos ‹_›, foldl_setOrClear_transfer _ base base'⟩

-- non-vacuity: `-P2SH` on a base that has P2SH (bit 0) set is accepted, and the result is a fixed point
example : Model.parseFlags 5 [45, 80, 50, 83, 72] = some 4 ∧ Model.parseFlags 4 [45, 80, 50, 83, 72] = some 4 := by
  decide +kernel

end Btcdeb.Proofs.C09Parse
