/-
  C09 (parser clause): the model of `svf_parse_flags` (btcdeb.cpp) equals the specification of `--modify-flags` for
  every base an `unsigned int` can hold and every text (`parse_exact_partial`); beyond 32 bits they differ exactly where
  an accepted text has a `-NAME` item (`parse_exact_iff`).  Both sides are brought to one form (`modifyFlags_closed`,
  `parseFlags_closed`): whether a text is accepted depends on the text alone, and an accepted text is a list of (set or
  clear, bit) steps folded over the word, the model cutting to 32 bits where it clears.  What is said about results is
  said about that fold, bit by bit (`foldl_setOrClear_testBit`).  Also `svf_string` (`svf_string_exact`).
-/
import Btcdeb
import BtcdebProofs.Properties.Tables
import BtcdebProofs.Lemmas.Pretend
import BtcdebProofs.Lemmas.LE
namespace Btcdeb.Proofs.C09Parse
open Btcdeb Btcdeb.Model

theorem or_eq_add_of_and_eq_zero : ∀ a b : Nat, a &&& b = 0 → a ||| b = a + b := by
  intro a
  induction a using Nat.strongRecOn with | _ a ih => ?_
  intro b h
  by_cases ha : a = 0
  · simp [ha]
  · have ih' := ih (a / 2) (by omega) (b / 2) (by rw [← Nat.and_div_two, h])
    have h1 : (a ||| b) / 2 = a / 2 ||| b / 2 := Nat.or_div_two
    have h2 := @Nat.or_mod_two_eq_one a b
    have h3 := @Nat.and_mod_two_eq_one a b
    rw [h] at h3
    omega

/-- What one accepted item does to a flag word: `(false, b)` sets bit `b`, `(true, b)` clears it (the specification
    clears by subtracting, on unbounded naturals). -/
def setOrClear (fl : Nat) : Bool × Nat → Nat
  | (false, b) => fl ||| 2 ^ b
  | (true, b) => if fl.testBit b then fl - 2 ^ b else fl

theorem testBit_setOrClear (fl : Nat) (m : Bool) (b k : Nat) :
    (setOrClear fl (m, b)).testBit k = if b = k then !m else fl.testBit k := by
  cases m
  · simp only [setOrClear, Nat.testBit_or, Nat.testBit_two_pow]
    by_cases h : b = k <;> simp [h]
  · simp only [setOrClear]
    split
    · next hb =>
      -- with bit `b` set, subtracting `2 ^ b` flips that bit and no other
      have h0 : (fl ^^^ 2 ^ b) &&& 2 ^ b = 0 := by
        apply Nat.eq_of_testBit_eq; intro i
        by_cases h : b = i
        · subst h; simp [hb]
        · simp [h]
      have h1 : (fl ^^^ 2 ^ b) ||| 2 ^ b = fl := by
        apply Nat.eq_of_testBit_eq; intro i
        by_cases h : b = i
        · subst h; simp [hb]
        · simp [h]
      rw [or_eq_add_of_and_eq_zero _ _ h0] at h1
      rw [show fl - 2 ^ b = fl ^^^ 2 ^ b by omega, Nat.testBit_xor, Nat.testBit_two_pow]
      by_cases h : b = k
      · subst h; simp [hb]
      · simp [h]
    · next hb =>
      by_cases h : b = k
      · subst h; simpa using hb
      · simp [h]

/-- the model's `flags & ~f` with the 32-bit complement: the specification's clearing, truncated -/
theorem and_not_two_pow (fl b : Nat) (hb : b < 32) :
    fl &&& (2 ^ b ^^^ 0xFFFFFFFF) = setOrClear fl (true, b) % 2 ^ 32 := by
  apply Nat.eq_of_testBit_eq; intro k
  rw [Nat.testBit_mod_two_pow, testBit_setOrClear, Nat.testBit_and, Nat.testBit_xor, Nat.testBit_two_pow,
    show (0xFFFFFFFF : Nat) = 2 ^ 32 - 1 by decide, Nat.testBit_two_pow_sub_one]
  by_cases h : b = k
  · subst h; simp [hb]
  · by_cases hk : k < 32 <;> simp [h, hk]

/-- The last mention decides: bit `k` of the result is either a constant fixed by some step that names `k`, or the
    bit of the word the steps started from.  This says which bits can move; the value a bit takes after given steps is
    computed by `testBit_setOrClear` under `simp only [List.foldl_cons]`. -/
theorem foldl_setOrClear_testBit (sbs : List (Bool × Nat)) (k : Nat) :
    ((∃ sb ∈ sbs, sb.2 = k) ∧ ∃ v, ∀ fl, (sbs.foldl setOrClear fl).testBit k = v) ∨
    ∀ fl, (sbs.foldl setOrClear fl).testBit k = fl.testBit k := by
  induction sbs with
  | nil => exact Or.inr fun _ => rfl
  | cons sb sbs ih =>
    obtain ⟨m, b⟩ := sb
    simp only [List.foldl_cons, List.mem_cons]
    rcases ih with ⟨⟨sb', hm, hk⟩, v, hv⟩ | ih
    · exact Or.inl ⟨⟨sb', Or.inr hm, hk⟩, v, fun fl => hv _⟩
    · by_cases h : b = k
      · exact Or.inl ⟨⟨_, Or.inl rfl, h⟩, !m, fun fl => by rw [ih, testBit_setOrClear, if_pos h]⟩
      · exact Or.inr fun fl => by rw [ih, testBit_setOrClear, if_neg h]

theorem foldl_setOrClear_transfer (sbs : List (Bool × Nat)) (fl fl' k : Nat) :
    (sbs.foldl setOrClear fl').testBit k = (sbs.foldl setOrClear fl).testBit k ∨
    ((sbs.foldl setOrClear fl').testBit k = fl'.testBit k ∧ (sbs.foldl setOrClear fl).testBit k = fl.testBit k) := by
  rcases foldl_setOrClear_testBit sbs k with ⟨-, v, hv⟩ | h
  · exact Or.inl (by rw [hv, hv])
  · exact Or.inr ⟨h _, h _⟩

theorem foldl_setOrClear_mod {n : Nat} (sbs : List (Bool × Nat)) (h : ∀ sb ∈ sbs, sb.2 < n) (fl : Nat) :
    sbs.foldl setOrClear (fl % 2 ^ n) = sbs.foldl setOrClear fl % 2 ^ n := by
  apply Nat.eq_of_testBit_eq; intro k
  rw [Nat.testBit_mod_two_pow]
  rcases foldl_setOrClear_testBit sbs k with ⟨⟨sb, hm, rfl⟩, v, hv⟩ | hk
  · simp [hv, h sb hm]
  · rw [hk, hk, Nat.testBit_mod_two_pow]

theorem foldl_setOrClear_div {n : Nat} (sbs : List (Bool × Nat)) (h : ∀ sb ∈ sbs, sb.2 < n) (fl : Nat) :
    sbs.foldl setOrClear fl / 2 ^ n = fl / 2 ^ n := by
  apply Nat.eq_of_testBit_eq; intro k
  rw [Nat.testBit_div_two_pow, Nat.testBit_div_two_pow]
  rcases foldl_setOrClear_testBit sbs (k + n) with ⟨⟨sb, hm, hk⟩, _⟩ | hk
  · have := h sb hm; omega
  · exact hk fl

theorem strOfBytes'_inj {a b : Bytes} (h : strOfBytes' a = strOfBytes' b) : a = b :=
  (List.map_inj_right fun _ _ => TableEval.ofNat_byte_inj).1 (String.ofList_inj.1 h)

/-- every row of the specification's table is `SCRIPT_VERIFY_` followed by a name that a C string can hold and
    that fits `char buf[128]` with room to spare, and its bit is below 21 -/
theorem table_rows {p : String × Nat} (hp : p ∈ Flag.table) :
    ∃ n : Bytes, p.1 = "SCRIPT_VERIFY_" ++ strOfBytes' n ∧ n.length ≤ 46 ∧ 0 ∉ n ∧ p.2 < 21 := by
  have h : Flag.table.all (fun p => p.1 == "SCRIPT_VERIFY_" ++ strOfBytes' ((TableEval.bytes p.1).drop 14) &&
      decide (((TableEval.bytes p.1).drop 14).length ≤ 46) && !((TableEval.bytes p.1).drop 14).contains 0 &&
      decide (p.2 < 21)) = true := by
    simp only [TableEval.beq_strKey]; decide +kernel
  have := List.all_eq_true.1 h p hp
  simp only [Bool.and_eq_true, beq_iff_eq, decide_eq_true_eq, Bool.not_eq_true', List.contains_eq_mem,
    decide_eq_false_iff_not] at this
  exact ⟨_, this.1.1.1, this.1.1.2, this.1.2, this.2⟩

theorem flagBit_eq_some {name : Bytes} {b : Nat} (h : Spec.flagBit name = some b) :
    ("SCRIPT_VERIFY_" ++ strOfBytes' name, b) ∈ Flag.table := by
  obtain ⟨p, hf, rfl⟩ := Option.map_eq_some_iff.1 h
  have := List.find?_some hf
  rw [beq_iff_eq] at this
  rw [← this]; exact List.mem_of_find?_eq_some hf

theorem flagBit_spec {name : Bytes} {b : Nat} (h : Spec.flagBit name = some b) :
    b < 21 ∧ name.length ≤ 46 ∧ 0 ∉ name := by
  obtain ⟨n, hn, hlen, h0, hb⟩ := table_rows (flagBit_eq_some h)
  cases strOfBytes'_inj ((String.append_right_inj _).1 hn)
  exact ⟨hb, hlen, h0⟩

private theorem find?_congr' {α} (l : List α) (p q : α → Bool) (h : ∀ x ∈ l, p x = q x) : l.find? p = l.find? q := by
  induction l with
  | nil => rfl
  | cons a l ih =>
    simp only [List.find?_cons, h a (by simp)]
    rw [ih (fun x hx => h x (by simp [hx]))]

theorem svfGetFlag_eq (name : Bytes) :
    svfGetFlag name = match Spec.flagBit name with | some b => 2 ^ b | none => 0 := by
  unfold svfGetFlag Spec.flagBit
  rw [Tables.svf_table.1, List.find?_map]
  have hc : Flag.table.find? ((fun p => p.1 == strOfBytes' name) ∘ (fun p : String × Nat => (String.ofList (p.1.toList.drop 14), 2 ^ p.2)))
      = Flag.table.find? (fun p => p.1 == "SCRIPT_VERIFY_" ++ strOfBytes' name) := by
    refine find?_congr' _ _ _ fun p hp => ?_
    obtain ⟨n, hn, -⟩ := table_rows hp
    have : String.ofList (p.1.toList.drop 14) = strOfBytes' n := by
      rw [hn, String.toList_append, List.drop_left' (by decide), String.ofList_toList]
    simp only [Function.comp, this]
    rw [hn, Bool.eq_iff_iff]; simp [String.append_right_inj]
  rw [hc]
  cases Flag.table.find? (fun p => p.1 == "SCRIPT_VERIFY_" ++ strOfBytes' name) <;> rfl

/-- the specification's treatment of one item -/
def specStep (fl : Nat) (item : Bytes) : Option Nat :=
  match item with
  | 43 :: name => (Spec.flagBit name).map (fun b => fl ||| (1 <<< b))
  | 45 :: name => (Spec.flagBit name).map (fun b => if fl.testBit b then fl - (1 <<< b) else fl)
  | _ => none

theorem modifyFlags_eq (flags : Nat) (list : Bytes) :
    Spec.modifyFlags flags list = if list.isEmpty then some flags else (Spec.splitComma list).foldlM specStep flags := rfl

/-- What an item asks for, which does not depend on the word it is applied to: `-NAME` is `(true, bit of NAME)`,
    `+NAME` is `(false, bit of NAME)` (43 is `+`, 45 is `-`; 44, the comma, separates items). -/
def itemBit : Bytes → Option (Bool × Nat)
  | 43 :: name => (Spec.flagBit name).map (false, ·)
  | 45 :: name => (Spec.flagBit name).map (true, ·)
  | _ => none

theorem specStep_eq (fl : Nat) (item : Bytes) : specStep fl item = (itemBit item).map (setOrClear fl) := by
  unfold specStep itemBit
  split <;> simp [Option.map_map, Function.comp_def, setOrClear, Nat.one_shiftLeft]

theorem itemBit_eq_some {item : Bytes} {m : Bool} {b : Nat} (h : itemBit item = some (m, b)) :
    ∃ name, item = (if m then 45 else 43) :: name ∧ Spec.flagBit name = some b := by
  unfold itemBit at h
  split at h
  · next name => obtain ⟨_, hb, hmb⟩ := Option.map_eq_some_iff.1 h; cases hmb; exact ⟨name, rfl, hb⟩
  · next name => obtain ⟨_, hb, hmb⟩ := Option.map_eq_some_iff.1 h; cases hmb; exact ⟨name, rfl, hb⟩
  · cases h

theorem itemBit_spec {item : Bytes} {sb : Bool × Nat} (h : itemBit item = some sb) :
    sb.2 < 21 ∧ item.length ≤ 47 ∧ 0 ∉ item ∧ sb.1 = (item.head? == some 45) := by
  obtain ⟨m, b⟩ := sb
  obtain ⟨name, rfl, hb⟩ := itemBit_eq_some h
  obtain ⟨hlt, hlen, h0⟩ := flagBit_spec hb
  refine ⟨hlt, Nat.succ_le_succ hlen, ?_, by cases m <;> rfl⟩
  intro hmem
  rcases List.mem_cons.1 hmem with h | h
  · cases m <;> cases h
  · exact h0 h

/-- what the model does with an accepted item: `setOrClear`, cut to 32 bits when it clears -/
def truncAct (fl : Nat) (sb : Bool × Nat) : Nat := if sb.1 then setOrClear fl sb % 2 ^ 32 else setOrClear fl sb

theorem applyItem_eq (fl : Nat) (item : Bytes) : applyItem fl item = (itemBit item).map (truncAct fl) := by
  have key : ∀ name (f g : Nat → Nat), (∀ b < 21, f (2 ^ b) = g b) →
      (if (svfGetFlag name == 0) = true then none else some (f (svfGetFlag name))) = (Spec.flagBit name).map g := by
    intro name f g hfg
    rw [svfGetFlag_eq]
    cases hb : Spec.flagBit name with
    | none => rfl
    | some b => simp [hfg b (flagBit_spec hb).1]
  unfold applyItem
  split
  · simp only [itemBit, Option.map_map]; exact key _ (fl ||| ·) _ fun b _ => rfl
  · simp only [itemBit, Option.map_map]; exact key _ (fun f => fl &&& (f ^^^ 0xFFFFFFFF)) _ fun b hb => and_not_two_pow fl b (by omega)
  · simp [itemBit]

theorem foldl_truncAct (sbs : List (Bool × Nat)) (h : ∀ sb ∈ sbs, sb.2 < 32) : ∀ fl,
    sbs.foldl truncAct fl =
      if sbs.any (·.1) then sbs.foldl setOrClear fl % 2 ^ 32 else sbs.foldl setOrClear fl := by
  induction sbs with
  | nil => intro fl; rfl
  | cons sb sbs ih =>
    intro fl
    have h' := fun sb hm => h sb (List.mem_cons_of_mem _ hm)
    rw [List.foldl_cons, ih h', List.foldl_cons, List.any_cons, truncAct]
    cases sb.1
    · rfl
    · simp only [if_true, Bool.true_or, foldl_setOrClear_mod sbs h', Nat.mod_mod, ite_self]

theorem any_minus (items : List Bytes) (h : items.all (fun a => (itemBit a).isSome) = true) :
    (items.filterMap itemBit).any (·.1) = items.any (fun it => it.head? == some 45) := by
  induction items with
  | nil => rfl
  | cons a l ih =>
    rw [List.all_cons, Bool.and_eq_true] at h
    obtain ⟨sb, hsb⟩ := Option.isSome_iff_exists.1 h.1
    rw [List.filterMap_cons_some hsb, List.any_cons, List.any_cons, ih h.2, (itemBit_spec hsb).2.2.2]

theorem toNat_beq_comma (c : UInt8) : (c.toNat == 44) = (c == 44) :=
  Bool.eq_iff_iff.2 ⟨fun h => beq_iff_eq.2 (UInt8.toNat_inj.1 (beq_iff_eq.1 h)), fun h => beq_iff_eq.2 (congrArg _ (beq_iff_eq.1 h))⟩

/-- the specification of `--modify-flags` splits at commas as the one of `--pretend-valid` does: both are `List.splitOn 44` -/
theorem splitComma_eq (t : Bytes) : Spec.splitComma t = Spec.splitAt 44 t [] := by
  induction t with
  | nil => rfl
  | cons c t ih =>
    obtain ⟨h, tl, e⟩ := List.exists_cons_of_ne_nil (List.splitOn_ne_nil 44 t)
    rw [Spec.splitComma, ih, Pretend.splitAt_nil, Pretend.splitAt_nil, List.splitOn_cons_eq_if_modifyHead, toNat_beq_comma, e]
    rfl

/-- The loop of `svf_parse_flags` applies the model's item step to the comma-separated items in turn; `buf`, the item
    collected so far, is the accumulator of `Spec.splitAt`.  An item that does not fit `char buf[128]` is refused by the
    bound in the loop, and would be refused by the step, which knows no name that long. -/
theorem go_fold (rest : Bytes) : ∀ (fl : Nat) (buf : Bytes), buf.length < 128 →
    parseFlagsGo fl rest buf = (Spec.splitAt 44 rest buf.reverse).foldlM applyItem fl := by
  induction rest with
  | nil => intro fl buf _; simp [parseFlagsGo, Spec.splitAt]
  | cons c rest ih =>
    intro fl buf hbuf
    rw [parseFlagsGo, Spec.splitAt, toNat_beq_comma]
    split
    · rw [List.reverse_reverse, List.foldlM_cons]
      cases applyItem fl buf with
      | none => rfl
      | some f => exact ih f [] (by decide)
    · split
      · next hover =>
        -- the first item of the rest starts with the 128 bytes collected so far
        obtain ⟨h, tl, e'⟩ := List.exists_cons_of_ne_nil (List.splitOn_ne_nil 44 rest)
        have e : Spec.splitAt 44 rest (c :: buf.reverse) = ((c :: buf.reverse).reverse ++ h) :: tl := by
          rw [Pretend.splitAt_eq, List.splitOnPPrepend_eq_modifyHead, ← List.splitOn_eq_splitOnP, e']; rfl
        have : itemBit ((c :: buf.reverse).reverse ++ h) = none := by
          cases hi : itemBit ((c :: buf.reverse).reverse ++ h) with
          | none => rfl
          | some sb => have := (itemBit_spec hi).2.1; simp at this; omega
        rw [e, List.foldlM_cons, applyItem_eq, this]; rfl
      · next hover => simpa using ih fl (buf ++ [c]) (by simp; omega)

/-- some item of the list starts with `-` -/
def hasMinus (text : Bytes) : Bool := (Spec.splitComma text).any (fun it => it.head? == some 45)

/-- whether the text is accepted, by model and specification alike -/
def accepted (text : Bytes) : Bool := text.isEmpty || (Spec.splitComma text).all (fun it => (itemBit it).isSome)

/-- what an accepted text asks for: the (clear?, bit) step of each item, in order -/
def textBits (text : Bytes) : List (Bool × Nat) :=
  if text.isEmpty then [] else (Spec.splitComma text).filterMap itemBit

theorem modifyFlags_closed (fl : Nat) (text : Bytes) :
    Spec.modifyFlags fl text = if accepted text then some ((textBits text).foldl setOrClear fl) else none := by
  cases text with
  | nil => rfl
  | cons c t => exact ListAux.foldlM_eq_foldl specStep_eq _ fl

theorem parseFlags_closed (fl : Nat) (text : Bytes) :
    Model.parseFlags fl text = if accepted text then some ((textBits text).foldl truncAct fl) else none := by
  cases text with
  | nil => rfl
  | cons c t =>
    refine (go_fold (c :: t) fl [] (by decide)).trans ?_
    rw [List.reverse_nil, ← splitComma_eq]; exact ListAux.foldlM_eq_foldl applyItem_eq _ fl

theorem mem_textBits {text : Bytes} {sb : Bool × Nat} (h : sb ∈ textBits text) :
    ∃ item ∈ Spec.splitComma text, itemBit item = some sb := by
  cases text with
  | nil => cases h
  | cons c t => exact List.mem_filterMap.1 h

theorem textBits_lt {text : Bytes} (sb : Bool × Nat) (h : sb ∈ textBits text) : sb.2 < 32 := by
  obtain ⟨item, _, hi⟩ := mem_textBits h
  have := (itemBit_spec hi).1; omega

theorem any_textBits {text : Bytes} (h : accepted text = true) : (textBits text).any (·.1) = hasMinus text := by
  cases text with
  | nil => rfl
  | cons c t => exact any_minus _ h

theorem parse_exact_general (base : Nat) (text : Bytes) :
    Model.parseFlags base text =
      (Spec.modifyFlags base text).map (fun r => if hasMinus text then r % 2 ^ 32 else r) := by
  rw [parseFlags_closed, modifyFlags_closed]
  split
  · next h => rw [foldl_truncAct _ textBits_lt, any_textBits h]; rfl
  · rfl

theorem modifyFlags_div {base r : Nat} {text : Bytes} (h : Spec.modifyFlags base text = some r) :
    r / 2 ^ 32 = base / 2 ^ 32 := by
  rw [modifyFlags_closed] at h
  split at h <;> cases h
  exact foldl_setOrClear_div _ textBits_lt base

theorem modifyFlags_lt {base r : Nat} {text : Bytes} (hbase : base < 2 ^ 32) (h : Spec.modifyFlags base text = some r) :
    r < 2 ^ 32 :=
  Nat.lt_of_div_eq_zero (by decide) (by rw [modifyFlags_div h, Nat.div_eq_of_lt hbase])

/-- C09 (parser clause), for every flag word an `unsigned int` can hold and every text: the model of
    `svf_parse_flags` computes exactly the specification of `--modify-flags` — including the empty text,
    empty items, a trailing comma, over-long names (rejected by the buffer bound in the code, by the name
    table in the specification), bytes that are no flag-name characters. -/
theorem parse_exact_partial (base : Nat) (text : Bytes) (hbase : base < 2 ^ 32) :
    Model.parseFlags base text = Spec.modifyFlags base text := by
  rw [parse_exact_general]
  cases h : Spec.modifyFlags base text with
  | none => rfl
  | some r => simp [Nat.mod_eq_of_lt (modifyFlags_lt hbase h)]

/-- outside that range the equation fails (the model masks with the 32-bit complement, the specification
    works on unbounded naturals): this base is not a value of the C type, so there is nothing to reproduce
    on the implementation (the text `[45, 80, 50, 83, 72]` is `-P2SH`) -/
theorem parse_differs_beyond_uint32 :
    Model.parseFlags (2 ^ 32) [45, 80, 50, 83, 72] = some 0 ∧
    Spec.modifyFlags (2 ^ 32) [45, 80, 50, 83, 72] = some (2 ^ 32) := by decide +kernel

/-- C09: an accepted modification changes the flag word only in bits of flags that the text names:
    every bit that differs between the result and the base is the bit of a known flag NAME for which
    `+NAME` or `-NAME` is one of the comma-separated items (hence one of the 21 table bits); all other
    bits — in particular bits 21..31 — pass through unchanged. -/
theorem parse_only_restricts_or_extends (base : Nat) (text : Bytes) (r : Nat) (hbase : base < 2 ^ 32)
    (h : Model.parseFlags base text = some r) (k : Nat) (hk : r.testBit k ≠ base.testBit k) :
    (∃ item ∈ Spec.splitComma text, ∃ name, (item = 43 :: name ∨ item = 45 :: name) ∧ Spec.flagBit name = some k) ∧
    k < 21 ∧ ∃ p ∈ Gen.svf, p.2 = 2 ^ k := by
  rw [parse_exact_partial base text hbase, modifyFlags_closed] at h
  split at h <;> cases h
  rcases foldl_setOrClear_testBit (textBits text) k with ⟨⟨⟨m, b⟩, hm, rfl⟩, -⟩ | hsame
  · obtain ⟨item, hi, hsb⟩ := mem_textBits hm
    obtain ⟨name, rfl, hb⟩ := itemBit_eq_some hsb
    refine ⟨⟨_, hi, name, by cases m <;> simp, hb⟩, (flagBit_spec hb).1, ?_⟩
    rw [Tables.svf_table.1]
    exact ⟨_, List.mem_map.2 ⟨_, flagBit_eq_some hb, rfl⟩, rfl⟩
  · exact absurd (hsame base) hk

theorem parse_lt (base : Nat) (text : Bytes) (r : Nat) (hbase : base < 2 ^ 32)
    (h : Model.parseFlags base text = some r) : r < 2 ^ 32 :=
  modifyFlags_lt hbase (parse_exact_partial base text hbase ▸ h)

private theorem owned_all : Gen.svf.foldl (fun acc p => acc ||| p.2) 0 = 2 ^ 21 - 1 := by decide

private theorem names_nodup : (Gen.svf.map (·.1)).Nodup := by
  have h : ((Gen.svf.map (·.1)).map TableEval.strKey).Nodup := by decide +kernel
  exact (List.pairwise_map.1 h).imp fun hne heq => hne (congrArg _ heq)

theorem unowned_eq_zero_iff (flags : Nat) (hfl : flags < 2 ^ 32) :
    flags &&& ((2 ^ 21 - 1) ^^^ 0xFFFFFFFF) = 0 ↔ ∀ k, 21 ≤ k → flags.testBit k = false := by
  have bit : ∀ i, (flags &&& ((2 ^ 21 - 1) ^^^ 0xFFFFFFFF)).testBit i =
      (flags.testBit i && decide (21 ≤ i) && decide (i < 32)) := by
    intro i
    rw [Nat.testBit_and, Nat.testBit_xor, show (0xFFFFFFFF : Nat) = 2 ^ 32 - 1 by decide,
      Nat.testBit_two_pow_sub_one, Nat.testBit_two_pow_sub_one]
    by_cases h1 : i < 21 <;> by_cases h2 : i < 32 <;> simp [h1, h2] <;> omega
  constructor
  · intro hz k hk
    by_cases hk32 : k < 32
    · have := bit k
      rw [hz, Nat.zero_testBit] at this; simpa [hk, hk32] using this.symm
    · exact Nat.testBit_lt_two_pow (Nat.lt_of_lt_of_le hfl (Nat.pow_le_pow_right (by decide) (by omega)))
  · intro h
    apply Nat.eq_of_testBit_eq; intro i
    rw [bit, Nat.zero_testBit]
    by_cases hi : 21 ≤ i
    · simp [h i hi]
    · simp [hi]

/-- C09 (`svf_string`, the listing behind --default-flags and the verbose "resulting flags"): for a 32-bit
    flag word the listing exists (the C++ `while (flags)` loop ends) iff no bit outside the table is set, and
    then it consists of exactly the names of the set bits: each name once, in table order. -/
theorem svf_string_exact (flags : Nat) (hfl : flags < 2 ^ 32) :
    (svfString flags = none ↔ ∃ k, 21 ≤ k ∧ flags.testBit k = true) ∧
    ∀ names, svfString flags = some names →
      names = (Flag.table.filter (fun p => flags.testBit p.2)).map (fun p => String.ofList (p.1.toList.drop 14)) ∧
      (∀ s, s ∈ names ↔ ∃ k, flags.testBit k = true ∧ (s, 2 ^ k) ∈ Gen.svf) ∧
      names.Nodup ∧ names.Sublist (Gen.svf.map (·.1)) := by
  have hsub : ((Gen.svf.filter fun p => flags &&& p.2 != 0).map (·.1)).Sublist (Gen.svf.map (·.1)) :=
    List.filter_sublist.map _
  unfold svfString
  -- the table owns the low 21 bits (`owned_all`); an entry's bit is tested as `flags &&& 2 ^ k != 0`
  simp only [owned_all]
  simp only [bne_iff_ne, ne_eq, ite_not]
  have hz := unowned_eq_zero_iff flags hfl
  split
  · next h0 =>
    refine ⟨⟨nofun, fun ⟨k, hk, hb⟩ => by rw [hz.1 h0 k hk] at hb; cases hb⟩, fun names hn => ?_⟩
    cases hn
    refine ⟨?_, fun s => ?_, hsub.nodup names_nodup, hsub⟩
    · rw [Tables.svf_table.1, List.filter_map, List.map_map]
      exact congrArg _ (List.filter_congr fun p _ => and_two_pow_ne_zero flags p.2)
    · simp only [List.mem_map, List.mem_filter]
      constructor
      · rintro ⟨p, ⟨hp, hbit⟩, rfl⟩
        have hp' := hp
        rw [Tables.svf_table.1] at hp'
        obtain ⟨q, -, rfl⟩ := List.mem_map.1 hp'
        exact ⟨q.2, (and_two_pow_ne_zero flags q.2).symm.trans hbit, hp⟩
      · rintro ⟨k, hbit, hmem⟩
        exact ⟨_, ⟨hmem, (and_two_pow_ne_zero flags k).trans hbit⟩, rfl⟩
  · next h0 => exact ⟨⟨fun _ => by simpa using mt hz.2 h0, fun _ => rfl⟩, nofun⟩

/-- the exact set: model and specification agree on (base, text) if and only if the base fits 32 bits, or
    the specification rejects the text, or no item starts with `-`. So within the C type (`unsigned int`) they
    agree on every text (`parse_exact_partial`), and the disagreement region lies entirely outside it. -/
theorem parse_exact_iff (base : Nat) (text : Bytes) :
    Model.parseFlags base text = Spec.modifyFlags base text ↔
      (base < 2 ^ 32 ∨ Spec.modifyFlags base text = none ∨ hasMinus text = false) := by
  rw [parse_exact_general]
  cases h : Spec.modifyFlags base text with
  | none => simp
  | some r =>
    cases hasMinus text
    · simp
    · -- a truncated result equals the untruncated one iff it has no high part, which is the base's high part
      have hd := modifyFlags_div h
      simp only [Option.map_some, if_true, Option.some.injEq, reduceCtorEq, Bool.true_eq_false, or_false]
      constructor
      · intro hr
        have : r < 2 ^ 32 := hr ▸ Nat.mod_lt _ (by decide)
        rw [Nat.div_eq_of_lt this] at hd
        exact Nat.lt_of_div_eq_zero (by decide) hd.symm
      · exact fun hb => Nat.mod_eq_of_lt (modifyFlags_lt hb h)

/-! ### a NUL byte inside the text

`svf_parse_flags` takes a C string, so the implementation sees the text only up to its first NUL byte
(harness: `FLAGS 2b503253480058` = `+P2SH\0X` answers like `+P2SH`), whereas model and specification take a byte
list and treat a 0 byte as an ordinary character. On byte lists that are the content of a C string (no 0 byte —
everything `argv` can carry) there is no difference; with a 0 byte both model and specification reject: -/

theorem splitComma_mem (c : UInt8) (hc : (c.toNat == 44) = false) : ∀ text : Bytes, c ∈ text →
    ∃ item ∈ Spec.splitComma text, c ∈ item
  | a :: r, h => by
    rw [Spec.splitComma]
    rcases List.mem_cons.1 h with rfl | h
    · rw [if_neg (by simp [hc])]; split <;> simp
    · obtain ⟨item, hi, hci⟩ := splitComma_mem c hc r h
      split
      · exact ⟨item, List.mem_cons_of_mem _ hi, hci⟩
      · split
        · next hnil => rw [hnil] at hi; cases hi
        · next x xs hx =>
          rw [hx] at hi
          rcases List.mem_cons.1 hi with rfl | hi
          · exact ⟨_, List.mem_cons_self .., List.mem_cons_of_mem _ hci⟩
          · exact ⟨item, List.mem_cons_of_mem _ hi, hci⟩

/-- a text with a NUL byte in it is rejected by the specification and by the model -/
theorem nul_rejected (base : Nat) (text : Bytes) (h0 : (0 : UInt8) ∈ text) :
    Spec.modifyFlags base text = none ∧ Model.parseFlags base text = none := by
  have : accepted text = false := by
    obtain ⟨item, hi, h0i⟩ := splitComma_mem 0 (by decide) text h0
    have hnone : itemBit item = none := by
      cases h : itemBit item with
      | none => rfl
      | some sb => exact absurd h0i (itemBit_spec h).2.2.1
    cases text with
    | nil => cases h0
    | cons c t => exact List.all_eq_false.2 ⟨item, hi, by simp [hnone]⟩
  rw [modifyFlags_closed, parseFlags_closed, this]; exact ⟨rfl, rfl⟩

/-- hypotheses are satisfiable, non-trivially: `-P2SH,+SIGPUSHONLY` on the standard set -/
example : Model.parseFlags Gen.STANDARD_SCRIPT_VERIFY_FLAGS
      ([45, 80, 50, 83, 72, 44, 43] ++ [83, 73, 71, 80, 85, 83, 72, 79, 78, 76, 89]) = some (2 ^ 21 - 2) ∧
    Gen.STANDARD_SCRIPT_VERIFY_FLAGS < 2 ^ 32 := by decide +kernel

end Btcdeb.Proofs.C09Parse
