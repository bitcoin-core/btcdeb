/-
  C01 — stepping a script follows Bitcoin's script rules at every operation.  The specification is `Spec.evalScript`
  (Bitcoin's rules for one script on an initial stack), which the statements take part by part: its size refusal, its
  run over the decoded instructions (`Spec.evalInstrs` on `Spec.decodePrefix`), its test at the end of the script; the
  model is the debugger session.  `C01_trace` is for every script (any length), initial stack, flag set (a
  natural-number bit mask), signature version and checker.
-/
import Btcdeb
import BtcdebProofs.Refine.Run
import BtcdebProofs.Properties.Tables
namespace Btcdeb.Proofs.C01
open Btcdeb Btcdeb.Model Btcdeb.Refine

/-- the specification state a session starts from -/
def initSt (stack : List Bytes) (script : Bytes) (ed : ExecData) : Spec.St :=
  { stack := stack.reverse, codeFrom := script, codesepPos := ed.codesepPos, weightLeft := ed.weightLeft, weightInit := ed.weightInit }

/-- `HasValidOps`, the gate every script passes before a session exists, is exactly the domain of the
    property: every byte decodes, opcodes are defined, pushes are at most 520 bytes -/
theorem gate_is_domain (s : Bytes) : hasValidOps s = Spec.inDomain Gen.MAX_OPCODE s := by
  have key : ∀ s, hasValidOps s = ((Spec.decodePrefix s.length s).2 &&
      (Spec.decodePrefix s.length s).1.all (fun p => decide (p.1.opcode ≤ Gen.MAX_OPCODE) && decide (p.1.data.length ≤ Spec.maxElementSize))) := by
    refine getOp_induction fun s ih => ?_
    rw [hasValidOps, decodePrefix_getOp]
    cases hg : getOp s with
    | none => simp
    | some g =>
      simp only [Tables.max_script_element_size, List.all_cons]
      rw [ih g hg]
      by_cases h1 : g.opcode ≤ Gen.MAX_OPCODE <;> by_cases h2 : g.data.length ≤ Spec.maxElementSize <;>
        simp [h1, h2, Nat.not_lt.mpr, Nat.lt_of_not_le]
  unfold Spec.inDomain Spec.decode Spec.decodeWithRest
  rw [key s]
  cases hd : (Spec.decodePrefix s.length s).2
  · simp only [Bool.false_and, hd, Bool.false_eq_true, if_false, Option.map_none]
  · simp only [Bool.true_and, hd, if_true, Option.map_some, List.all_map]; rfl

/-- a script outside the domain fails `HasValidOps`, on which `Instance::parse_script` returns false: it is refused before
    execution -/
theorem C01_refused (s : Bytes) (h : Spec.inDomain Gen.MAX_OPCODE s = false) : hasValidOps s = false := by
  rw [gate_is_domain]; exact h

/-- `setup_environment` refuses a script with SCRIPT_SIZE exactly when its signature version is not TAPSCRIPT and it is
    longer than 10,000 bytes (the test of debugger/interpreter.cpp:94) -/
theorem C01_script_size (stack : List Bytes) (script : Bytes) (flags : Nat) (sv : SigVersion) (succ : Bytes) (z : Bool)
    (ed : ExecData) (tce : Option Tce) (pm : List (Bytes × Bytes)) (pk : List Bytes) :
    (sv ≠ .TAPSCRIPT ∧ script.length > Spec.maxScriptSize) ↔
      setupEnvironment stack script flags sv succ z ed tce pm pk = .error .SCRIPT_SIZE := by
  rw [setupEnvironment_eq, Tables.max_script_size]
  by_cases hc : (sv != SigVersion.TAPSCRIPT && decide (script.length > Spec.maxScriptSize)) = true
  · rw [if_pos hc]
    simpa using hc
  · rw [if_neg hc]
    refine iff_of_false (by simpa using hc) ?_
    split
    · simp
    · split <;> simp

theorem setup_rel (stack : List Bytes) (script : Bytes) (flags : Nat) (sv : SigVersion) (z : Bool) (ed : ExecData)
    (pm : List (Bytes × Bytes)) (pk : List Bytes) (e0 : IEnv)
    (hsetup : setupEnvironment stack script flags sv [] z ed none pm pk = .ok e0) :
    Rel e0.see (initSt stack script ed) ∧ e0.pc = script ∧ e0.tce = none ∧ e0.successor = [] := by
  obtain ⟨_, _, _, rfl⟩ := setupEnvironment_ok hsetup
  refine ⟨?_, rfl, rfl, rfl⟩
  constructor <;> simp [initSt, condRel_empty]

/-- Stepping.  For a session set up on one script (no scriptPubKey successor, no taproot commitment phase; `runOps` ends
    where the script ends, before any P2SH hand-over), stepping operation by operation visits exactly the states
    Bitcoin's rules prescribe — main stack, alt stack, conditional nesting, operation count, code-separator
    bookkeeping, signature budget, after every operation — and stops with the same outcome: the same error at the same
    operation (a C++ exception being SCRIPT_ERR_UNKNOWN_ERROR), never abnormally.
    `RelRun (runOps …) (evalInstrs …) complete` says: the session states after each step are related by `Rel`, one
    by one, to the states of the specification's run over the decoded instructions, and the outcomes agree
    (`complete = false`: the script has an undecodable tail, where the debugger ends with BAD_OPCODE).
    `hc : CfgRel` is what the caller supplies: the specification's flags, signature version and oracle are those
    of the session's environment and checker. -/
theorem C01_trace (cx : Ctx) (tc : TapCtx) (cfg : Spec.Cfg)
    (stack : List Bytes) (script : Bytes) (flags : Nat) (sv : SigVersion) (z : Bool) (ed : ExecData)
    (pm : List (Bytes × Bytes)) (e0 : IEnv)
    (hsetup : setupEnvironment stack script flags sv [] z ed none pm (pm.map (·.2)) = .ok e0)
    (hc : CfgRel cx e0.see cfg)
    (hw : sv = .TAPSCRIPT → ed.weightInit = true) :
    RelRun (runOps cx tc script.length e0)
      (Spec.evalInstrs cfg (Spec.decodePrefix script.length script).1 0 (initSt stack script ed))
      (Spec.decodePrefix script.length script).2 := by
  have hrel := (setup_rel stack script flags sv z ed pm _ e0 hsetup).1
  obtain ⟨_, _, _, rfl⟩ := setupEnvironment_ok hsetup
  exact runOps_refines cx tc cfg script.length _ (initSt stack script ed) rfl (Nat.le_refl _) hc hrel hw

/-- after the last operation, the end-of-script step succeeds exactly when no conditional is open;
    it changes nothing but the `done` flag -/
theorem C01_end_step (cx : Ctx) (tc : TapCtx) (e : IEnv) (st : Spec.St) (h : Rel e.see st)
    (hpc : e.pc = []) (ht : e.tce = none) (hp : e.isP2sh = false) (hs : e.successor = []) :
    (st.cond.isEmpty = true → stepSession cx tc e = .ok { e with done := true }) ∧
    (st.cond.isEmpty = false → stepSession cx tc e = fail .UNBALANCED_CONDITIONAL) := by
  rw [stepSession_end cx tc e ht hpc hp hs, condRel_isEmpty h.cond]
  exact ⟨fun hemp => by rw [hemp]; rfl, fun hne => by rw [hne]; rfl⟩

/-- **The checker of a session without a transaction.**  `Glue.baseCtx` (`BaseSignatureChecker` with the real hash
    functions: no signature verifies, no lock time is satisfied) is in the configuration relation with the oracle
    `Glue.baseOracle` that the specification's driver (`lean/Driver/Run.lean`, compared with btcdeb's output by
    `checks/c01.py`) uses for plain scripts — for every
    environment with the configuration's flags, signature version and `--allow-disabled-opcodes` setting, `requireMinimal`
    as `setup_environment` sets it, and no mock signatures. -/
theorem cfgRel_base (e : SEE) (flags : Nat) (sv : SigVersion) (z : Bool)
    (hf : e.flags = flags) (hsv : e.sigversion = sv) (hz : e.allowDisabled = z)
    (hrm : e.requireMinimal = hasFlag e.flags Flag.MINIMALDATA) (hpk : e.pretendKeys = []) :
    CfgRel Glue.baseCtx e { flags := flags, sigversion := sv, allowDisabled := z, oracle := Glue.baseOracle, pretend := [] } where
  flags := hf.symm
  sv := hsv.symm
  z := hz.symm
  rm := hrm
  sha256 := rfl
  ripemd160 := rfl
  sha1 := rfl
  checkLowS := rfl
  checkLockTime := rfl
  checkSequence := rfl
  ecdsa := rfl
  schnorr := fun _ _ _ _ => ⟨rfl, rfl⟩
  pretendKeys := fun key => by rw [hpk]; rfl
  pretendPair := fun sig key hk => by rw [hpk] at hk; cases hk

/-- `C01_trace` for the sessions `checks/c01.py` runs (plain scripts, no transaction, no mock signatures): the
    hypothesis `CfgRel` is discharged by `cfgRel_base` -/
theorem C01_trace_base (tc : TapCtx) (stack : List Bytes) (script : Bytes) (flags : Nat) (sv : SigVersion) (z : Bool)
    (ed : ExecData) (e0 : IEnv)
    (hsetup : setupEnvironment stack script flags sv [] z ed none [] [] = .ok e0)
    (hw : sv = .TAPSCRIPT → ed.weightInit = true) :
    RelRun (runOps Glue.baseCtx tc script.length e0)
      (Spec.evalInstrs { flags := flags, sigversion := sv, allowDisabled := z, oracle := Glue.baseOracle, pretend := [] }
        (Spec.decodePrefix script.length script).1 0 (initSt stack script ed))
      (Spec.decodePrefix script.length script).2 := by
  refine C01_trace Glue.baseCtx tc _ stack script flags sv z ed [] e0 hsetup ?_ hw
  obtain ⟨_, _, _, rfl⟩ := setupEnvironment_ok hsetup
  exact cfgRel_base _ flags sv z rfl rfl rfl rfl rfl

end Btcdeb.Proofs.C01
