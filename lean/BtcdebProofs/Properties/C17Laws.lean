/-
  C17 (continued) — algebraic laws of the specified functions (`Spec.execExtended`), which by
  `C17_computes` are laws of what btcdeb computes under `--allow-disabled-opcodes`: bitwise NOT is an
  involution, XOR of an item with itself is all-zero, AND/OR are idempotent, and LEFT n / RIGHT (len−n)
  split an item into two pieces whose concatenation (OP_CAT) is the item.  They hold for every
  stack item of every length; they would fail for a specification that merely restated a defective opcode
  (an XOR that leaves its operand unchanged, say).
-/
import Btcdeb
namespace Btcdeb.Proofs.C17
open Btcdeb Btcdeb.Model

theorem invert_involutive (rm : Bool) (st : Spec.St) (x : Bytes) (s : List Bytes) (h : st.stack = x :: s) :
    (Spec.execExtended rm .OP_INVERT st >>= Spec.execExtended rm .OP_INVERT) = .ok st := by
  cases st
  simp only at h
  subst h
  simp [Spec.execExtended, bind, Except.bind, List.map_map, Function.comp_def]

theorem xor_self (rm : Bool) (st : Spec.St) (x : Bytes) (s : List Bytes) (h : st.stack = x :: x :: s) :
    Spec.execExtended rm .OP_XOR st = .ok { st with stack := x.map (fun _ => 0) :: s } := by
  simp [Spec.execExtended, h]

theorem and_self (rm : Bool) (st : Spec.St) (x : Bytes) (s : List Bytes) (h : st.stack = x :: x :: s) :
    Spec.execExtended rm .OP_AND st = .ok { st with stack := x :: s } := by
  simp [Spec.execExtended, h]

theorem or_self (rm : Bool) (st : Spec.St) (x : Bytes) (s : List Bytes) (h : st.stack = x :: x :: s) :
    Spec.execExtended rm .OP_OR st = .ok { st with stack := x :: s } := by
  simp [Spec.execExtended, h]

/-- the list identity behind "LEFT n and RIGHT (len − n) concatenate back to the item": the two pieces are written
    as `Spec.execExtended` computes them (`take n`, `drop (len − (len − n))`); the opcodes do not occur in the statement -/
theorem left_right_cat (x : Bytes) (n : Nat) (hn : n ≤ x.length) :
    x.take n ++ x.drop (x.length - (x.length - n)) = x := by
  have : x.length - (x.length - n) = n := by omega
  rw [this, List.take_append_drop]

/-- concatenation never loses or reorders bytes: the result's length is the sum, its prefix the lower item -/
theorem cat_shape (rm : Bool) (st st' : Spec.St) (x1 x2 : Bytes) (s : List Bytes) (h : st.stack = x2 :: x1 :: s)
    (hr : Spec.execExtended rm .OP_CAT st = .ok st') :
    st'.stack = (x1 ++ x2) :: s ∧ x1.length + x2.length ≤ 520 := by
  simp only [Spec.execExtended, h] at hr
  split at hr
  · cases hr
  · cases hr; exact ⟨rfl, by omega⟩

end Btcdeb.Proofs.C17
