/-
  C09 (monotonicity of the verification flags, on the specification `Spec.evalScript`):
  a script that succeeds under a flag set succeeds, with the same trace and final state, under every
  subset of it.  Every flag test of the specification guards an additional failure, tightens number
  decoding (MINIMALDATA), or turns a no-op into a check that leaves the state unchanged (CLTV/CSV).

  Method: `Le x y` ("x succeeds with the same value whenever y does") with structural rules for bind,
  `if` with the same test, a guard that fires more often on the right, and the soft-fork shape
  `if !flag then nop else check`.  Every test of a flag is a guard whose Boolean condition is monotone in the
  flag (`and_mono_left`, `and_mono_right`, `or_mono`); the proofs name the flag at each such guard.
-/
import Btcdeb
import BtcdebProofs.Lemmas.Except
namespace Btcdeb.Proofs.C09
open Btcdeb

/-- flag set `a` is contained in flag set `b` -/
def FlagsLe (a b : Nat) : Prop := ∀ k, a.testBit k = true → b.testBit k = true

/-- two configurations that differ only in their flags -/
structure SameBut (a b : Spec.Cfg) : Prop where
  sv : a.sigversion = b.sigversion
  z : a.allowDisabled = b.allowDisabled
  oracle : a.oracle = b.oracle
  pretend : a.pretend = b.pretend

theorem flag_mono {a b : Nat} (h : FlagsLe a b) (k : Nat) : hasFlag a k = true → hasFlag b k = true := h k

theorem flag_mono_false {a b : Nat} (h : FlagsLe a b) (k : Nat) : hasFlag b k = false → hasFlag a k = false := by
  intro hb
  cases ha : hasFlag a k with
  | false => rfl
  | true => rw [flag_mono h k ha] at hb; cases hb

structure Le {α : Type} (x y : Spec.R α) : Prop where
  imp : ∀ v, y = .ok v → x = .ok v

theorem Le.refl {α : Type} (x : Spec.R α) : Le x x := ⟨fun _ h => h⟩
theorem Le.error {α : Type} (x : Spec.R α) (e : ScriptError) : Le x (.error e) := ⟨fun _ h => by cases h⟩

theorem Le.bind {α β : Type} {x y : Spec.R α} {f g : α → Spec.R β}
    (h1 : Le x y) (h2 : ∀ v, Le (f v) (g v)) : Le (x >>= f) (y >>= g) := by
  constructor
  intro v h
  obtain ⟨a, ha, hb⟩ := bind_ok h
  rw [h1.imp a ha]
  exact (h2 a).imp v hb

theorem Le.ite {α : Type} (c : Prop) [Decidable c] {x y x' y' : Spec.R α}
    (h1 : Le x y) (h2 : Le x' y') : Le (if c then x else x') (if c then y else y') := by
  by_cases hc : c <;> simp [hc, h1, h2]

theorem Le.guard {α : Type} (ca cb : Prop) [Decidable ca] [Decidable cb] {e e' : ScriptError} {x' y' : Spec.R α}
    (hc : ca → cb) (h2 : Le x' y') : Le (if ca then .error e else x') (if cb then .error e' else y') := by
  by_cases hb : cb
  · simp only [hb, if_true]; exact Le.error _ _
  · have ha : ¬ ca := fun h => hb (hc h)
    simp only [ha, hb, if_false]; exact h2

theorem and_mono_left {a b : Bool} (h : a = true → b = true) (c : Bool) : (a && c) = true → (b && c) = true := by
  cases c
  · simp
  · simpa using h
theorem and_mono_right {a b : Bool} (h : a = true → b = true) (c : Bool) : (c && a) = true → (c && b) = true := by
  cases c
  · simp
  · simpa using h
theorem or_mono {a b a' b' : Bool} (h : a = true → b = true) (h' : a' = true → b' = true) :
    (a || a') = true → (b || b') = true := by
  cases a <;> cases a' <;> simp_all

theorem numOf_le (rmA rmB : Bool) (h : rmA = true → rmB = true) (k : Nat) (b : Bytes) :
    Le (Spec.numOf rmA k b) (Spec.numOf rmB k b) :=
  Le.ite _ (Le.refl _) (Le.guard _ _ (and_mono_left h _) (Le.refl _))

theorem err_bind {α β : Type} (e : ScriptError) (f : α → Spec.R β) : ((Except.error e : Spec.R α) >>= f) = Except.error e := rfl

/-- one step along the common shape of both sides where no flag is read: equal sides, a failure on the right,
    a number decoded under MINIMALDATA (`numOf_le`), or else bind, `if` and `match` taken apart -/
macro "le_step" : tactic => `(tactic| first
  | with_reducible exact Le.refl _
  | exact Le.error _ _
  | (apply numOf_le; assumption)
  | refine Le.bind ?_ (fun _ => ?_)
  | refine Le.ite _ ?_ ?_
  | split)

theorem execExtended_le (rmA rmB : Bool) (h : rmA = true → rmB = true) (op : Opcode) (st : Spec.St) :
    Le (Spec.execExtended rmA op st) (Spec.execExtended rmB op st) := by
  unfold Spec.execExtended
  split
  all_goals try simp only [err_bind]
  all_goals repeat' le_step

theorem Le.softfork {α : Type} (ca cb : Bool) {n x y : Spec.R α} (hc : ca = true → cb = true)
    (h1 : Le x y) (h2 : Le n y) : Le (if (!ca) = true then n else x) (if (!cb) = true then n else y) := by
  cases ca <;> cases cb <;> simp_all
  exact Le.refl _

theorem Le.bind_right {α β : Type} {n : Spec.R β} {y : Spec.R α} {g : α → Spec.R β}
    (h : ∀ v, Le n (g v)) : Le n (y >>= g) := by
  constructor
  intro v hv
  obtain ⟨a, _, hb⟩ := bind_ok hv
  exact (h a).imp v hb

theorem Le.ite_right {α : Type} (c : Prop) [Decidable c] {n y y' : Spec.R α}
    (h1 : Le n y) (h2 : Le n y') : Le n (if c then y else y') := by
  by_cases hc : c <;> simp [hc, h1, h2]

macro "le_right" : tactic => `(tactic| repeat' (first
  | with_reducible exact Le.refl _
  | exact Le.error _ _
  | refine Le.bind_right (fun _ => ?_)
  | refine Le.ite_right _ ?_ ?_
  | split))

section
variable {a : Spec.Cfg} {fb : Nat} (hf : ∀ k, hasFlag a.flags k = true → hasFlag fb k = true)
include hf

theorem sigEncodingOk_le (sig : Bytes) :
    Le (Spec.sigEncodingOk a sig) (Spec.sigEncodingOk { a with flags := fb } sig) := by
  unfold Spec.sigEncodingOk
  dsimp only
  refine Le.ite _ (Le.refl _) ?_
  refine Le.guard _ _ (and_mono_left (or_mono (or_mono (hf Flag.DERSIG) (hf Flag.LOW_S)) (hf Flag.STRICTENC)) _) ?_
  refine Le.guard _ _ (and_mono_left (hf Flag.LOW_S) _) ?_
  exact Le.guard _ _ (and_mono_left (hf Flag.STRICTENC) _) (Le.refl _)

theorem keyEncodingOk_le (key : Bytes) :
    Le (Spec.keyEncodingOk a key) (Spec.keyEncodingOk { a with flags := fb } key) := by
  unfold Spec.keyEncodingOk
  dsimp only
  refine Le.guard _ _ (and_mono_left (hf Flag.STRICTENC) _) ?_
  exact Le.guard _ _ (and_mono_left (and_mono_left (hf Flag.WITNESS_PUBKEYTYPE) _) _) (Le.refl _)

theorem checkSig_le (st : Spec.St) (sig key : Bytes) :
    Le (Spec.checkSig a st sig key) (Spec.checkSig { a with flags := fb } st sig key) := by
  unfold Spec.checkSig Spec.mockHit Spec.pairListed
  dsimp only
  refine Le.ite _ (Le.refl _) ?_
  split
  case h_4 => exact Le.refl _
  case h_3 =>
    refine Le.ite _ ?_ ?_
    all_goals
      refine Le.bind (Le.refl _) fun _ => ?_
      refine Le.ite _ (Le.refl _) (Le.ite _ (Le.refl _) ?_)
      exact Le.guard _ _ (hf Flag.DISCOURAGE_UPGRADABLE_PUBKEYTYPE) (Le.refl _)
  -- BASE and WITNESS_V0: the ECDSA check, after FindAndDelete for BASE
  all_goals refine Le.ite _ (Le.guard _ _ (and_mono_right (hf Flag.CONST_SCRIPTCODE) _) ?_) ?_
  all_goals
    refine Le.bind (Le.refl _) fun _ => Le.bind (sigEncodingOk_le hf sig) fun _ =>
      Le.bind (keyEncodingOk_le hf key) fun _ => ?_
    exact Le.guard _ _ (and_mono_left (and_mono_right (hf Flag.NULLFAIL) _) _) (Le.refl _)

theorem matchSigs_le (code : Bytes) (sigs keys : List Bytes) :
    Le (Spec.matchSigs a code sigs keys) (Spec.matchSigs { a with flags := fb } code sigs keys) := by
  induction keys generalizing sigs with
  | nil => cases sigs <;> exact Le.refl _
  | cons key keys ih =>
    cases sigs with
    | nil => exact Le.refl _
    | cons sig sigs =>
      unfold Spec.matchSigs Spec.keyListed Spec.pairListed
      dsimp only
      repeat (first | exact ih _ | exact sigEncodingOk_le hf sig | exact keyEncodingOk_le hf key | le_step)

theorem deleteAll_le (sigs : List Bytes) (code : Bytes) :
    Le (Spec.deleteAll a sigs code) (Spec.deleteAll { a with flags := fb } sigs code) := by
  induction sigs generalizing code with
  | nil => exact Le.refl _
  | cons sig sigs ih =>
    unfold Spec.deleteAll
    dsimp only
    refine Le.ite _ ?_ (ih _)
    exact Le.guard _ _ (and_mono_right (hf Flag.CONST_SCRIPTCODE) _) (ih _)

theorem execMultisig_le (rmA rmB : Bool) (h : rmA = true → rmB = true) (verify : Bool) (st : Spec.St) :
    Le (Spec.execMultisig a rmA verify st) (Spec.execMultisig { a with flags := fb } rmB verify st) := by
  unfold Spec.execMultisig
  dsimp only
  try simp only [err_bind]
  repeat (first
    | exact deleteAll_le hf _ _
    | exact matchSigs_le hf _ _ _
    | refine Le.guard _ _ (and_mono_left (and_mono_right (hf Flag.NULLFAIL) _) _) ?_
    | refine Le.guard _ _ (and_mono_left (hf Flag.NULLDUMMY) _) ?_
    | le_step)

theorem execOp_le (op : Opcode) (ex : Bool) (after : Bytes) (pos : Nat) (st : Spec.St) :
    Le (Spec.execOp a op ex after pos st) (Spec.execOp { a with flags := fb } op ex after pos st) := by
  unfold Spec.execOp
  dsimp only
  have num (k : Nat) (b : Bytes) := numOf_le _ _ (hf Flag.MINIMALDATA) k b
  refine Le.ite _ (execExtended_le _ _ (hf Flag.MINIMALDATA) _ _) ?_
  split
  · exact Le.refl _
  -- NOP1, NOP4 … NOP10
  refine Le.ite _ (Le.guard _ _ (hf Flag.DISCOURAGE_UPGRADABLE_NOPS) (Le.refl _)) ?_
  -- the unary and the binary arithmetic opcodes decode their operands under MINIMALDATA
  refine Le.ite _ ?_ (Le.ite _ ?_ ?_)
  · split
    · exact Le.bind (num _ _) fun _ => Le.refl _
    · exact Le.refl _
  · split
    · exact Le.bind (num _ _) fun _ => Le.bind (num _ _) fun _ => Le.refl _
    · exact Le.refl _
  -- the single opcodes: all but the following twelve do not look at the flags
  split
  all_goals try (with_reducible exact Le.refl _)
  -- CHECKLOCKTIMEVERIFY, CHECKSEQUENCEVERIFY: a no-op without the flag; with it a check that, where it
  -- succeeds, leaves the state as the no-op does
  · refine Le.softfork _ _ (hf Flag.CHECKLOCKTIMEVERIFY) ?_ (by le_right)
    split
    · exact Le.bind (num _ _) fun _ => Le.refl _
    · exact Le.refl _
  · refine Le.softfork _ _ (hf Flag.CHECKSEQUENCEVERIFY) ?_ (by le_right)
    split
    · exact Le.bind (num _ _) fun _ => Le.refl _
    · exact Le.refl _
  -- IF, NOTIF: the MINIMALIF guard
  iterate 2
    · refine Le.ite _ ?_ (Le.refl _)
      split
      · refine Le.ite _ (Le.refl _) ?_
        exact Le.guard _ _ (and_mono_left (and_mono_right (hf Flag.MINIMALIF) _) _) (Le.refl _)
      · exact Le.refl _
  -- PICK, ROLL: one number
  iterate 2
    · split
      · exact Le.bind (num _ _) fun _ => Le.refl _
      · exact Le.refl _
  -- WITHIN: three numbers
  · split
    · exact Le.bind (num _ _) fun _ => Le.bind (num _ _) fun _ => Le.bind (num _ _) fun _ => Le.refl _
    · exact Le.refl _
  -- CHECKSIG, CHECKSIGVERIFY
  iterate 2
    · split
      · exact Le.bind (checkSig_le hf _ _ _) fun _ => Le.refl _
      · exact Le.refl _
  -- CHECKSIGADD: a number and a signature check
  · refine Le.ite _ (Le.refl _) ?_
    split
    · exact Le.bind (num _ _) fun _ => Le.bind (checkSig_le hf _ _ _) fun _ => Le.refl _
    · exact Le.refl _
  -- CHECKMULTISIG, CHECKMULTISIGVERIFY
  · exact execMultisig_le hf _ _ (hf Flag.MINIMALDATA) _ _
  · exact execMultisig_le hf _ _ (hf Flag.MINIMALDATA) _ _

theorem execInstr_le (i : Spec.Instr) (after : Bytes) (pos : Nat) (st : Spec.St) :
    Le (Spec.execInstr a i after pos st) (Spec.execInstr { a with flags := fb } i after pos st) := by
  unfold Spec.execInstr Spec.countOp
  dsimp only
  refine Le.ite _ (Le.refl _) (Le.bind (Le.refl _) fun _ => ?_)
  refine Le.ite _ (Le.refl _) ?_
  refine Le.guard _ _ (and_mono_right (hf Flag.CONST_SCRIPTCODE) _) ?_
  refine Le.ite _ (Le.guard _ _ (and_mono_left (hf Flag.MINIMALDATA) _) (Le.refl _)) ?_
  exact Le.ite _ (execOp_le hf _ _ _ _ _) (Le.refl _)
end

theorem Le.of_sameBut {a b : Spec.Cfg} (hs : SameBut a b) {α : Type} {x : Spec.R α} {G : Spec.Cfg → Spec.R α}
    (h : Le x (G { a with flags := b.flags })) : Le x (G b) := by
  obtain ⟨fa, sv, z, o, p⟩ := a
  obtain ⟨fb, sv', z', o', p'⟩ := b
  obtain ⟨h1, h2, h3, h4⟩ := hs
  dsimp only at h1 h2 h3 h4
  subst h1 h2 h3 h4
  exact h

theorem numOf_mono (k : Nat) (b : Bytes) (n : Int) (h : Spec.numOf true k b = .ok n) : Spec.numOf false k b = .ok n :=
  (numOf_le false true (fun _ => rfl) k b).imp n h

theorem sigEncodingOk_mono (a b : Spec.Cfg) (hs : SameBut a b) (hf : FlagsLe a.flags b.flags) (sig : Bytes)
    (h : Spec.sigEncodingOk b sig = .ok ()) : Spec.sigEncodingOk a sig = .ok () :=
  (Le.of_sameBut hs (G := fun c => Spec.sigEncodingOk c sig) (sigEncodingOk_le (flag_mono hf) sig)).imp _ h

theorem keyEncodingOk_mono (a b : Spec.Cfg) (hs : SameBut a b) (hf : FlagsLe a.flags b.flags) (key : Bytes)
    (h : Spec.keyEncodingOk b key = .ok ()) : Spec.keyEncodingOk a key = .ok () :=
  (Le.of_sameBut hs (G := fun c => Spec.keyEncodingOk c key) (keyEncodingOk_le (flag_mono hf) key)).imp _ h

theorem checkSig_mono (a b : Spec.Cfg) (hs : SameBut a b) (hf : FlagsLe a.flags b.flags) (st : Spec.St) (sig key : Bytes)
    (r : Bool × Spec.St) (h : Spec.checkSig b st sig key = .ok r) : Spec.checkSig a st sig key = .ok r :=
  (Le.of_sameBut hs (G := fun c => Spec.checkSig c st sig key) (checkSig_le (flag_mono hf) st sig key)).imp _ h

theorem matchSigs_mono (a b : Spec.Cfg) (hs : SameBut a b) (hf : FlagsLe a.flags b.flags) (code : Bytes)
    (sigs keys : List Bytes) (r : Bool) (h : Spec.matchSigs b code sigs keys = .ok r) :
    Spec.matchSigs a code sigs keys = .ok r :=
  (Le.of_sameBut hs (G := fun c => Spec.matchSigs c code sigs keys) (matchSigs_le (flag_mono hf) code sigs keys)).imp _ h

theorem deleteAll_mono (a b : Spec.Cfg) (hs : SameBut a b) (hf : FlagsLe a.flags b.flags) (sigs : List Bytes)
    (code r : Bytes) (h : Spec.deleteAll b sigs code = .ok r) : Spec.deleteAll a sigs code = .ok r :=
  (Le.of_sameBut hs (G := fun c => Spec.deleteAll c sigs code) (deleteAll_le (flag_mono hf) sigs code)).imp _ h

theorem execMultisig_mono (a b : Spec.Cfg) (hs : SameBut a b) (hf : FlagsLe a.flags b.flags)
    (rmA rmB : Bool) (hrm : rmA = true → rmB = true) (verify : Bool) (st st' : Spec.St)
    (h : Spec.execMultisig b rmB verify st = .ok st') : Spec.execMultisig a rmA verify st = .ok st' :=
  (Le.of_sameBut hs (G := fun c => Spec.execMultisig c rmB verify st) (execMultisig_le (flag_mono hf) rmA rmB hrm verify st)).imp _ h

theorem execExtended_mono (rmA rmB : Bool) (hrm : rmA = true → rmB = true) (op : Opcode) (st st' : Spec.St)
    (h : Spec.execExtended rmB op st = .ok st') : Spec.execExtended rmA op st = .ok st' :=
  (execExtended_le rmA rmB hrm op st).imp _ h

theorem execOp_mono (a b : Spec.Cfg) (hs : SameBut a b) (hf : FlagsLe a.flags b.flags)
    (op : Opcode) (executing : Bool) (after : Bytes) (pos : Nat) (st st' : Spec.St)
    (h : Spec.execOp b op executing after pos st = .ok st') : Spec.execOp a op executing after pos st = .ok st' :=
  (Le.of_sameBut hs (G := fun c => Spec.execOp c op executing after pos st) (execOp_le (flag_mono hf) op executing after pos st)).imp _ h

theorem execInstr_mono (a b : Spec.Cfg) (hs : SameBut a b) (hf : FlagsLe a.flags b.flags)
    (i : Spec.Instr) (after : Bytes) (pos : Nat) (st st' : Spec.St)
    (h : Spec.execInstr b i after pos st = .ok st') : Spec.execInstr a i after pos st = .ok st' :=
  (Le.of_sameBut hs (G := fun c => Spec.execInstr c i after pos st) (execInstr_le (flag_mono hf) i after pos st)).imp _ h

theorem evalInstrs_mono (a b : Spec.Cfg) (hs : SameBut a b) (hf : FlagsLe a.flags b.flags)
    (is : List (Spec.Instr × Bytes)) (pos : Nat) (st st' : Spec.St)
    (h : (Spec.evalInstrs b is pos st).2 = .ok st') : Spec.evalInstrs a is pos st = Spec.evalInstrs b is pos st := by
  induction is generalizing pos st with
  | nil => rfl
  | cons ia rest ih =>
    obtain ⟨i, after⟩ := ia
    unfold Spec.evalInstrs at h ⊢
    cases hb : Spec.execInstr b i after pos st with
    | error e => rw [hb] at h; cases h
    | ok st1 =>
      rw [hb] at h
      rw [execInstr_mono a b hs hf i after pos st st1 hb]
      dsimp only at h ⊢
      rw [ih (pos + 1) st1 h]

/-- C09 (monotonicity, one script): a script that succeeds under the larger flag set succeeds under the
    smaller one, with the same trace and the same final state -/
theorem evalScript_mono (a b : Spec.Cfg) (hs : SameBut a b) (hf : FlagsLe a.flags b.flags)
    (script : Bytes) (st0 st' : Spec.St)
    (h : (Spec.evalScript b script st0).result = .ok st') :
    (Spec.evalScript a script st0).result = .ok st' ∧ (Spec.evalScript a script st0).states = (Spec.evalScript b script st0).states := by
  have key : Spec.evalScript a script st0 = Spec.evalScript b script st0 := by
    unfold Spec.evalScript at h ⊢
    rw [hs.sv]
    split
    · rfl
    · rename_i hg
      rw [if_neg hg] at h
      dsimp only at h ⊢
      cases hb : (Spec.evalInstrs b (Spec.decodePrefix script.length script).1 0 { st0 with codeFrom := script }).2 with
      | error e => rw [hb] at h; cases h
      | ok st1 => rw [evalInstrs_mono a b hs hf _ _ _ st1 hb, hb]
  rw [key]
  exact ⟨h, rfl⟩

end Btcdeb.Proofs.C09
