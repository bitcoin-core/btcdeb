/-
  C18 (continued) — the C++ minimal-encoding test characterised declaratively:
  `minimalOk b` holds exactly when `b` is the unique shortest byte string with its value
  (`Spec.Minimal`): a string the test accepts re-encodes to itself (`encode_decode`), one it rejects to a strictly
  shorter string (`reencode_lt_of_not_minimal`).  Everything is over arbitrary byte strings.
-/
import BtcdebProofs.Properties.C18
namespace Btcdeb.Proofs.C18
open Btcdeb Btcdeb.Model

private theorem natAbs_setVch_snoc (ys : Bytes) (a : UInt8) :
    (setVch (ys ++ [a])).natAbs = leValue ys + 256 ^ ys.length * lo7 a := by
  rw [decode_spec, numValue_snoc]
  split
  · rw [Int.natAbs_neg, Int.natAbs_natCast]
  · rw [Int.natAbs_natCast]

/-- the magnitude of an (n+1)-byte string is below 2^(8n+7) -/
private theorem natAbs_setVch_snoc_lt (ys : Bytes) (a : UInt8) :
    (setVch (ys ++ [a])).natAbs < 128 * 256 ^ ys.length := by
  simpa using decode_bound (ys ++ [a]) (ys.length + 1) (by simp)

private theorem reencode_lt_of_not_minimal (b : Bytes) (h : minimalOk b = false) :
    (serialize (setVch b)).length < b.length := by
  by_cases hb : b = []
  · subst hb; simp [minimalOk] at h
  obtain ⟨ys, a, rfl⟩ := exists_snoc_of_ne_nil b hb
  rw [minimalOk_snoc] at h
  by_cases hl : lo7 a = 0
  · simp only [hl, beq_self_eq_true, if_true] at h
    have habs := natAbs_setVch_snoc ys a
    rw [hl, Nat.mul_zero, Nat.add_zero] at habs
    by_cases hy : ys = []
    · subst hy
      have h0 : setVch ([] ++ [a]) = 0 := by
        have : (setVch ([] ++ [a])).natAbs = 0 := by rw [habs]; rfl
        omega
      rw [h0]; simp [serialize]
    · obtain ⟨zs, p, rfl⟩ := exists_snoc_of_ne_nil ys hy
      simp only [List.getLast?_concat] at h
      -- the byte before the sign byte has its top bit clear, so the magnitude fits `zs.length + 1` bytes
      have hp := (hi_false_iff p).mp h
      have hL := leValue_lt zs
      have hlt : (setVch (zs ++ [p] ++ [a])).natAbs < 128 * 256 ^ (zs.length + 1 - 1) := by
        rw [habs, leValue_snoc, Nat.add_sub_cancel]
        have h3 : 256 ^ zs.length * p.toNat ≤ 256 ^ zs.length * 127 := Nat.mul_le_mul_left _ (by omega)
        omega
      have := (encode_length_le_iff _ (zs.length + 1) (by omega)).mpr hlt
      simp only [List.length_append, List.length_cons, List.length_nil]
      omega
  · have : (lo7 a == 0) = false := by simpa using hl
    rw [this] at h; simp at h

theorem reencode_le (b : Bytes) :
    (serialize (setVch b)).length ≤ b.length ∧
      ((serialize (setVch b)).length = b.length → serialize (setVch b) = b) := by
  by_cases hm : minimalOk b = true
  · rw [encode_decode b hm]; exact ⟨Nat.le_refl _, fun _ => rfl⟩
  · have hm' : minimalOk b = false := by simpa using hm
    have := reencode_lt_of_not_minimal b hm'
    exact ⟨by omega, fun h => by omega⟩

/-- two strings accepted by the minimality test with the same value are equal -/
theorem minimal_unique (a b : Bytes) (ha : minimalOk a = true) (hb : minimalOk b = true)
    (h : setVch a = setVch b) : a = b := by
  rw [← encode_decode a ha, ← encode_decode b hb, h]

/-- the C++ minimality test accepts exactly the strings that are the unique shortest encoding of
    their value -/
theorem minimal_iff (b : Bytes) : minimalOk b = true ↔ Spec.Minimal b := by
  constructor
  · intro hm b' hv hne
    have hv' : setVch b' = setVch b := by rw [decode_spec, decode_spec, hv]
    have hb : serialize (setVch b') = b := by rw [hv', encode_decode b hm]
    obtain ⟨hle, heq⟩ := reencode_le b'
    rw [hb] at hle heq
    have : b.length ≠ b'.length := fun h => hne (heq h).symm
    omega
  · intro hmin
    by_cases hm : minimalOk b = true
    · exact hm
    · have hm' : minimalOk b = false := by simpa using hm
      exfalso
      have hlt := reencode_lt_of_not_minimal b hm'
      have hne : serialize (setVch b) ≠ b := by
        intro h; rw [h] at hlt; omega
      have hv : Spec.numValue (serialize (setVch b)) = Spec.numValue b := by
        rw [← decode_spec, ← decode_spec, decode_encode]
      have := hmin _ hv hne
      omega

/-- consequently the specification's `minimalNum` (re-encoding gives the string back), the C++ test and
    the declarative `Spec.Minimal` all coincide -/
theorem minimalNum_iff (b : Bytes) : Spec.minimalNum b = true ↔ Spec.Minimal b := by
  rw [← minimalOk_eq_minimalNum, minimal_iff]

end Btcdeb.Proofs.C18
