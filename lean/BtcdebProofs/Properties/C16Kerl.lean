/-
  C16 (and C14: `tf name args`) for the interactive command-line layer: the command functions receive the words the user
  typed.  The rule is `Btcdeb/Spec/Kerl.lean`: every character of the argument text is a literal, a separator or a mark, and
  the words are the non-empty strings of literals between separators.  The theorems say that the argv of `exec`/`tf` is the
  rule's word list, that `execute_line` dispatches by exact command name, and that `unescape(buf, 1)` reads back from a
  buffer the command that `escape` wrote there, the escaped text holding no raw line break — for lines of any content
  without NUL and of any length the `int` indices of kerl.c can hold (the size hypotheses), any escape character (over
  continuation lines: any but the newline), any command table.  They are statements about the single functions: none
  speaks of `kerlRun`, and none of the history file as a whole (what `historyLoad` makes of the bytes `addHistory`
  appended; an entry whose escaped text has more than 1022 bytes comes back in pieces, `fgets` reading into `char buf[1024]`).
  Model: `Btcdeb/Model/Kerl.lean`; lemmas: `BtcdebProofs/Lemmas/Kerl.lean`.
-/
import Btcdeb
import BtcdebProofs.Lemmas.Kerl
namespace Btcdeb.Proofs.C16Kerl
open Btcdeb Btcdeb.Model Btcdeb.Model.Kerl Btcdeb.Proofs.Kerl

/-- without readline (the `btcdeb` of the build directory; an open quote or pending backslash ends with the line): the argv
    is the rule's word list (every literal `escape` character with a backslash in front) -/
theorem C16_kerl_argv_single (escape : UInt8) (mf : MoreFinal) (arg : Bytes) (more : List Bytes) (hmf : MfWf mf)
    (hn : (0 : UInt8) ∉ arg) (hsize : 2 * arg.length + 1 + (more.map (fun l => 2 * l.length + 1)).sum + 1 ≤ Kerl.intMax) :
    ∃ o, makeArgcvEscape false escape mf arg more = .ok o ∧
      o.res = .ok ((Spec.Kerl.words arg).map (Spec.Kerl.protect escape)) ∧ o.rest = more := by
  obtain ⟨o, h, r, _⟩ := makeArgcvEscape_rep false escape mf arg more hmf hsize
  rw [aLoop_single escape {} [] {} arg more hn (abs_empty escape)] at r
  exact ⟨o, h, (Prod.mk.inj r).1, (Prod.mk.inj r).2⟩

/-- the outcome of the rule for a command typed over several lines -/
def specResult (escape : UInt8) : Option (List Bytes × List Bytes) → ArgRes × List Bytes
  | none => (.abort, [])
  | some (ws, rest) => (.ok (ws.map (Spec.Kerl.protect escape)), rest)

/-- with readline, all inputs: the argv is the word list of the logical text the continuation lines form (`Spec.Kerl.logical`).
    Every line break inside a quoted stretch is a newline of the argument, empty lines included (kerl.c adds it for every
    continuation line since /repo 17d18b5); after a pending backslash the next line continues the word without a newline.
    `he`: kerl.c writes that newline without `bufiter()`; were the newline the escape character, it would lack the backslash
    that `Spec.Kerl.protect` puts in front (no caller passes an escape character other than 0). -/
theorem C16_kerl_argv_continued (escape : UInt8) (he : escape ≠ 10) (mf : MoreFinal) (arg : Bytes) (more : List Bytes)
    (hmf : MfWf mf) (hn : (0 : UInt8) ∉ arg) (hm : ∀ l ∈ more, (0 : UInt8) ∉ l)
    (hsize : 2 * arg.length + 1 + (more.map (fun l => 2 * l.length + 1)).sum + 1 ≤ Kerl.intMax) :
    ∃ o, makeArgcvEscape true escape mf arg more = .ok o ∧
      (o.res, o.rest) = specResult escape (Spec.Kerl.wordsMulti arg more) := by
  obtain ⟨o, h, r, _⟩ := makeArgcvEscape_rep true escape mf arg more hmf hsize
  rw [aLoop_continued escape he more arg {} [] {} hn hm (abs_empty escape)] at r
  refine ⟨o, h, r.trans ?_⟩
  unfold Spec.Kerl.wordsMulti
  cases Spec.Kerl.logical {} [] arg more <;> rfl

/-- words without spaces, quotes and backslashes, with single spaces between them, are the rule's words (a tab is a
    character of a word: it does not separate) -/
theorem C16_kerl_plain_words (ws : List Bytes) (h : ∀ w ∈ ws, w ≠ [] ∧ ∀ c ∈ w, plainChar c = true) :
    Spec.Kerl.words (joinWords ws) = ws :=
  words_joinWords ws h

/-- `exec a b c`: `fn_exec` hands exactly the words typed to `Instance::eval` (`Model.instEval`), in both configurations.
    This is the link to the `exec` model of `Model/Session.lean`; what `exec` does with the words is the subject of
    `Properties/C16.lean` (`C16_position_untouched`, `C16_first_op`). -/
theorem C16_kerl_exec_words (cx : Ctx) (e : IEnv) (rl : Bool) (mf : MoreFinal) (ws : List Bytes) (more : List Bytes)
    (hmf : MfWf mf) (hne : ws ≠ []) (hw : ∀ w ∈ ws, w ≠ [] ∧ (0 : UInt8) ∉ w ∧ ∀ c ∈ w, plainChar c = true)
    (hm : ∀ l ∈ more, (0 : UInt8) ∉ l)
    (hsize : 2 * (joinWords ws).length + 1 + (more.map (fun l => 2 * l.length + 1)).sum + 1 ≤ Kerl.intMax) :
    ∃ o, fnExec cx e rl mf (joinWords ws) more = .ok (some (instEval cx e ws), o) ∧ o.rest = more := by
  have hn := joinWords_nulfree ws (fun w hw' => (hw w hw').2.1)
  have hcl := classify_joinWords ws (fun w hw' => (hw w hw').2.2)
  have hwords := words_joinWords ws (fun w hw' => ⟨(hw w hw').1, (hw w hw').2.2⟩)
  have hprot : ws.map (Spec.Kerl.protect 0) = ws :=
    (List.map_congr_left fun w hw' => protect_of_not_mem (hw w hw').2.1).trans (List.map_id ws)
  -- a text without quotes and backslashes is complete after its first line: both configurations deliver its words, and
  -- no continuation line is read, so `hm` is not used
  obtain ⟨o, h, r, _⟩ := makeArgcvEscape_rep rl 0 mf (joinWords ws) more hmf hsize
  rw [aLoop_complete rl 0 {} {} _ more (by rw [hcl]; rfl), aLoop_single 0 {} [] {} _ more hn (abs_empty 0)] at r
  obtain ⟨r1, r2⟩ := Prod.mk.inj r
  rw [List.nil_append, show Spec.Kerl.wordsOfRoles _ = Spec.Kerl.words (joinWords ws) from rfl, hwords, hprot] at r1
  unfold fnExec makeArgcv
  rw [h]
  simp only [bind, Except.bind]
  rw [r1]
  simp only []
  rw [if_neg (by cases ws with | nil => exact absurd rfl hne | cons _ _ => simp)]
  exact ⟨o, rfl, r2⟩

theorem commandWord_eq (line : Bytes) : Spec.Kerl.commandWord line = (line.dropWhile isWs).takeWhile notWs :=
  Kerl.commandWord_eq line
theorem argText_eq (line : Bytes) : Spec.Kerl.argText line = ((line.dropWhile isWs).dropWhile notWs).dropWhile isWs :=
  Kerl.argText_eq line

/-- `execute_line`: a command word that is exactly the name of a registered command reaches that command's function (the
    first of that name) with the argument text; anything else the fallback or "No such command" -/
theorem C16_kerl_dispatch (cfg : Config) (line tail : Bytes) (hn : (0 : UInt8) ∉ line) (hint : line.length + 1 ≤ Kerl.intMax) :
    ∃ mem', executeLine cfg (line ++ 0 :: tail) = .ok
      ((match findCommand cfg.commands (Spec.Kerl.commandWord line) with
        | some (idx, kind) => Dispatch.call idx kind (Spec.Kerl.argText line)
        | none =>
          if cfg.hasFallback then
            .fallback (fallbackText (line.takeWhile isWs) (Spec.Kerl.commandWord line) ((line.dropWhile isWs).dropWhile notWs))
          else .noSuch (Spec.Kerl.commandWord line)), mem') :=
  executeLine_spec cfg line tail hn hint

/-- the rule's view of a decision -/
def toAction (cfg : Config) : Dispatch → Spec.Kerl.Action
  | .call idx _ arg => .run (((cfg.commands[idx]?).map (·.1)).getD []) arg
  | .fallback l => .fallback l
  | .noSuch w => .unknown w

/-- the decision is `Spec.interpret`.  A registered fallback receives the line with the blank that ended the command word
    turned into a space, which is the line as typed unless that blank is a tab: hence the hypothesis `hsep` and `_partial`
    (btcdeb registers no fallback). -/
theorem C16_kerl_dispatch_interpret_partial (cfg : Config) (line tail : Bytes) (hn : (0 : UInt8) ∉ line) (hint : line.length + 1 ≤ Kerl.intMax)
    (hsep : cfg.hasFallback = true → ∀ y ys, (line.dropWhile isWs).dropWhile notWs = y :: ys → y = 32) :
    ∃ d mem', executeLine cfg (line ++ 0 :: tail) = .ok (d, mem') ∧
      toAction cfg d = Spec.Kerl.interpret (cfg.commands.map (·.1)) cfg.hasFallback line := by
  obtain ⟨mem', h⟩ := C16_kerl_dispatch cfg line tail hn hint
  refine ⟨_, mem', h, ?_⟩
  unfold Spec.Kerl.interpret
  obtain ⟨f1, f2⟩ := findCommand_spec (Spec.Kerl.commandWord line) cfg.commands
  cases hf : findCommand cfg.commands (Spec.Kerl.commandWord line) with
  | some p =>
    obtain ⟨idx, kind⟩ := p
    obtain ⟨c, hc, hname, _, _⟩ := f1 idx kind hf
    have hcont : (cfg.commands.map (·.1)).contains (Spec.Kerl.commandWord line) = true := by
      rw [List.contains_iff_mem]
      exact List.mem_map.mpr ⟨c, List.mem_of_getElem? hc, hname⟩
    simp only [toAction, hc, Option.map_some, Option.getD_some, hname, hcont, if_true]
  | none =>
    have hcont : (cfg.commands.map (·.1)).contains (Spec.Kerl.commandWord line) = false := by
      rw [Bool.eq_false_iff, ne_eq, List.contains_iff_mem, List.mem_map]
      rintro ⟨c, hc, hname⟩
      exact f2 hf c hc hname
    simp only [hcont, Bool.false_eq_true, if_false]
    by_cases hfb : cfg.hasFallback = true
    · simp only [hfb, if_true, toAction]
      rw [commandWord_eq, fallbackText_eq (parts_of line) (hsep hfb)]
    · simp only [hfb, if_false, toAction, Bool.false_eq_true]

/-- what `kerl_run` executes for a typed line: the text before the comment character, blanks removed at both ends -/
theorem C16_kerl_prepare (cfg : Config) (line : Bytes) (hn : (0 : UInt8) ∉ line) :
    ∃ m0 s mem, cutCommentMem cfg line = .ok m0 ∧ stripwhite m0 = .ok (s, mem) ∧
      cstrAt mem s = .ok (Spec.Kerl.trim (Spec.Kerl.cutComment cfg.commentChar line)) := by
  obtain ⟨tail0, hcut⟩ := cutCommentMem_spec cfg line
  have hcn : (0 : UInt8) ∉ Spec.Kerl.cutComment cfg.commentChar line := fun h => hn ((cutComment_sub cfg.commentChar line).subset h)
  obtain ⟨tail', hs⟩ := stripwhite_spec _ tail0 hcn
  refine ⟨_, _, _, hcut, hs, ?_⟩
  rw [List.append_assoc, ← trim_eq, cstrAt_at_nulfree _ _ _ (fun h => hcn ((trim_sub _).subset h))]

/-- the line `exec a b c` up to the call (from there on: `C16_kerl_exec_words`): btcdeb's table sends it to `fn_exec`
    (entry 5) with the text `a b c` -/
theorem C16_kerl_exec_line (rl : Bool) (ws : List Bytes) (hne : ws ≠ [])
    (hw : ∀ w ∈ ws, w ≠ [] ∧ (0 : UInt8) ∉ w ∧ ∀ c ∈ w, isWs c = false)
    (hint : (joinWords ws).length + 7 ≤ Kerl.intMax) :
    ∃ mem', executeLine (btcdebConfig rl) (ofStr (tok "exec " ++ joinWords ws)) =
      .ok (.call 5 .splitting (joinWords ws), mem') := by
  have hn := joinWords_nulfree ws (fun w hw' => (hw w hw').2.1)
  -- the first character of the argument text is no blank
  obtain ⟨x, xs, hj, hx⟩ : ∃ x xs, joinWords ws = x :: xs ∧ isWs x = false := by
    cases ws with
    | nil => exact absurd rfl hne
    | cons w rest =>
      obtain ⟨hwne, _, hp⟩ := hw w List.mem_cons_self
      cases w with
      | nil => exact absurd rfl hwne
      | cons x xs =>
        cases rest with
        | nil => exact ⟨x, xs, rfl, hp x List.mem_cons_self⟩
        | cons w2 r2 => exact ⟨x, xs ++ 32 :: joinWords (w2 :: r2), rfl, hp x List.mem_cons_self⟩
  have hparts : Parts (tok "exec " ++ joinWords ws) [] (tok "exec") (32 :: joinWords ws) :=
    ⟨rfl, fun c hc => by simp at hc, by decide, Or.inr ⟨32, joinWords ws, rfl, by decide⟩, fun h => by cases h⟩
  have hnl : (0 : UInt8) ∉ tok "exec " ++ joinWords ws := by
    intro hm
    rcases List.mem_append.mp hm with hm | hm
    · revert hm; decide
    · exact hn hm
  obtain ⟨mem', h⟩ := executeLine_parts (btcdebConfig rl) hparts [] hnl (by
    have : (tok "exec " ++ joinWords ws).length = 5 + (joinWords ws).length := by rw [List.length_append]; rfl
    omega)
  refine ⟨mem', ?_⟩
  unfold ofStr
  rw [h]
  have hf : findCommand (btcdebConfig rl).commands (tok "exec") = some (5, .splitting) := by cases rl <;> decide
  rw [hf]
  simp only []
  rw [List.dropWhile_cons, if_pos (by decide), hj, List.dropWhile_cons, if_neg (by simp [hx])]

/-- `unescape (escape s) = s`, every byte string -/
theorem C16_kerl_unescape_escape (s : Bytes) : Spec.Kerl.unescape (Spec.Kerl.escape s) = s := unescape_escape s

/-- the escaped text contains no raw newline, tab, carriage return or backspace: one command per history line -/
theorem C16_kerl_escape_no_separator (s : Bytes) (x : UInt8) (hx : x = 10 ∨ x = 9 ∨ x = 13 ∨ x = 8) :
    x ∉ Spec.Kerl.escape s := by
  intro h
  rcases mem_escape h with h | ⟨c, hc, h⟩ | ⟨_, h⟩
  · rcases hx with hx | hx | hx | hx <;> exact absurd (hx.symm.trans h) (by decide)
  · obtain ⟨_, h1, h2, h3, h4⟩ := letterOf_safe hc
    rcases hx with hx | hx | hx | hx <;> rw [hx] at h
    · exact h1 h.symm
    · exact h2 h.symm
    · exact h3 h.symm
    · exact h4 h.symm
  · rcases hx with hx | hx | hx | hx <;> rw [hx] at h <;> exact absurd h (by decide)

/-- the C functions: what `escape` writes, `unescape(buf, 1)` reads back, both inside their buffers -/
theorem C16_kerl_history_roundtrip (s tail : Bytes) (hn : (0 : UInt8) ∉ s) (hint : 2 * s.length ≤ Kerl.intMax) :
    ∃ written mem', escape s = .ok written ∧ unescape (written.getD s ++ 0 :: tail) true = .ok (some s, mem') := by
  rw [escape_spec s hn (by omega)]
  by_cases ha : s.any Spec.Kerl.special = true
  · rw [if_pos ha]
    have hlen := escape_length s
    have hle : (s.filter Spec.Kerl.special).length ≤ s.length := List.length_filter_le _ _
    obtain ⟨mem', h⟩ := unescape_inplace_spec (Spec.Kerl.escape s) tail (escape_nulfree s hn) (by omega)
    rw [unescape_escape] at h
    exact ⟨_, mem', rfl, h⟩
  · rw [if_neg ha]
    -- nothing was escaped: the text holds no backslash
    have hnb : (92 : UInt8) ∉ s := by
      intro hm
      apply ha
      rw [List.any_eq_true]
      exact ⟨92, hm, by decide⟩
    obtain ⟨mem', h⟩ := unescape_inplace_spec s tail hn (by omega)
    rw [unescape_no_backslash s hnb] at h
    exact ⟨_, mem', rfl, h⟩

/-- `1 "2 3"  'a b'\ c` (the hypotheses of `C16_kerl_argv_single` hold, the words are computed by the rule) -/
example : ∃ o, makeArgcv false {} (tok "1 \"2 3\"  'a b'\\ c") [] = .ok o ∧ o.res = .ok [tok "1", tok "2 3", tok "a b c"] := by
  obtain ⟨o, h, r, _⟩ := C16_kerl_argv_single 0 {} (tok "1 \"2 3\"  'a b'\\ c") [] trivial (by decide) (by decide)
  exact ⟨o, h, by rw [r]; decide⟩
/-- an empty quoted argument is no argument; a tab does not separate -/
example : Spec.Kerl.words (tok "a \"\" b\tc") = [tok "a", tok "b\tc"] := by decide +kernel
/-- continuation: `"a` ⏎ `b" c`, one more line left unread -/
example : ∃ o, makeArgcv true {} (tok "\"a") [tok "b\" c", tok "next"] = .ok o ∧
    (o.res, o.rest) = (.ok [tok "a\nb", tok "c"], [tok "next"]) := by
  obtain ⟨o, h, r⟩ := C16_kerl_argv_continued 0 (by decide) {} (tok "\"a") [tok "b\" c", tok "next"] trivial (by decide)
    (by decide) (by decide)
  exact ⟨o, h, by rw [r]; decide⟩
/-- end of input inside a quote: "user abort" -/
example : ∃ o, makeArgcv true {} (tok "\"a") [] = .ok o ∧ o.res = .abort := by
  obtain ⟨o, h, r⟩ := C16_kerl_argv_continued 0 (by decide) {} (tok "\"a") [] trivial (by decide) (by decide) (by decide)
  refine ⟨o, h, ?_⟩
  have : (o.res, o.rest) = (ArgRes.abort, []) := by rw [r]; decide
  exact (Prod.mk.inj this).1
/-- empty lines inside a quoted argument: `"x` ⏎ ⏎ ⏎ `y"` is `x⏎⏎⏎y`, three line breaks (the newline is
    added for every continuation line since /repo 17d18b5; before that commit the result was `x⏎y`) -/
example : ∃ o, makeArgcv true {} (tok "\"x") [[], [], tok "y\""] = .ok o ∧ o.res = .ok [tok "x\n\n\ny"] := by
  obtain ⟨o, h, r⟩ := C16_kerl_argv_continued 0 (by decide) {} (tok "\"x") [[], [], tok "y\""] trivial (by decide) (by decide) (by decide)
  refine ⟨o, h, ?_⟩
  have : (o.res, o.rest) = (ArgRes.ok [tok "x\n\n\ny"], []) := by rw [r]; decide
  exact (Prod.mk.inj this).1
/-- a pending backslash continues the word on the next line without a newline: `a\` ⏎ `b c` -/
example : Spec.Kerl.wordsMulti (tok "a\\") [tok "b c"] = some ([tok "ab", tok "c"], []) := by decide +kernel
/-- `exec 1 2 OP_ADD` reaches `Instance::eval` with the three words -/
example (cx : Ctx) (e : IEnv) : ∃ o, fnExec cx e true {} (tok "1 2 OP_ADD") [] =
    .ok (some (instEval cx e [tok "1", tok "2", tok "OP_ADD"]), o) := by
  obtain ⟨o, h, _⟩ := C16_kerl_exec_words cx e true {} [tok "1", tok "2", tok "OP_ADD"] [] trivial (by decide) (by decide)
    (by decide) (by decide)
  exact ⟨o, h⟩
/-- blanks in front of the command word and a tab behind it; a longer word and a prefix of a name are no command -/
example : (executeLine (btcdebConfig true) (ofStr (tok "  exec\t 1  2 "))).toOption.map (·.1) =
    some (.call 5 .splitting (tok "1  2 ")) := by decide +kernel
example : (executeLine (btcdebConfig true) (ofStr (tok "execx 1"))).toOption.map (·.1) = some (.noSuch (tok "execx")) := by decide +kernel
example : (executeLine (btcdebConfig true) (ofStr (tok "exe 1"))).toOption.map (·.1) = some (.noSuch (tok "exe")) := by decide +kernel
/-- the history text of `tf echo "a<tab>b\"` -/
example : (escape (tok "tf echo \"a\tb\\\"")).toOption = some (some (tok "tf echo \\\"a\\tb\\\\\\\"")) := by decide +kernel

end Btcdeb.Proofs.C16Kerl
