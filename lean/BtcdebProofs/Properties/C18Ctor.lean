/-
  C18 (continued) — consequences for the code paths that *use* the codec: the constructor
  `CScriptNum(vch, fRequireMinimal, nMaxNumSize)` applied to what `serialize` produced, the
  sign symmetry of the encoding length (so `OP_NEGATE` never pushes a number out of, or
  into, the operand range), and the order/idempotence laws of `getint()`.  Every statement is over unbounded `Int`.
-/
import Btcdeb
import BtcdebProofs.Properties.C18
namespace Btcdeb.Proofs.C18
open Btcdeb Btcdeb.Model

/-- the constructor, with minimality required or not, reads back every integer whose encoding fits:
    `CScriptNum(CScriptNum(n).getvch(), rm, mx) == n`. -/
theorem ctor_serialize (n : Int) (mx : Nat) (h : (serialize n).length ≤ mx) (rm : Bool) :
    scriptNum (serialize n) rm mx = .ok n := by
  rw [ctor_accepts_iff]
  refine ⟨h, fun _ => encode_minimal n, ?_⟩
  rw [← decode_spec, decode_encode]

/-- … and rejects it with "script number overflow" exactly when it does not fit. -/
theorem ctor_serialize_overflow (n : Int) (mx : Nat) (h : mx < (serialize n).length) (rm : Bool) :
    scriptNum (serialize n) rm mx = .error .overflow := by
  unfold scriptNum
  simp [h]

/-- the encoding length does not depend on the sign -/
theorem encode_length_neg (n : Int) : (serialize (-n)).length = (serialize n).length := by
  by_cases hn : n = 0
  · subst hn; rfl
  have hpos : ∀ m : Int, m ≠ 0 → 1 ≤ (serialize m).length := by
    intro m hm
    rcases Nat.eq_zero_or_pos (serialize m).length with h0 | h0
    · have hnil : serialize m = [] := List.eq_nil_of_length_eq_zero h0
      have := decode_encode m
      rw [hnil] at this
      exact absurd this.symm hm
    · exact h0
  have h1 := hpos n hn
  have h2 := hpos (-n) (by omega)
  have hle : ∀ a b : Int, a.natAbs = b.natAbs → 1 ≤ (serialize a).length →
      (serialize b).length ≤ (serialize a).length := by
    intro a b hab ha
    rw [encode_length_le_iff b _ ha, ← hab, ← encode_length_le_iff a _ ha]
    exact Nat.le_refl _
  exact Nat.le_antisymm (hle n (-n) (by simp) h1) (hle (-n) n (by simp) h2)

/-- so negation maps the 4-byte operand range onto itself (`OP_NEGATE`, `OP_ABS`) -/
theorem operand_range_neg (n : Int) :
    (serialize (-n)).length ≤ 4 ↔ (serialize n).length ≤ 4 := by
  rw [encode_length_neg]

/-- `getint()` lands in the `int` range, is monotone, idempotent, and the identity on the range -/
theorem getint_range (v : Int) : intMin ≤ getint v ∧ getint v ≤ intMax := by
  unfold getint intMax intMin; omega

theorem getint_mono (a b : Int) (h : a ≤ b) : getint a ≤ getint b := by
  unfold getint intMax intMin; omega

theorem getint_idem (v : Int) : getint (getint v) = getint v := by
  unfold getint intMax intMin; omega

theorem getint_id_iff (v : Int) : getint v = v ↔ intMin ≤ v ∧ v ≤ intMax := by
  unfold getint intMax intMin; omega

/-- an operand of at most 4 bytes has `|n| < 2^31` (`decode_bound`), strictly inside `int`: `getint()` leaves it as it is -/
theorem getint_operand (b : Bytes) (hb : b.length ≤ 4) : getint (setVch b) = setVch b := by
  rw [getint_id_iff]
  have := decode_bound b 4 hb
  unfold intMin intMax
  omega

-- premises are satisfiable / statements not vacuous (the extreme operands)
example : scriptNum (serialize (-2147483647)) true 4 = .ok (-2147483647) :=
  ctor_serialize _ 4 ((encode_length_le_4_iff _).mpr (by decide)) true
example : scriptNum (serialize 2147483648) true 4 = .error .overflow :=
  ctor_serialize_overflow _ 4 (by
    have h : ¬ (serialize 2147483648).length ≤ 4 := fun hl =>
      absurd ((encode_length_le_4_iff 2147483648).mp hl) (by decide)
    omega) true

end Btcdeb.Proofs.C18
