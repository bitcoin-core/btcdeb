/-
  Generated ↔ Spec: every constant and finite table regenerated from /repo's working tree by the
  dumper equals what the specification requires.  These are re-checked on every run, so a changed
  constant, a dropped table row or a moved flag bit breaks a proof obligation immediately.
-/
import Btcdeb.Generated.Tables
import Btcdeb.Spec.Opcode
import Btcdeb.Spec.Types
import Btcdeb.Spec.Limits
import BtcdebProofs.Lemmas.TableEval
namespace Btcdeb.Proofs.Tables
open Btcdeb
open TableEval (lookup_strKey lookup_buckets bne_strKey strKey_ofList_drop keyed keyed_inj all_getD_tabulate)

theorem max_script_element_size : Gen.MAX_SCRIPT_ELEMENT_SIZE = Spec.maxElementSize := by decide
theorem max_ops_per_script : Gen.MAX_OPS_PER_SCRIPT = Spec.maxOpsPerScript := by decide
theorem max_pubkeys_per_multisig : Gen.MAX_PUBKEYS_PER_MULTISIG = Spec.maxPubkeysPerMultisig := by decide
theorem max_script_size : Gen.MAX_SCRIPT_SIZE = Spec.maxScriptSize := by decide
theorem max_stack_size : Gen.MAX_STACK_SIZE = Spec.maxStackSize := by decide
theorem default_max_num_size : Gen.DEFAULT_MAX_NUM_SIZE = 4 := by decide
theorem locktime_threshold : Gen.LOCKTIME_THRESHOLD = 500000000 := by decide
theorem sequence_constants :
    Gen.SEQUENCE_FINAL = 0xffffffff ∧ Gen.SEQUENCE_LOCKTIME_DISABLE_FLAG = 2 ^ 31 ∧
    Gen.SEQUENCE_LOCKTIME_TYPE_FLAG = 2 ^ 22 ∧ Gen.SEQUENCE_LOCKTIME_MASK = 0xffff := by decide
theorem taproot_constants :
    Gen.TAPROOT_LEAF_MASK = 0xfe ∧ Gen.TAPROOT_LEAF_TAPSCRIPT = 0xc0 ∧ Gen.TAPROOT_CONTROL_BASE_SIZE = 33 ∧
    Gen.TAPROOT_CONTROL_NODE_SIZE = 32 ∧ Gen.TAPROOT_CONTROL_MAX_NODE_COUNT = 128 ∧
    Gen.TAPROOT_CONTROL_MAX_SIZE = 33 + 32 * 128 ∧ Gen.ANNEX_TAG = 0x50 ∧
    Gen.VALIDATION_WEIGHT_PER_SIGOP_PASSED = 50 ∧ Gen.VALIDATION_WEIGHT_OFFSET = 50 ∧
    Gen.WITNESS_V0_KEYHASH_SIZE = 20 ∧ Gen.WITNESS_V0_SCRIPTHASH_SIZE = 32 ∧ Gen.WITNESS_V1_TAPROOT_SIZE = 32 := by decide
theorem sighash_constants :
    Gen.SIGHASH_DEFAULT = 0 ∧ Gen.SIGHASH_ALL = 1 ∧ Gen.SIGHASH_NONE = 2 ∧ Gen.SIGHASH_SINGLE = 3 ∧
    Gen.SIGHASH_ANYONECANPAY = 0x80 ∧ Gen.SIGHASH_OUTPUT_MASK = 3 ∧ Gen.SIGHASH_INPUT_MASK = 0x80 := by decide
theorem sigversion_codes :
    Gen.SIGVERSION_BASE = SigVersion.BASE.code ∧ Gen.SIGVERSION_WITNESS_V0 = SigVersion.WITNESS_V0.code ∧
    Gen.SIGVERSION_TAPROOT = SigVersion.TAPROOT.code ∧ Gen.SIGVERSION_TAPSCRIPT = SigVersion.TAPSCRIPT.code := by decide

/-- the highest opcode `HasValidOps` admits is the highest defined opcode -/
theorem max_opcode : Gen.MAX_OPCODE = Op.OP_CHECKSIGADD := by decide

/-- the enumerators of `opcodetype` are exactly the specification's opcode numbering (names and values) -/
theorem opcode_enum :
    Gen.opcodeEnum.length = Op.table.length + Op.aliases.length ∧
    (Op.table ++ Op.aliases).all (fun p => Gen.opcodeEnum.lookup p.1 == some p.2) = true := by
  simp only [lookup_strKey]; decide +kernel

/-- `Opcode.ofNat`/`toNat` agree with that numbering -/
theorem opcode_ofNat_table :
    (List.range 256).all (fun i => (Opcode.ofNat i).toNat == i) = true ∧
    Op.table.all (fun p => (Opcode.ofNat p.2 matches .UNKNOWN _) == (p.1 == "OP_INVALIDOPCODE")) = true := by decide +kernel

/-- `IsOpSuccess` is BIP342's list, for all 256 byte values -/
theorem op_success_table :
    Gen.opSuccess.length = 256 ∧ (List.range 256).all (fun i => Gen.opSuccess.getD i false == Spec.isOpSuccess i) = true := by
  have h : Gen.opSuccess = (List.range 256).map Spec.isOpSuccess := by decide +kernel
  rw [h]; exact ⟨by simp, all_getD_tabulate ..⟩

/-- `ParseOpCode` accepts every opcode name, with and without the OP_ prefix, and yields its opcode; the one enumerator
    that is no opcode (OP_INVALIDOPCODE, the "none" value of `GetOpCode`) is refused under both spellings, and the table
    has no other rows -/
theorem get_opcode_names :
    ((Op.table ++ Op.aliases).filter (fun p => p.1 != "OP_INVALIDOPCODE")).all (fun p =>
      Gen.opCodeByName.lookup p.1 == some p.2 && Gen.opCodeByName.lookup (String.ofList (p.1.toList.drop 3)) == some p.2) = true ∧
    Gen.opCodeByName.lookup "OP_INVALIDOPCODE" = none ∧ Gen.opCodeByName.lookup "INVALIDOPCODE" = none ∧
    Gen.opCodeByName.length = 2 * ((Op.table ++ Op.aliases).filter (fun p => p.1 != "OP_INVALIDOPCODE")).length := by
  -- the one long table: 232 rows, looked up twice for each of 116 names.  It is sorted into 16 buckets first, so that a
  -- lookup walks a sixteenth of the rows; the other tables (117 rows at most) are walked whole (`lookup_strKey`)
  simp only [lookup_buckets 15, bne_strKey, strKey_ofList_drop]; decide +kernel

/-- `ParseOpCode("OP_xNN")` and `ParseOpCode("xNN")` succeed with NN for all 256 values, ff included -/
theorem get_opcode_x :
    Gen.opCodeX.length = 256 ∧ (List.range 256).all (fun i => Gen.opCodeX.getD i (0, 0) == (i, i)) = true := by
  have h : Gen.opCodeX = (List.range 256).map fun i => (i, i) := by decide +kernel
  rw [h]; exact ⟨by simp, all_getD_tabulate ..⟩

/-- the enumerators of `ScriptError` -/
theorem script_error_enum :
    Gen.scriptErrEnum.length = ScriptError.all.length ∧
    ScriptError.all.all (fun e => Gen.scriptErrEnum.lookup e.name == some e.code) = true := by
  simp only [lookup_strKey]; decide +kernel

/-- every `SCRIPT_VERIFY_X` is the single bit the specification numbers X -/
theorem flag_enum :
    (Flag.table.all (fun p => Gen.flagEnum.lookup p.1 == some (2 ^ p.2))) = true ∧
    Gen.flagEnum.lookup "SCRIPT_VERIFY_NONE" = some 0 := by
  simp only [lookup_strKey]; decide +kernel

/-- btcdeb's `svf` table lists exactly the 21 flags, each with its own bit -/
theorem svf_table :
    Gen.svf = Flag.table.map (fun p => (String.ofList (p.1.toList.drop 14), 2 ^ p.2)) ∧ Gen.svfGetFlag = Gen.svf := by
  refine ⟨(List.map_inj_right keyed_inj).1 ?_, (List.map_inj_right keyed_inj).1 ?_⟩
  · simp only [List.map_map, Function.comp_def, keyed, strKey_ofList_drop]; decide +kernel
  · decide +kernel

/-- the standard flag set is every flag except SIGPUSHONLY -/
theorem standard_flags :
    Gen.STANDARD_SCRIPT_VERIFY_FLAGS = 2 ^ 21 - 1 - 2 ^ Flag.SIGPUSHONLY := by decide

end Btcdeb.Proofs.Tables
