/-
  C13, on top of Properties/C13.lean (`serTx_eq`, `serVector_strip`) — what the txid depends on.
  `CTransaction::GetHash()` hashes the serialisation made with SERIALIZE_TRANSACTION_NO_WITNESS: witness stacks never
  reach the hash, and for a transaction without witness data the witness-allowed serialisation (the one `parse_tx`
  reads and `GetWitnessHash()` hashes) is the same string.  All statements are for every transaction (no
  well-formedness needed) and every hash function.
-/
import Btcdeb
import BtcdebProofs.Properties.C13
namespace Btcdeb.Proofs.C13
open Btcdeb Btcdeb.Model

def stripTx (tx : Tx) : Tx := { tx with vin := tx.vin.map strip }

theorem serTx_nowit_strip (tx : Tx) : serTx (stripTx tx) false = serTx tx false := by
  simp only [serTx_eq, Bool.false_and]
  simp [stripTx, serVector_strip]

/-- **the txid ignores witness data**: two transactions that differ only in their witness
    stacks have the same txid (BIP141) -/
theorem txid_ignores_witness (hash256 : Bytes → Bytes) (tx : Tx) :
    txHash hash256 (stripTx tx) = txHash hash256 tx := by
  simp only [txHash, serTx_nowit_strip]

theorem txid_congr_witness (hash256 : Bytes → Bytes) (tx tx' : Tx) (h : stripTx tx = stripTx tx') :
    txHash hash256 tx = txHash hash256 tx' := by
  rw [← txid_ignores_witness hash256 tx, ← txid_ignores_witness hash256 tx', h]

/-- without witness data both serialisations coincide -/
theorem serTx_wit_eq_of_no_witness (tx : Tx) (h : hasWitness tx = false) :
    serTx tx true = serTx tx false := by
  simp only [serTx_eq, h, Bool.and_false]

/-- so wtxid = txid for a transaction without witness data -/
theorem wtxid_eq_txid_of_no_witness (hash256 : Bytes → Bytes) (tx : Tx) (h : hasWitness tx = false) :
    hash256 (serTx tx true) = txHash hash256 tx := by
  rw [serTx_wit_eq_of_no_witness tx h, txHash]

theorem hasWitness_stripTx (tx : Tx) : hasWitness (stripTx tx) = false := by
  simp [hasWitness, hasWitnessIns, stripTx, strip]

/-- so the txid of any transaction is the hash of the *parsable* encoding of its stripped form -/
theorem txid_eq_hash_stripped_encoding (hash256 : Bytes → Bytes) (tx : Tx) :
    txHash hash256 tx = hash256 (serTx (stripTx tx) true) := by
  rw [serTx_wit_eq_of_no_witness _ (hasWitness_stripTx tx), serTx_nowit_strip, txHash]

/-- with witness data present the extended serialisation is marked (0x00 0x01 after the
    version) -/
theorem serTx_wit_marker (tx : Tx) (h : hasWitness tx = true) :
    ∃ tail, serTx tx true = leFixed 4 (ofSigned 32 tx.version) ++ [0, 1] ++ tail := by
  refine ⟨serVector serTxIn tx.vin ++ serVector serTxOut tx.vout ++ tx.vin.flatMap serWitness
            ++ leFixed 4 tx.lockTime, ?_⟩
  simp only [serTx_eq, h, Bool.and_self, if_true, List.append_assoc]

-- non-vacuity: a concrete two-witness-item input whose witness does not reach the hash input
example : serTx ⟨2, [⟨⟨List.replicate 32 7, 1⟩, [], 0xfffffffe, [[1, 2], [3]]⟩], [⟨5000, [0x51]⟩], 0⟩ false
        = serTx ⟨2, [⟨⟨List.replicate 32 7, 1⟩, [], 0xfffffffe, []⟩], [⟨5000, [0x51]⟩], 0⟩ false :=
  serTx_nowit_strip ⟨2, [⟨⟨List.replicate 32 7, 1⟩, [], 0xfffffffe, [[1, 2], [3]]⟩], [⟨5000, [0x51]⟩], 0⟩

end Btcdeb.Proofs.C13
