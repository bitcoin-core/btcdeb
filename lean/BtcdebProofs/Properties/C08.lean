/-
  C08 — non-interactive btcdeb prints the final stack and never exits abnormally.  Here: what is printed for each
  outcome of the run (`C08_output`), that the run is repeated stepping (`C08_same_as_stepping`), and that no operation
  step ends abnormally (`C08_no_abnormal_partial`).  That the whole process never does, hand-over steps included, is
  `C15_noninteractive_never_abnormal` (Properties/C15.lean).  `C08_output` speaks of the run at the fuel `nonInteractive`
  gives it, `continueFuel e0`; that this many steps reach `done` is not shown for these sessions (for spends it is part
  of C03: `Ends`, Lemmas/Phases.lean).
-/
import Btcdeb
import BtcdebProofs.Lemmas.NoAbnormal
import BtcdebProofs.Properties.C04
namespace Btcdeb.Proofs.C08
open Btcdeb Btcdeb.Model

/-- for a session as non-interactive btcdeb sets it up (legacy signature version, no successor script, default execution
    data), what is printed and the exit status are determined by the outcome of running to completion:
    success prints the final stack as lowercase hex, one item per line from bottom to top, exit 0;
    a script error is reported with its message and exit 1 -/
theorem C08_output (cx : Ctx) (tc : TapCtx) (script : Bytes) (stack : List Bytes) (flags : Nat) (z : Bool) (e0 : IEnv)
    (hv : hasValidOps script = true)
    (hs : setupEnvironment stack script flags .BASE [] z {} none [] [] = .ok e0) :
    (∀ e, continueScript cx tc (continueFuel e0) e0 = .ok e →
        nonInteractive cx tc script stack flags z = .exit0 (e.see.stack.map toHex)) ∧
    (∀ err, continueScript cx tc (continueFuel e0) e0 = .error (.script err) →
        nonInteractive cx tc script stack flags z = .exit1 ("error: " ++ errString err)) ∧
    (∀ w, continueScript cx tc (continueFuel e0) e0 = .error (.exc w) →
        nonInteractive cx tc script stack flags z = .exit1 ("error: exception thrown: " ++ w)) := by
  -- the script is valid and the environment is `e0`: `nonInteractive` is its match on the outcome of the run
  have hvalid : (!hasValidOps script) = false := by rw [hv]; rfl
  refine ⟨fun e he => ?_, fun err he => ?_, fun w he => ?_⟩
  · -- success: the final stack, exit 0
    simp only [nonInteractive, hvalid, hs, he, Bool.false_eq_true, if_false]
  · -- a script error: its message, exit 1
    simp only [nonInteractive, hvalid, hs, he, Bool.false_eq_true, if_false]
  · -- a C++ exception: reported, exit 1
    simp only [nonInteractive, hvalid, hs, he, Bool.false_eq_true, if_false]

/-- running to completion is nothing but stepping until `done`: the result equals what interactive
    stepping reaches after some number of steps -/
theorem C08_same_as_stepping (cx : Ctx) (tc : TapCtx) : ∀ (fuel : Nat) (e0 e : IEnv),
    continueScript cx tc fuel e0 = .ok e → ∃ k, C04.advance cx tc e0 k = some e := by
  intro fuel
  induction fuel with
  | zero => intro e0 e h; cases h; exact ⟨0, rfl⟩
  | succ n ih =>
    intro e0 e h
    cases hd : e0.done with
    | true => rw [continue_done cx tc _ e0 hd] at h; cases h; exact ⟨0, rfl⟩
    | false =>
      rw [continue_succ cx tc n e0 hd] at h
      obtain ⟨e1, hs, h⟩ := bind_ok h
      obtain ⟨k, hk⟩ := ih e1 e h
      -- one more step in front
      exact ⟨k + 1, C04.advance_succ_left_iff.mpr ⟨hd, e1, hs, hk⟩⟩

/-- no abnormal termination from script-level failures: every operation step of a session ends in success,
    a script error or a caught exception, provided the signature checker never ends abnormally (`CheckerNoAbn`; see
    `base_checker_noabn`) and a tapscript session has its signature budget initialised.  (`_partial`: stated for
    operation steps only; the commitment and hand-over steps are covered by `stepSession_noabn`,
    Lemmas/SessionSafe.lean.) -/
theorem C08_no_abnormal_partial (cx : Ctx) (hcx : CheckerNoAbn cx) (tc : TapCtx) (e : IEnv)
    (ht : e.tce = none) (hpc : e.pc ≠ [])
    (hw : e.see.sigversion = .TAPSCRIPT → e.see.execdata.weightInit = true) :
    ∀ k, stepSession cx tc e ≠ .error (.abnormal k) := by
  rw [stepSession_op cx tc e ht (by simpa using hpc)]
  exact noabn_bind _ _ (step_noabn cx hcx e.see e.pc hw) fun _ => noabn_pure _

/-- the `BaseSignatureChecker` (no transaction given) never ends abnormally -/
theorem base_checker_noabn (cx : Ctx) (h : ∀ a b c d, cx.checkSchnorr a b c d = .error (.script .UNKNOWN_ERROR)) :
    CheckerNoAbn cx := by
  intro a b c d k hk; rw [h] at hk; cases hk

end Btcdeb.Proofs.C08
