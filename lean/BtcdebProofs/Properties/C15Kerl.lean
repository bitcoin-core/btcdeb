/-
  C15 for the interactive command-line layer: `kerl` never touches memory it does not own.  The model
  (`Btcdeb/Model/Kerl.lean`) keeps every buffer of /repo/kerl/kerl.c with its allocation size and every index computation; an
  access outside an allocation, an unterminated C string and an `int` that overflows are the outcome `.abnormal`.  Whole
  sessions, and by itself each function a session calls, never have that outcome, for lines of any content without NUL (a C
  string has none); the size hypotheses only say that the `int` indices of kerl.c can hold the input
  (`2·(longest line) + Σ(2·|line| + 1) + 2 ≤ INT_MAX`, about 500 MB).  The `example`s at the end evaluate two functions no
  tool calls, `kerl_more` and `unescape(s, 0)`: these do overrun their buffers (also a stream of checks/c15kerl.py on the
  sanitizer build); of `kerl_process_citation`, which no tool calls either, nothing is proved.
  Lemmas: `BtcdebProofs/Lemmas/Kerl.lean`.
-/
import Btcdeb
import BtcdebProofs.Lemmas.Kerl
namespace Btcdeb.Proofs.C15Kerl
open Btcdeb Btcdeb.Model.Kerl Btcdeb.Proofs.Kerl

/-- no sequence of interactive lines makes the kerl layer leave its buffers: for every command table and every setting of
    kerl (comment character, repeat on empty line, fallback, sensitivity, history file, writable or not) and every sequence
    of lines typed — commands, unknown words, unterminated quotes, continuation lines, end of input inside a continuation —
    `kerl_run` has no abnormal outcome.  What is carried across the lines of a continued command: the fill level `j` of
    `buf` stays strictly below `bufcap` (`Proofs.Kerl.Rep.room`; the newline of a continuation is written behind its own
    capacity check). -/
theorem C15_kerl_run_safe (cfg : Config) (lines : List Bytes) (B : Nat)
    (hnul : ∀ l ∈ lines, (0 : UInt8) ∉ l) (hlen : ∀ l ∈ lines, l.length ≤ B)
    (hsize : 2 * B + (lines.map (fun l => 2 * l.length + 1)).sum + 2 ≤ intMax) :
    ∃ st, kerlRun cfg lines = .ok st := by
  unfold kerlRun
  exact runLoop_safe B cfg _ {} lines ⟨Or.inl ⟨rfl, rfl⟩, nofun⟩ (fun l hl => ⟨hnul l hl, hlen l hl⟩)
    (by unfold weight; omega)

/-- the configuration without readline (the `btcdeb` of the build directory): every byte string on stdin, NUL bytes
    included, up to about 700 MB, through kerl's own `fgets` reader -/
theorem C15_kerl_run_raw_safe (cfg : Config) (stdin : Bytes)
    (hsize : 3 * stdin.length + 20480 ≤ intMax) :
    ∃ st, kerlRunRaw cfg stdin = .ok st := by
  unfold kerlRunRaw
  obtain ⟨h1, h2⟩ := fallbackLines_fits_weight stdin
  exact C15_kerl_run_safe cfg _ 10239 (fun l hl => (h1 l hl).1) (fun l hl => (h1 l hl).2)
    (by unfold weight at h2; omega)

/-- a history file that cannot be opened (a directory of that name, a read-only working directory): recording a command is
    safe; the command goes to readline's own history (readline configuration) and nothing else changes.  `kerl_add_history`
    tests the result of `fopen` since /repo 05ba26e; before that commit the first command ended the process in
    `fprintf(NULL, …)`. -/
theorem C15_kerl_history_unwritable (cfg : Config) (st : RunSt) (s : Bytes) (hopen : cfg.historyOpenFails = true)
    (hn : (0 : UInt8) ∉ s) (hint : s.length ≤ intMax) :
    addHistory cfg st s = .ok (if cfg.rl then { st with events := .addHistory s :: st.events } else st) :=
  by
  unfold addHistory
  by_cases hf : cfg.historyFile = true
  · rw [if_pos hf, escape_spec s hn hint]
    simp only [bind, Except.bind]
    rw [if_pos hopen]
    rfl
  · rw [if_neg hf]
    rfl

def isAbnormal {α : Type} : KM α → Bool
  | .error _ => true
  | .ok _ => false

/-- a btcdeb session in a directory where `.btcdeb_history` cannot be written: `stack`, `stack` -/
example : (kerlRun { btcdebConfig false with historyOpenFails := true } [tok "stack", tok "stack"]).toOption.map (fun st => (st.events, st.hist)) =
    some ([.call (tok "stack") [], .call (tok "stack") []], []) := by decide +kernel
example : (kerlRun (btcdebConfig false) [tok "stack"]).toOption.map (·.hist) = some (tok "stack\n") := by decide +kernel

/-- `kerl_make_argcv_escape`: any argument text, any escape character, any continuation lines, both configurations -/
theorem C15_kerl_makeArgcv_safe (rl : Bool) (escape : UInt8) (mf : MoreFinal) (arg : Bytes) (more : List Bytes) (hmf : MfWf mf)
    (hsize : 2 * arg.length + 1 + (more.map (fun l => 2 * l.length + 1)).sum + 1 ≤ intMax) :
    ∃ o, makeArgcvEscape rl escape mf arg more = .ok o := by
  obtain ⟨o, h, _⟩ := makeArgcvEscape_rep rl escape mf arg more hmf hsize
  exact ⟨o, h⟩

/-- the precondition on `more_final` holds initially and after every call -/
theorem C15_kerl_makeArgcv_keeps_more_final (rl : Bool) (escape : UInt8) (mf : MoreFinal) (arg : Bytes) (more : List Bytes)
    (hmf : MfWf mf) (hsize : 2 * arg.length + 1 + (more.map (fun l => 2 * l.length + 1)).sum + 1 ≤ intMax) :
    MfWf {} ∧ ∀ o, makeArgcvEscape rl escape mf arg more = .ok o → MfWf o.mf := by
  refine ⟨trivial, fun o ho => ?_⟩
  obtain ⟨o', h, _, w, _⟩ := makeArgcvEscape_rep rl escape mf arg more hmf hsize
  rw [h] at ho; cases ho; exact w.wf

/-- `stripwhite` on any string, whatever follows its terminator in the allocation -/
theorem C15_kerl_stripwhite_safe (s tail : Bytes) (hn : (0 : UInt8) ∉ s) : ∃ r, stripwhite (s ++ 0 :: tail) = .ok r := by
  obtain ⟨t, h⟩ := stripwhite_spec s tail hn
  exact ⟨_, h⟩

/-- `execute_line` on any line -/
theorem C15_kerl_executeLine_safe (cfg : Config) (line tail : Bytes) (hn : (0 : UInt8) ∉ line) (hint : line.length + 1 ≤ intMax) :
    ∃ r, executeLine cfg (line ++ 0 :: tail) = .ok r := by
  obtain ⟨m, h⟩ := executeLine_spec cfg line tail hn hint
  exact ⟨_, h⟩

theorem C15_kerl_escape_safe (s : Bytes) (hn : (0 : UInt8) ∉ s) (hint : s.length ≤ intMax) : ∃ r, escape s = .ok r :=
  ⟨_, escape_spec s hn hint⟩

/-- `unescape(buf, 1)` as `kerl_set_history_file` calls it: in place -/
theorem C15_kerl_unescape_inplace_safe (s tail : Bytes) (hn : (0 : UInt8) ∉ s) (hint : s.length ≤ intMax) :
    ∃ r, unescape (s ++ 0 :: tail) true = .ok r := by
  obtain ⟨m, h⟩ := unescape_inplace_spec s tail hn hint
  exact ⟨_, h⟩

/-- `kerl_set_history_file` (readline configuration) stays inside `char buf[1024]` for a history file of any content, NUL
    bytes included.  The test `len > 0` in front of `buf[len-1]` is in /repo since 21c8642; before that commit a line starting
    with NUL wrote `buf[-1]`. -/
theorem C15_kerl_historyLoad (file : Bytes) : ∃ r, historyLoad file [] = .ok r :=
  historyLoadAux_ok _ file []

/-- kerl's own line reader delivers NUL-free lines of at most 10239 bytes -/
theorem C15_kerl_fallback_reader (stdin : Bytes) : ∀ l ∈ fallbackLines stdin, (0 : UInt8) ∉ l ∧ l.length ≤ 10239 :=
  (fallbackLines_fits_weight stdin).1

-- a history file whose first line begins with a NUL byte ("\0\n", then "st\n"): an empty entry, then `st`
set_option maxRecDepth 8192 in
example : (historyLoad [0, 10, 115, 116, 10] []).toOption = some [[], [115, 116]] := by decide +kernel
-- a well-formed history file is read back: the lines `st` and `a\n` (escaped newline)
set_option maxRecDepth 8192 in
example : (historyLoad [115, 116, 10, 97, 92, 110, 10] []).toOption = some [[115, 116], [97, 10]] := by decide +kernel

/-- `kerl_more` (no caller in btcdeb): three empty lines overrun a 4-byte buffer that holds 2 bytes … -/
example : isAbnormal (kerlMore true {} 4 2 [97, 98, 0, 0] 59 [[], [], [], [59]]) = true := by decide +kernel
/-- … and the buffer is read unterminated (`_more_final_init(buf)` before `buf[j] = 0`) when nothing behind `j` is NUL -/
example : isAbnormal (kerlMore true {} 2 0 [65, 65] 59 [[59]]) = true := by decide +kernel
/-- with room to spare (and a zeroed buffer) it works: "a" + ";" -/
example : (kerlMore true {} 8 1 [97, 0, 0, 0, 0, 0, 0, 0] 59 [[59]]).toOption.map (·.res) = some (.ok 8 3 [97, 10, 59]) := by decide +kernel

/-- `unescape(s, 0)` (no caller): an unknown escape (`\x`) or a trailing backslash (`abc\`) writes one byte behind
    `malloc(len - escapes + 1)` -/
example : isAbnormal (unescape (ofStr [92, 120]) false) = true := by decide +kernel
example : isAbnormal (unescape (ofStr [97, 98, 99, 92]) false) = true := by decide +kernel
example : (unescape (ofStr [97, 92, 110, 98]) false).toOption.map (·.1) = some (some [97, 10, 98]) := by decide +kernel

end Btcdeb.Proofs.C15Kerl
