/-
  The transaction signature digests and the transaction signature checker of btcdeb compute what the original Bitcoin
  algorithm, BIP143 and BIP341/BIP342 define.

  Model: `Btcdeb/Model/Sighash.lean` (mirror of `SignatureHash`, `CTransactionSignatureSerializer`,
         `PrecomputedTransactionData::Init`, `SignatureHashSchnorr`, `GenericTransactionSignatureChecker`).
  Spec:  `Btcdeb/Spec/Sighash.lean`.

  All theorems hold for EVERY transaction (any number of inputs / outputs, any scripts), every hash type, every
  SHA-256 / ECDSA / Schnorr instance (`SigCrypto` is a parameter).

  Model and specification are brought to one vocabulary once per serialiser (`serScriptCode_eq`, `serSigTx_eq`, the
  `*Bytes_eq`; `bip341SigMsg_eq` writes the specification's message in the model's), a `Coherent` cache may stand for the
  hashes computed afresh, and the digests, the checker and the lock-time tests follow by comparing the two sides part by
  part.

  FINDING (inherited from Bitcoin Core, not observable in consensus): `SerializeScriptCode` writes the length
  `scriptCode.size() - nCodeSeparators` but, when the script code ends in an instruction that does not decode (push
  running past the end), it writes only up to where the failed `GetOp` stopped, so fewer bytes than announced.  The
  original algorithm (`FindAndDelete`) keeps that tail.  E.g. script code `ac 05 01 02`: the C++ hashes `04 ac 05`
  in place of `04 ac 05 01 02`.  Hence the hypothesis `Spec.decode scriptCode ≠ none` (`_partial`).
-/
import Btcdeb.Model.Sighash
import Btcdeb.Spec.Sighash
import BtcdebProofs.Refine.FindAndDelete
import BtcdebProofs.Properties.C13
namespace Btcdeb.Proofs.Sighash
open Btcdeb Btcdeb.Model Btcdeb.Refine Btcdeb.Proofs.C13


theorem and_31_beq (x c : Nat) : (x &&& 0x1f == c) = decide (x % 32 = c) := by
  rw [show (0x1f : Nat) = 2 ^ 5 - 1 by rfl, Nat.and_two_pow_sub_one_eq_mod]
  by_cases h : x % 2 ^ 5 = c <;> simp [h]

theorem htAnyoneCanPay_eq (ht : Nat) : htAnyoneCanPay ht = decide (Spec.anyoneCanPay ht) :=
  (and_two_pow_ne_zero ht 7).trans Nat.testBit_eq_decide_div_mod_eq

theorem htSingle_eq (ht : Nat) : htSingle ht = decide (Spec.isSingle ht) := and_31_beq ht 3

theorem htNone_eq (ht : Nat) : htNone ht = decide (Spec.isNone ht) := and_31_beq ht 2

/-- the specification's removal of code separators, with explicit fuel -/
private def strip (fuel : Nat) (s : Bytes) : Bytes := (Spec.deleteAt fuel [0xab] s).1

private theorem strip_nil (f : Nat) : strip (f + 1) [] = [] := by
  simp [strip, Spec.deleteAt]

private theorem instrLen_sep (r : Bytes) : instrLen (0xab :: r) = some 1 := by
  simp [instrLen]

private theorem isSep_iff (b : UInt8) : b.toNat = Op.OP_CODESEPARATOR ↔ b = 0xab :=
  ⟨fun h => u8_ext h, fun h => h ▸ rfl⟩

theorem countCodeSeparators_step {b : UInt8} {r : Bytes} {t : Nat} (ht : instrLen (b :: r) = some t) (n : Nat) :
    countCodeSeparators (b :: r) n = countCodeSeparators ((b :: r).drop t) (if b = 0xab then n + 1 else n) := by
  obtain ⟨g, hg, hop, hrest⟩ := getOp_of_instrLen ht
  rw [countCodeSeparators]
  split
  · rename_i h; rw [hg] at h; cases h
  · rename_i g' hg'
    rw [hg] at hg'; cases hg'
    simp only [hop, hrest, isSep_iff]

theorem serScriptCodeGo_step {b : UInt8} {r : Bytes} {t : Nat} (ht : instrLen (b :: r) = some t)
    (itBegin acc : Bytes) :
    serScriptCodeGo itBegin (b :: r) acc =
      if b = 0xab then
        serScriptCodeGo ((b :: r).drop t) ((b :: r).drop t)
          (acc ++ itBegin.take (itBegin.length - ((b :: r).drop t).length - 1))
      else serScriptCodeGo itBegin ((b :: r).drop t) acc := by
  obtain ⟨g, hg, hop, hrest⟩ := getOp_of_instrLen ht
  rw [serScriptCodeGo]
  split
  · rename_i h; rw [hg] at h; cases h
  · rename_i g' hg'
    rw [hg] at hg'; cases hg'
    simp only [hop, hrest, isSep_iff]

private theorem strip_step {b : UInt8} {r : Bytes} {t : Nat} (ht : instrLen (b :: r) = some t) (f : Nat) :
    strip (f + 1) (b :: r) =
      if b = 0xab then strip f ((b :: r).drop t) else (b :: r).take t ++ strip f ((b :: r).drop t) := by
  unfold strip
  split
  next h =>
    subst h
    cases (instrLen_sep r).symm.trans ht
    rw [deleteAt_succ_prefix f [0xab] (0xab :: r) (by simp) (by simp)]
    rfl
  next h =>
    rw [deleteAt_succ_noprefix f [0xab] (b :: r) (by simp) (by simp [List.isPrefixOf]; exact fun h' => h h'.symm), ht]

/-- the two loops of `SerializeScriptCode` on a script that decodes.  The counter: every removed code separator is one
    byte.  The segment writer: with `itBegin = pre ++ it`, the result is what was written, then `pre`, then `it` without its
    code separators. -/
private theorem loops_strip (it : Bytes) (hp : Parses it) : ∀ (f n : Nat) (pre acc : Bytes), it.length < f →
    countCodeSeparators it n + (strip f it).length = n + it.length
      ∧ serScriptCodeGo (pre ++ it) it acc = acc ++ pre ++ strip f it := by
  induction hp with
  | nil =>
    intro f n pre acc hf
    obtain ⟨f', rfl⟩ : ∃ f', f = f' + 1 := ⟨f - 1, by simp at hf; omega⟩
    rw [countCodeSeparators, serScriptCodeGo]
    simp only [getOp, getOpFailRest, strip_nil, List.append_nil, List.length_nil, Nat.sub_zero]
    refine ⟨trivial, ?_⟩
    split
    · simp
    · rename_i h; simp at h; simp [h]
  | @step s t ht _ ih =>
    intro f n pre acc hf
    obtain ⟨f', rfl⟩ : ∃ f', f = f' + 1 := ⟨f - 1, by omega⟩
    obtain ⟨-, -, hb⟩ := instrLen_eq_some_iff.mp ht
    cases s with
    | nil => simp [instrLen] at ht
    | cons b r =>
      have hlen : ((b :: r).drop t).length < f' := by simp only [List.length_drop]; omega
      rw [countCodeSeparators_step ht, serScriptCodeGo_step ht, strip_step ht]
      split
      next h =>
        -- a code separator: what stands before it is written out and the segment starts afresh
        subst h
        cases (instrLen_sep r).symm.trans ht
        have ih' := fun acc' => ih f' (n + 1) [] acc' hlen
        refine ⟨?_, (ih' _).2.trans ?_⟩
        · have h1 := (ih' []).1
          simp only [List.drop_succ_cons, List.drop_zero, List.length_cons] at h1 ⊢
          omega
        · simp only [List.drop_succ_cons, List.drop_zero, List.length_append, List.length_cons, List.append_nil]
          rw [show pre.length + (r.length + 1) - r.length - 1 = pre.length by omega, List.take_left']
          rfl
      next h =>
        obtain ⟨h1, h2⟩ := ih f' n (pre ++ (b :: r).take t) acc hlen
        refine ⟨?_, ?_⟩
        · simp only [List.length_append, List.length_take, List.length_drop] at h1 ⊢
          omega
        · simp only [List.append_assoc, List.take_append_drop] at h2
          rw [h2]; simp [List.append_assoc]

theorem serScriptCode_eq (sc : Bytes) (h : Spec.decode sc ≠ none) :
    serScriptCode sc = serVarBytes (Spec.withoutCodeSeparators sc) := by
  have hp := (SigOps.parses_iff_decode sc).mpr h
  unfold serScriptCode serVarBytes Spec.withoutCodeSeparators Spec.findAndDelete
  obtain ⟨h1, h2⟩ := loops_strip sc hp (sc.length + 1) 0 [] [] (by omega)
  simp only [List.nil_append] at h2
  unfold strip at h1 h2
  rw [h2]
  congr 2
  omega


theorem serVector_of_range {α : Type} (ser : α → Bytes) (l : List α) (f : Nat → Bytes) (n : Nat)
    (hn : l.length = n) (h : ∀ k (hk : k < l.length), f k = ser l[k]) :
    compactSize n ++ (List.range n).flatMap f = serVector ser l := by
  subst hn
  rw [serVector, List.flatMap_def, List.flatMap_def]
  congr 2
  apply List.ext_getElem
  · simp
  · intro k h1 _
    simp only [List.length_map, List.length_range] at h1
    simp [h k h1]

theorem uint256One_eq : uint256One = Spec.one32 := by decide

/-- the copy of the transaction that the specification encodes, input by input -/
private def blank (sc : Bytes) (nIn ht : Nat) (k : Nat) (i : TxIn) : TxIn :=
  { prevout := i.prevout
    scriptSig := if k = nIn then Spec.withoutCodeSeparators sc else []
    sequence := if k ≠ nIn ∧ (Spec.isNone ht ∨ Spec.isSingle ht) then 0 else i.sequence
    witness := [] }

section
variable (tx : Tx) (sc : Bytes) (nIn ht : Nat)

private theorem legacyTxCopy_eq : Spec.legacyTxCopy tx nIn sc ht =
    { version := tx.version,
      vin := if Spec.anyoneCanPay ht then (tx.vin.mapIdx (blank sc nIn ht))[nIn]?.toList else tx.vin.mapIdx (blank sc nIn ht),
      vout := if Spec.isNone ht then []
        else if Spec.isSingle ht then
          (tx.vout.take (nIn + 1)).mapIdx (fun k o => if k = nIn then o else { value := -1, scriptPubKey := [] })
        else tx.vout,
      lockTime := tx.lockTime } := rfl

private theorem serSigInput_eq (k : Nat) (hd : Spec.decode sc ≠ none) :
    serSigInput tx sc nIn ht k =
      serTxIn (blank sc nIn ht (if Spec.anyoneCanPay ht then nIn else k)
        (tx.vin.getD (if Spec.anyoneCanPay ht then nIn else k) default)) := by
  unfold serSigInput blank serTxIn
  simp only [htAnyoneCanPay_eq, htSingle_eq, htNone_eq, decide_eq_true_eq, Bool.or_eq_true, serScriptCode_eq sc hd]
  generalize (if Spec.anyoneCanPay ht then nIn else k) = k'
  by_cases hk : k' = nIn
  · simp [hk]
  · by_cases h2 : Spec.isNone ht ∨ Spec.isSingle ht
    · simp [hk, h2, Or.comm.mp h2, serVarBytes]
    · simp [hk, h2, mt Or.comm.mp h2, serVarBytes]

private theorem sigInputs_eq (hd : Spec.decode sc ≠ none) (hin : nIn < tx.vin.length) :
    compactSize (if htAnyoneCanPay ht = true then 1 else tx.vin.length)
        ++ (List.range (if htAnyoneCanPay ht = true then 1 else tx.vin.length)).flatMap (serSigInput tx sc nIn ht)
      = serVector serTxIn (if Spec.anyoneCanPay ht then (tx.vin.mapIdx (blank sc nIn ht))[nIn]?.toList else tx.vin.mapIdx (blank sc nIn ht)) := by
  rw [htAnyoneCanPay_eq]
  by_cases hacp : Spec.anyoneCanPay ht
  · simp only [hacp, decide_true, if_true, List.getElem?_eq_getElem (show nIn < (tx.vin.mapIdx (blank sc nIn ht)).length by simpa using hin)]
    apply serVector_of_range _ _ _ _ (by rfl)
    intro k hk
    obtain rfl : k = 0 := by simpa using hk
    simp [serSigInput_eq tx sc nIn ht 0 hd, hacp, List.getD_eq_getElem?_getD, List.getElem?_eq_getElem hin]
  · simp only [hacp, decide_false, Bool.false_eq_true, if_false]
    apply serVector_of_range _ _ _ _ (by simp)
    intro k hk
    have hk' : k < tx.vin.length := by simpa using hk
    simp [serSigInput_eq tx sc nIn ht k hd, hacp, List.getD_eq_getElem?_getD, List.getElem?_eq_getElem hk']

private theorem sigOutputs_eq (hs : Spec.isSingle ht → nIn < tx.vout.length) :
    compactSize (if htNone ht = true then 0 else if htSingle ht = true then nIn + 1 else tx.vout.length)
        ++ (List.range (if htNone ht = true then 0 else if htSingle ht = true then nIn + 1 else tx.vout.length)).flatMap (serSigOutput tx nIn ht)
      = serVector serTxOut (if Spec.isNone ht then []
          else if Spec.isSingle ht then (tx.vout.take (nIn + 1)).mapIdx (fun k o => if k = nIn then o else { value := -1, scriptPubKey := [] })
          else tx.vout) := by
  rw [htNone_eq, htSingle_eq]
  by_cases hn : Spec.isNone ht
  · simp [hn, serVector]
  · by_cases hsg : Spec.isSingle ht
    · simp only [hn, hsg, decide_true, decide_false, Bool.false_eq_true, if_false, if_true]
      have hlt := hs hsg
      apply serVector_of_range _ _ _ _ (by simp only [List.length_mapIdx, List.length_take]; omega)
      intro k hk
      have hk' : k < tx.vout.length := by simp only [List.length_mapIdx, List.length_take] at hk; omega
      by_cases hkn : k = nIn
      · simp [serSigOutput, hkn, List.getD_eq_getElem?_getD, List.getElem?_eq_getElem hlt]
      · simp [serSigOutput, htSingle_eq, hsg, hkn]
    · simp only [hn, hsg, decide_false, Bool.false_eq_true, if_false]
      apply serVector_of_range _ _ _ _ (by rfl)
      intro k hk
      simp [serSigOutput, htSingle_eq, hsg, List.getD_eq_getElem?_getD, List.getElem?_eq_getElem hk]

theorem serSigTx_eq (hd : Spec.decode sc ≠ none) (hin : nIn < tx.vin.length)
    (hs : Spec.isSingle ht → nIn < tx.vout.length) :
    serSigTx tx sc nIn ht = Spec.encodeTx (Spec.legacyTxCopy tx nIn sc ht) false := by
  rw [← serTx_eq_encodeTx, legacyTxCopy_eq, serTx_eq, serSigTx]
  have hins := sigInputs_eq tx sc nIn ht hd hin
  have houts := sigOutputs_eq tx nIn ht hs
  simp only [Bool.false_and, Bool.false_eq_true, if_false, List.nil_append]
  simp only [List.append_assoc] at hins houts ⊢
  rw [← hins, ← houts]
  simp only [List.append_assoc]

end

/-- **Legacy digest.**  For every transaction, every existing input, every hash type (all 2^32 and beyond) and every
    script code that decodes, the digest computed by `SignatureHash` (non-witness branch) is the digest of the original
    Bitcoin algorithm, including the SIGHASH_SINGLE "one" digest.  (`_partial`: see the FINDING in the file header for
    script codes that do not decode.) -/
theorem legacySighash_eq_spec_partial (cr : SigCrypto) (sc : Bytes) (tx : Tx) (nIn ht : Nat)
    (hin : nIn < tx.vin.length) (hd : Spec.decode sc ≠ none) :
    legacySighash cr sc tx nIn ht = Spec.legacyDigest cr.sha256 sc tx nIn ht := by
  unfold legacySighash Spec.legacyDigest
  have hc : (htSingle ht && decide (nIn ≥ tx.vout.length)) = true ↔ Spec.isSingle ht ∧ tx.vout.length ≤ nIn := by
    rw [htSingle_eq]; simp
  by_cases h : Spec.isSingle ht ∧ tx.vout.length ≤ nIn
  · rw [if_pos (hc.mpr h), if_pos h, uint256One_eq]
  · rw [if_neg (mt hc.mp h), if_neg h, SigCrypto.hash256,
      serSigTx_eq tx sc nIn ht hd hin fun h1 => Nat.lt_of_not_le fun h2 => h ⟨h1, h2⟩]

theorem signatureHash_legacy (cr : SigCrypto) (sc : Bytes) (tx : Tx) (nIn ht : Nat) (amount : Int) (sv : SigVersion)
    (cache : PrecomputedTxData) (hin : nIn < tx.vin.length) (hd : Spec.decode sc ≠ none) (hsv : sv ≠ .WITNESS_V0) :
    signatureHash cr sc tx nIn ht amount sv cache = .ok (Spec.legacyDigest cr.sha256 sc tx nIn ht) := by
  unfold signatureHash
  have : ¬ (nIn ≥ tx.vin.length) := by omega
  have h2 : (sv == SigVersion.WITNESS_V0) = false := by cases sv <;> simp_all
  simp [this, h2, legacySighash_eq_spec_partial cr sc tx nIn ht hin hd]


theorem prevoutsBytes_eq (tx : Tx) : prevoutsBytes tx = (tx.vin.map (fun i => Spec.encodeOutPoint i.prevout)).flatten := by
  simp [prevoutsBytes, List.flatMap_def, serOutPoint, Spec.encodeOutPoint]

theorem sequencesBytes_eq (tx : Tx) : sequencesBytes tx = (tx.vin.map (fun i => leFixed 4 i.sequence)).flatten := by
  simp [sequencesBytes, List.flatMap_def]

theorem outputsBytes_eq (tx : Tx) : outputsBytes tx = (tx.vout.map Spec.encodeOut).flatten := by
  simp [outputsBytes, List.flatMap_def, encodeOut_eq]

theorem spentAmountsBytes_eq (spent : List TxOut) :
    spentAmountsBytes spent = (spent.map (fun o => leFixed 8 (Spec.twos 64 o.value))).flatten := by
  simp [spentAmountsBytes, List.flatMap_def, twos_eq]

theorem spentScriptsBytes_eq (spent : List TxOut) :
    spentScriptsBytes spent = (spent.map (fun o => Spec.encodeBytes o.scriptPubKey)).flatten := by
  simp [spentScriptsBytes, List.flatMap_def, encodeBytes_eq]

/-- A `PrecomputedTransactionData` is coherent with a transaction when every field whose ready flag is set holds the
    hash it is documented to hold.  `PrecomputedTransactionData()` is coherent with every transaction, and so is the
    result of `Init` (`precomputeInit_coherent`). -/
structure Coherent (cr : SigCrypto) (tx : Tx) (d : PrecomputedTxData) : Prop where
  h143 : d.bip143SegwitReady = true →
    d.hashPrevouts = cr.sha256 (cr.sha256 (prevoutsBytes tx)) ∧ d.hashSequence = cr.sha256 (cr.sha256 (sequencesBytes tx))
      ∧ d.hashOutputs = cr.sha256 (cr.sha256 (outputsBytes tx))
  h341 : d.bip341TaprootReady = true →
    d.prevoutsSingleHash = cr.sha256 (prevoutsBytes tx) ∧ d.sequencesSingleHash = cr.sha256 (sequencesBytes tx)
      ∧ d.outputsSingleHash = cr.sha256 (outputsBytes tx)
      ∧ d.spentAmountsSingleHash = cr.sha256 (spentAmountsBytes d.spentOutputs)
      ∧ d.spentScriptsSingleHash = cr.sha256 (spentScriptsBytes d.spentOutputs)
  hspent : d.spentOutputsReady = true → d.spentOutputs.length = tx.vin.length

theorem coherent_default (cr : SigCrypto) (tx : Tx) : Coherent cr tx {} :=
  ⟨by simp, by simp, by simp⟩


/-- **BIP143 digest.**  For every transaction, every existing input, every script code, amount and hash type, and every
    coherent cache (none, or the one `Init` made: the cached and the uncached path agree), the digest computed by
    `SignatureHash` for `SigVersion::WITNESS_V0` is the BIP143 digest. -/
theorem bip143Sighash_eq_spec (cr : SigCrypto) (sc : Bytes) (tx : Tx) (nIn ht : Nat) (amount : Int) (cache : PrecomputedTxData)
    (hin : nIn < tx.vin.length) (hc : Coherent cr tx cache) :
    bip143Sighash cr sc tx nIn ht amount cache = Spec.bip143Digest cr.sha256 sc tx nIn ht amount := by
  unfold bip143Sighash Spec.bip143Digest
  have hP := ite_eq_right_iff.mpr fun h => (hc.h143 h).1
  have hS := ite_eq_right_iff.mpr fun h => (hc.h143 h).2.1
  have hO := ite_eq_right_iff.mpr fun h => (hc.h143 h).2.2
  simp only [hP, hS, hO]
  simp only [List.getElem?_eq_getElem hin, List.getD_eq_getElem?_getD, Option.getD_some,
    prevoutsBytes_eq, sequencesBytes_eq, outputsBytes_eq, SigCrypto.hash256, twos_eq, encodeBytes_eq,
    htAnyoneCanPay_eq, htSingle_eq, htNone_eq]
  have e1 : serOutPoint tx.vin[nIn].prevout = Spec.encodeOutPoint tx.vin[nIn].prevout := rfl
  have ez : zero32 = Spec.zeros32 := rfl
  rw [e1, ez]
  -- the conditions on the hash type bits become those of the specification; only the single output is looked at by cases
  simp only [Bool.and_eq_true, Bool.not_eq_true', decide_eq_false_iff_not, decide_eq_true_eq, and_assoc, ite_not,
    encodeOut_eq]
  by_cases hs : Spec.isSingle ht
  · by_cases hlt : nIn < tx.vout.length <;> simp [hs, hlt]
  · simp [hs]

theorem signatureHash_v0 (cr : SigCrypto) (sc : Bytes) (tx : Tx) (nIn ht : Nat) (amount : Int)
    (cache : PrecomputedTxData) (hin : nIn < tx.vin.length) (hc : Coherent cr tx cache) :
    signatureHash cr sc tx nIn ht amount .WITNESS_V0 cache = .ok (Spec.bip143Digest cr.sha256 sc tx nIn ht amount) := by
  unfold signatureHash
  have : ¬ (nIn ≥ tx.vin.length) := by omega
  simp [this, bip143Sighash_eq_spec cr sc tx nIn ht amount cache hin hc]


/-- the spent output paired with the input at the head of the remaining lists looks like taproot -/
def headTap : List TxOut → Bool
  | o :: _ => looksTaproot o
  | [] => false

/-- some input carries a witness and is not recognised as a taproot spend (closed form of `uses_bip143_segwit`) -/
def uses143 (spentReady : Bool) : List TxIn → List TxOut → Bool
  | [], _ => false
  | i :: is, sp => (!i.witness.isEmpty && !(spentReady && headTap sp)) || uses143 spentReady is sp.tail

/-- some input carries a witness and its spent output is a 34-byte script starting with OP_1, the spent outputs
    being known (closed form of `uses_bip341_taproot`) -/
def uses341 (spentReady : Bool) : List TxIn → List TxOut → Bool
  | [], _ => false
  | i :: is, sp => (!i.witness.isEmpty && (spentReady && headTap sp)) || uses341 spentReady is sp.tail

theorem scanUses_eq (ready : Bool) (vin : List TxIn) : ∀ (sp : List TxOut) (a b : Bool),
    scanUses ready vin sp a b = (a || uses143 ready vin sp, b || uses341 ready vin sp) := by
  induction vin with
  | nil => intro sp a b; simp [scanUses, uses143, uses341]
  | cons i is ih =>
    intro sp a b
    unfold scanUses
    by_cases hab : (a && b) = true
    · simp only [hab, if_true]
      simp only [Bool.and_eq_true] at hab
      simp [hab.1, hab.2]
    · simp only [hab, Bool.false_eq_true, if_false]
      rw [ih]
      cases sp with
      | nil =>
        simp only [uses143, uses341, headTap]
        cases hw : i.witness.isEmpty <;> cases hr : ready <;> cases a <;> cases b <;> simp
      | cons o sp' =>
        simp only [uses143, uses341, headTap]
        cases hw : i.witness.isEmpty <;> cases hr : ready <;> cases a <;> cases b <;>
          rcases Bool.eq_false_or_eq_true (looksTaproot o) with ht | ht <;> simp [ht]

theorem headTap_iff (sp : List TxOut) : headTap sp = true ↔ ∃ o, sp[0]? = some o ∧ looksTaproot o = true := by
  cases sp <;> simp [headTap]

/-- a scan over the inputs and, in step, their spent outputs, for a witness-bearing input whose place in the spent
    outputs passes a test: it finds one iff there is one -/
theorem scan_iff (u : List TxIn → List TxOut → Bool) (t : List TxOut → Bool) (Q : Option TxOut → Prop)
    (hnil : ∀ sp, u [] sp = false)
    (hcons : ∀ i is sp, u (i :: is) sp = ((!i.witness.isEmpty && t sp) || u is sp.tail))
    (ht : ∀ sp, t sp = true ↔ Q sp[0]?) (vin : List TxIn) :
    ∀ sp, u vin sp = true ↔ ∃ (k : Nat) (i : TxIn), vin[k]? = some i ∧ i.witness ≠ [] ∧ Q sp[k]? := by
  induction vin with
  | nil => intro sp; simp [hnil]
  | cons i is ih =>
    intro sp
    have hw : (!i.witness.isEmpty) = true ↔ i.witness ≠ [] := by simp
    rw [hcons, Bool.or_eq_true, Bool.and_eq_true, hw, ht, ih]
    constructor
    · rintro (⟨h1, h2⟩ | ⟨k, i', h1, h2, h3⟩)
      · exact ⟨0, i, rfl, h1, h2⟩
      · exact ⟨k + 1, i', h1, h2, by simpa using h3⟩
    · rintro ⟨k, i', h1, h2, h3⟩
      cases k with
      | zero => cases h1; exact .inl ⟨h2, h3⟩
      | succ k => exact .inr ⟨k, i', h1, h2, by simpa using h3⟩

/-- in words: `uses341` holds iff the spent outputs are known and some input `k` has a non-empty witness and a
    taproot-looking spent output -/
theorem uses341_iff (ready : Bool) (vin : List TxIn) : ∀ (sp : List TxOut),
    uses341 ready vin sp = true ↔
      ready = true ∧ ∃ (k : Nat) (i : TxIn) (o : TxOut), vin[k]? = some i ∧ sp[k]? = some o ∧ i.witness ≠ [] ∧ looksTaproot o = true := by
  intro sp
  rw [scan_iff (uses341 ready) (fun sp => ready && headTap sp)
    (fun x => ready = true ∧ ∃ o, x = some o ∧ looksTaproot o = true) (fun _ => rfl) (fun _ _ _ => rfl)
    (fun sp => by rw [Bool.and_eq_true, headTap_iff])]
  constructor
  · rintro ⟨k, i, h1, h2, hr, o, h3, h4⟩
    exact ⟨hr, k, i, o, h1, h3, h2, h4⟩
  · rintro ⟨hr, k, i, o, h1, h3, h2, h4⟩
    exact ⟨k, i, h1, h2, hr, o, h3, h4⟩

/-- in words: `uses143` holds iff some input `k` has a non-empty witness and is not recognised as a taproot spend
    (spent outputs unknown, or no spent output at that position, or not taproot-looking) -/
theorem uses143_iff (ready : Bool) (vin : List TxIn) : ∀ (sp : List TxOut),
    uses143 ready vin sp = true ↔
      ∃ (k : Nat) (i : TxIn), vin[k]? = some i ∧ i.witness ≠ [] ∧ ¬ (ready = true ∧ ∃ (o : TxOut), sp[k]? = some o ∧ looksTaproot o = true) :=
  scan_iff (uses143 ready) (fun sp => !(ready && headTap sp))
    (fun x => ¬ (ready = true ∧ ∃ o, x = some o ∧ looksTaproot o = true)) (fun _ => rfl) (fun _ _ _ => rfl)
    (fun sp => by rw [Bool.not_eq_true', ← Bool.not_eq_true, Bool.and_eq_true, headTap_iff]) vin

section
variable (cr : SigCrypto) (tx : Tx) (spent : List TxOut) (force : Bool) (d : PrecomputedTxData)

theorem precomputeInit_ok :
    (∃ d, precomputeInit cr tx spent force = .ok d) ↔ (spent = [] ∨ spent.length = tx.vin.length) := by
  unfold precomputeInit
  by_cases h : spent = []
  · simp [h]
  · by_cases h2 : spent.length = tx.vin.length
    · simp [h, h2]
    · simp [h, h2]

theorem precomputeInit_spec (h : precomputeInit cr tx spent force = .ok d) :
    (d.spentOutputs = spent ∧ d.spentOutputsReady = !spent.isEmpty
      ∧ d.bip143SegwitReady = (force || uses143 (!spent.isEmpty) tx.vin spent)
      ∧ d.bip341TaprootReady = (force || uses341 (!spent.isEmpty) tx.vin spent)) ∧ Coherent cr tx d := by
  unfold precomputeInit at h
  split at h
  · cases h
  · rename_i hne
    simp only [scanUses_eq, Except.ok.injEq] at h
    subst h
    have hlen : spent.isEmpty = false → spent.length = tx.vin.length := by
      intro he
      simp only [he, Bool.not_false, Bool.true_and, ne_eq, decide_not, Bool.not_eq_true', decide_eq_false_iff_not] at hne
      omega
    cases h1 : (force || uses143 (!spent.isEmpty) tx.vin spent) <;>
      cases h2 : (force || uses341 (!spent.isEmpty) tx.vin spent) <;>
      refine ⟨by simp, ?_, ?_, ?_⟩ <;> simp <;> intro he <;> exact hlen (by simpa using he)

/-- **Readiness after `Init`.**  `m_spent_outputs_ready` iff spent outputs were given; `m_bip143_segwit_ready` iff `force`
    or some witness-bearing input is not recognised as taproot; `m_bip341_taproot_ready` iff `force` or some witness-bearing
    input spends a taproot-looking output (which needs the spent outputs). -/
theorem precomputeInit_flags (h : precomputeInit cr tx spent force = .ok d) :
    d.spentOutputs = spent ∧ d.spentOutputsReady = !spent.isEmpty
      ∧ d.bip143SegwitReady = (force || uses143 (!spent.isEmpty) tx.vin spent)
      ∧ d.bip341TaprootReady = (force || uses341 (!spent.isEmpty) tx.vin spent) :=
  (precomputeInit_spec cr tx spent force d h).1

theorem precomputeInit_coherent (h : precomputeInit cr tx spent force = .ok d) : Coherent cr tx d :=
  (precomputeInit_spec cr tx spent force d h).2

end

/-- **Single input (what btcdeb supports).**  For a transaction with one input whose spent output is supplied, `Init`
    succeeds and the BIP341 data is ready as soon as `force` is set (btcdeb: `has_preamble`, i.e. key path spends) or the
    input has a witness and the spent output looks like taproot (script path spends). -/
theorem precomputeInit_single_input_ready (cr : SigCrypto) (tx : Tx) (i : TxIn) (o : TxOut) (force : Bool)
    (hv : tx.vin = [i]) (hr : force = true ∨ (i.witness ≠ [] ∧ looksTaproot o = true)) :
    ∃ d, precomputeInit cr tx [o] force = .ok d ∧ d.bip341TaprootReady = true ∧ d.spentOutputsReady = true
      ∧ d.spentOutputs = [o] ∧ Coherent cr tx d := by
  obtain ⟨d, hd⟩ := (precomputeInit_ok cr tx [o] force).mpr (Or.inr (by simp [hv]))
  obtain ⟨h1, h2, _, h4⟩ := precomputeInit_flags cr tx [o] force d hd
  refine ⟨d, hd, ?_, by simp [h2], h1, precomputeInit_coherent cr tx [o] force d hd⟩
  rw [h4, hv]
  rcases hr with hf | ⟨hw, ht⟩
  · simp [hf]
  · have : i.witness.isEmpty = false := by cases hw' : i.witness <;> simp_all
    simp [uses341, headTap, ht, this]

/-- `Instance::setup_environment` for a single-input transaction: the same conclusion for `Instance::txdata` -/
theorem instanceTxData_single_ready (cr : SigCrypto) (tx : Tx) (i : TxIn) (o : TxOut) (hasPreamble : Bool)
    (hv : tx.vin = [i]) (hr : hasPreamble = true ∨ (i.witness ≠ [] ∧ looksTaproot o = true)) :
    ∃ d, instanceTxData cr tx o hasPreamble = .ok d ∧ d.bip341TaprootReady = true ∧ d.spentOutputsReady = true
      ∧ d.spentOutputs = [o] ∧ Coherent cr tx d := by
  unfold instanceTxData
  simp only [hv, List.length_singleton, if_true]
  exact precomputeInit_single_input_ready cr tx i o hasPreamble hv hr

/-- **btcdeb's deviation.**  For a transaction with any other number of inputs `Instance::setup_environment` leaves
    `txdata` default-constructed: nothing is ready, whatever the inputs are. -/
theorem instanceTxData_multi_input_not_ready (cr : SigCrypto) (tx : Tx) (o : TxOut) (hasPreamble : Bool)
    (hv : tx.vin.length ≠ 1) :
    instanceTxData cr tx o hasPreamble = .ok {} ∧ ({} : PrecomputedTxData).bip341TaprootReady = false
      ∧ ({} : PrecomputedTxData).bip143SegwitReady = false ∧ ({} : PrecomputedTxData).spentOutputsReady = false := by
  unfold instanceTxData
  simp [hv]

/-- `calcSighashTxData`, the `Init` call of `Instance::calc_sighash` with the one spent output btcdeb knows, ends on
    `Init`'s assertion for every transaction that does not have exactly one input.  A statement about this sub-function
    only: `Model.calcSighash` refuses such a transaction with `.inputCount` before it gets here. -/
theorem calcSighashTxData_multi_input_aborts (cr : SigCrypto) (tx : Tx) (o : TxOut) (hasPreamble : Bool)
    (hv : tx.vin.length ≠ 1) :
    calcSighashTxData cr tx o hasPreamble = .error (.abnormal "assert(m_spent_outputs.size() == txTo.vin.size())") := by
  unfold calcSighashTxData precomputeInit
  have : ¬ (1 = tx.vin.length) := fun h => hv h.symm
  simp [this]


/-- what `SignatureHashSchnorr` expects of the `ScriptExecutionData` it is given, in terms of the specification's
    inputs: the annex fields describe `annex`, the tapscript fields describe `ext` (and the signature version says which
    of the two messages is wanted), and a cached single-output hash, if any, is the hash of the output at this index. -/
structure SchnorrPre (cr : SigCrypto) (ed : ExecData) (tx : Tx) (nIn : Nat) (annex : Option Bytes) (ext : Option Spec.TapExt)
    (sv : SigVersion) : Prop where
  annexInit : ed.annexInit = true
  annexPresent : ed.annexPresent = annex.isSome
  annexHash : ∀ a, annex = some a → ed.annexHash = cr.sha256 (serVarBytes a)
  extOk : match ext with
    | none => sv = .TAPROOT
    | some e => sv = .TAPSCRIPT ∧ ed.tapleafHashInit = true ∧ ed.tapleafHash = e.leafHash
        ∧ ed.codesepPosInit = true ∧ ed.codesepPos = e.codesepPos
  outCache : ed.outputHash = none ∨ ∃ o, tx.vout[nIn]? = some o ∧ ed.outputHash = some (cr.sha256 (serTxOut o))

private theorem tapTypes (ht : Nat) (hv : Spec.tapHashTypeValid ht) :
    ((ht &&& Gen.SIGHASH_INPUT_MASK = Gen.SIGHASH_ANYONECANPAY) ↔ Spec.anyoneCanPay ht)
    ∧ ((if ht = Gen.SIGHASH_DEFAULT then Gen.SIGHASH_ALL else ht &&& Gen.SIGHASH_OUTPUT_MASK) = Gen.SIGHASH_ALL ↔ ¬ (ht % 4 = 2 ∨ ht % 4 = 3))
    ∧ ((if ht = Gen.SIGHASH_DEFAULT then Gen.SIGHASH_ALL else ht &&& Gen.SIGHASH_OUTPUT_MASK) = Gen.SIGHASH_SINGLE ↔ ht % 4 = 3)
    ∧ (!(decide (ht ≤ 3) || (decide (ht ≥ 0x81) && decide (ht ≤ 0x83)))) = false := by
  unfold Spec.anyoneCanPay
  rcases hv with rfl | rfl | rfl | rfl | rfl | rfl | rfl <;> decide

private theorem tapInvalid (ht : Nat) (hv : ¬ Spec.tapHashTypeValid ht) :
    (!(decide (ht ≤ 3) || (decide (ht ≥ 0x81) && decide (ht ≤ 0x83)))) = true := by
  unfold Spec.tapHashTypeValid at hv
  have : ¬ (ht ≤ 3) ∧ ¬ (ht ≥ 0x81 ∧ ht ≤ 0x83) := by omega
  simp [this.1]
  omega

theorem tapSighashTag_eq : tapSighashTag = Spec.tapSighashTag := by decide

/-- **The BIP341 message in the serialiser's vocabulary**, for an input that exists with its spent output: the byte
    strings that the midstate functions hash, `serTxOut` of the spent / single output, the optional parts as
    `Option.elim`. -/
theorem bip341SigMsg_eq (sha : Bytes → Bytes) (tx : Tx) (nIn ht : Nat) (spent : List TxOut) (annex : Option Bytes)
    (ext : Option Spec.TapExt) (hin : nIn < tx.vin.length) (hsp : nIn < spent.length) :
    Spec.bip341SigMsg sha tx nIn ht spent annex ext =
      [UInt8.ofNat ht] ++ leFixed 4 (ofSigned 32 tx.version) ++ leFixed 4 tx.lockTime
        ++ (if Spec.anyoneCanPay ht then [] else
              sha (prevoutsBytes tx) ++ sha (spentAmountsBytes spent) ++ sha (spentScriptsBytes spent)
                ++ sha (sequencesBytes tx))
        ++ (if ht % 4 = 2 ∨ ht % 4 = 3 then [] else sha (outputsBytes tx))
        ++ [UInt8.ofNat ((if ext.isSome then 1 else 0) * 2 + (if annex.isSome then 1 else 0))]
        ++ (if Spec.anyoneCanPay ht then
              serOutPoint tx.vin[nIn].prevout ++ serTxOut spent[nIn] ++ leFixed 4 tx.vin[nIn].sequence
            else leFixed 4 nIn)
        ++ annex.elim [] (fun a => sha (serVarBytes a))
        ++ (if ht % 4 = 3 then tx.vout[nIn]?.elim [] (fun o => sha (serTxOut o)) else [])
        ++ ext.elim [] (fun e => e.leafHash ++ [0x00] ++ leFixed 4 e.codesepPos) := by
  simp only [Spec.bip341SigMsg, prevoutsBytes_eq, sequencesBytes_eq, outputsBytes_eq, spentAmountsBytes_eq,
    spentScriptsBytes_eq, twos_eq, List.getElem?_eq_getElem hin, List.getElem?_eq_getElem hsp, serOutPoint,
    Spec.encodeOutPoint, encodeOut_eq, encodeBytes_eq]
  cases annex <;> cases ext <;> cases tx.vout[nIn]? <;> rfl

private theorem pre_ext_none {cr : SigCrypto} {ed : ExecData} {tx : Tx} {nIn : Nat} {annex : Option Bytes} {sv : SigVersion}
    (hp : SchnorrPre cr ed tx nIn annex none sv) : sv = .TAPROOT := hp.extOk

private theorem pre_ext_some {cr : SigCrypto} {ed : ExecData} {tx : Tx} {nIn : Nat} {annex : Option Bytes} {sv : SigVersion}
    {e : Spec.TapExt} (hp : SchnorrPre cr ed tx nIn annex (some e) sv) :
    sv = .TAPSCRIPT ∧ ed.tapleafHashInit = true ∧ ed.tapleafHash = e.leafHash ∧ ed.codesepPosInit = true
      ∧ ed.codesepPos = e.codesepPos := hp.extOk

private theorem pre_sv {cr : SigCrypto} {ed : ExecData} {tx : Tx} {nIn : Nat} {annex : Option Bytes} {ext : Option Spec.TapExt}
    {sv : SigVersion} (hp : SchnorrPre cr ed tx nIn annex ext sv) : ¬ (sv ≠ .TAPROOT ∧ sv ≠ .TAPSCRIPT) := by
  cases ext with
  | none => simp [pre_ext_none hp]
  | some e => simp [(pre_ext_some hp).1]

/-- **BIP341/BIP342 digest.**  With the BIP341 data and the spent outputs ready and coherent, for every transaction, every
    existing input, every hash type byte, annex, and (for tapscript) leaf hash and code separator position,
    `SignatureHashSchnorr` returns true with the BIP341 digest exactly when BIP341 defines a message, and false otherwise
    (undefined hash type; SIGHASH_SINGLE without a corresponding output).  It never asserts.  The single-output hash
    cache it leaves behind is again coherent. -/
theorem schnorrSighashM_eq_spec (cr : SigCrypto) (ed : ExecData) (tx : Tx) (nIn ht : Nat) (sv : SigVersion)
    (cache : PrecomputedTxData) (mdb : MissingDataBehavior) (annex : Option Bytes) (ext : Option Spec.TapExt)
    (hin : nIn < tx.vin.length) (hc : Coherent cr tx cache)
    (hr1 : cache.bip341TaprootReady = true) (hr2 : cache.spentOutputsReady = true)
    (hp : SchnorrPre cr ed tx nIn annex ext sv) :
    ∃ oh, schnorrSighashM cr ed tx nIn ht sv cache mdb =
        .ok (if Spec.bip341Defined tx nIn ht
              then some (Spec.bip341Digest cr.sha256 tx nIn ht cache.spentOutputs annex ext) else none, oh)
      ∧ (oh = none ∨ ∃ o, tx.vout[nIn]? = some o ∧ oh = some (cr.sha256 (serTxOut o))) := by
  obtain ⟨c1, c2, c3, c4, c5⟩ := hc.h341 hr1
  have hsp : nIn < cache.spentOutputs.length := by have := hc.hspent hr2; omega
  have hnot : ¬ (nIn ≥ tx.vin.length) := by omega
  have hs6 : (if annex.isSome = true then ed.annexHash else []) = annex.elim [] fun a => cr.sha256 (serVarBytes a) := by
    cases annex with
    | none => rfl
    | some a => simp [hp.annexHash a rfl]
  unfold schnorrSighashM
  simp only [pre_sv hp, if_false, hnot, hr1, hr2, Bool.and_self, Bool.not_true, Bool.false_eq_true, hp.annexInit]
  by_cases hv : Spec.tapHashTypeValid ht
  · obtain ⟨t1, t2, t3, t4⟩ := tapTypes ht hv
    simp only [t4, Bool.false_eq_true, if_false, t3]
    by_cases hbad : ht % 4 = 3 ∧ nIn ≥ tx.vout.length
    · refine ⟨ed.outputHash, ?_, hp.outCache⟩
      rw [if_pos hbad, if_neg (fun h => by have := h.2 hbad.1; omega)]
    · rw [if_neg hbad]
      have hdef : Spec.bip341Defined tx nIn ht := ⟨hv, fun h3 => by omega⟩
      -- the hash of the single output: cached in the execution data or computed now, either way that of `vout[nIn]`
      have hs7 : ht % 4 = 3 → ∃ o, tx.vout[nIn]? = some o
          ∧ ed.outputHash.getD (cr.sha256 (serTxOut (tx.vout.getD nIn default))) = cr.sha256 (serTxOut o) := by
        intro h3
        have hout : tx.vout[nIn]? = some tx.vout[nIn] := List.getElem?_eq_getElem (by omega)
        refine ⟨_, hout, ?_⟩
        rcases hp.outCache with h | ⟨o, ho1, ho2⟩
        · simp [h, List.getD_eq_getElem?_getD, hout]
        · rw [hout] at ho1; cases ho1; simp [ho2]
      generalize ed.outputHash.getD (cr.sha256 (serTxOut (tx.vout.getD nIn default))) = oV at hs7 ⊢
      refine ⟨if ht % 4 = 3 then some oV else ed.outputHash, ?_, ?_⟩
      · rw [if_pos hdef, Spec.bip341Digest, Spec.tagged, bip341SigMsg_eq _ _ _ _ _ _ _ hin hsp, ← tapSighashTag_eq]
        simp only [ne_eq, t1, t2, ite_not, c1, c2, c3, c4, c5, hp.annexPresent, hs6, List.getD_eq_getElem?_getD,
          List.getElem?_eq_getElem hin, List.getElem?_eq_getElem hsp, Option.getD_some]
        have hs7' : (if ht % 4 = 3 then tx.vout[nIn]?.elim [] (fun o => cr.sha256 (serTxOut o)) else [])
            = if ht % 4 = 3 then oV else [] := by
          split
          · obtain ⟨o, h1, h2⟩ := hs7 ‹_›
            rw [h1, h2]; rfl
          · rfl
        rw [hs7']
        cases ext with
        | none =>
          obtain rfl := pre_ext_none hp
          simp only [tapSighashOf, Option.elim_none, Option.isSome_none, List.append_nil, List.append_assoc,
            show (SigVersion.TAPROOT == SigVersion.TAPSCRIPT) = false from rfl, Bool.false_eq_true, if_false]
        | some e =>
          obtain ⟨rfl, e1, e2, e3, e4⟩ := pre_ext_some hp
          simp only [tapSighashOf, Option.elim_some, Option.isSome_some, List.append_assoc, e1, e2, e3, e4,
            show (SigVersion.TAPSCRIPT == SigVersion.TAPSCRIPT) = true from rfl, Bool.not_true, Bool.false_eq_true,
            if_false, if_true]
      · split
        · obtain ⟨o, h1, h2⟩ := hs7 ‹_›
          exact .inr ⟨o, h1, by rw [h2]⟩
        · exact hp.outCache
  · have hndef : ¬ Spec.bip341Defined tx nIn ht := fun h => hv h.1
    refine ⟨ed.outputHash, ?_, hp.outCache⟩
    simp [tapInvalid ht hv, hndef]

/-- the projection `schnorrSighash` (`MissingDataBehavior::FAIL`, as btcdeb uses it): `some digest` exactly when BIP341
    defines a message -/
theorem schnorrSighash_eq_spec (cr : SigCrypto) (ed : ExecData) (tx : Tx) (nIn ht : Nat) (sv : SigVersion)
    (cache : PrecomputedTxData) (annex : Option Bytes) (ext : Option Spec.TapExt)
    (hin : nIn < tx.vin.length) (hc : Coherent cr tx cache)
    (hr1 : cache.bip341TaprootReady = true) (hr2 : cache.spentOutputsReady = true)
    (hp : SchnorrPre cr ed tx nIn annex ext sv) :
    schnorrSighash cr ed tx nIn ht sv cache =
      if Spec.bip341Defined tx nIn ht then some (Spec.bip341Digest cr.sha256 tx nIn ht cache.spentOutputs annex ext) else none := by
  obtain ⟨oh, h, _⟩ := schnorrSighashM_eq_spec cr ed tx nIn ht sv cache .fail annex ext hin hc hr1 hr2 hp
  simp [schnorrSighash, h]

theorem schnorrSighashM_not_ready (cr : SigCrypto) (ed : ExecData) (tx : Tx) (nIn ht : Nat) (sv : SigVersion)
    (cache : PrecomputedTxData) (hsv : ¬ (sv ≠ .TAPROOT ∧ sv ≠ .TAPSCRIPT)) (hin : nIn < tx.vin.length)
    (h : ¬ (cache.bip341TaprootReady = true ∧ cache.spentOutputsReady = true)) :
    schnorrSighashM cr ed tx nIn ht sv cache .fail = .ok (none, ed.outputHash) := by
  have hnr : (!(cache.bip341TaprootReady && cache.spentOutputsReady)) = true := by
    cases h1 : cache.bip341TaprootReady <;> cases h2 : cache.spentOutputsReady <;> simp_all
  have hnot : ¬ (nIn ≥ tx.vin.length) := by omega
  unfold schnorrSighashM
  simp [hsv, hnot, hnr, handleMissingData]

/-- **Missing data.**  If the BIP341 data or the spent outputs are not ready, `SignatureHashSchnorr` (with
    `MissingDataBehavior::FAIL`) yields no digest, whatever the other arguments are. -/
theorem schnorrSighash_not_ready (cr : SigCrypto) (ed : ExecData) (tx : Tx) (nIn ht : Nat) (sv : SigVersion)
    (cache : PrecomputedTxData) (h : ¬ (cache.bip341TaprootReady = true ∧ cache.spentOutputsReady = true)) :
    schnorrSighash cr ed tx nIn ht sv cache = none := by
  unfold schnorrSighash
  by_cases h1 : sv ≠ SigVersion.TAPROOT ∧ sv ≠ SigVersion.TAPSCRIPT
  · simp [schnorrSighashM, h1]
  · by_cases h2 : nIn ≥ tx.vin.length
    · simp [schnorrSighashM, h1, h2]
    · rw [schnorrSighashM_not_ready cr ed tx nIn ht sv cache h1 (by omega) h]

/-- **Exactly the documented failure cases.**  For an existing input, a coherent cache and well-formed execution data,
    `SignatureHashSchnorr` fails iff data is missing, or the hash type is undefined, or the hash type is SIGHASH_SINGLE and
    there is no output at the input's index. -/
theorem schnorrSighash_none_iff (cr : SigCrypto) (ed : ExecData) (tx : Tx) (nIn ht : Nat) (sv : SigVersion)
    (cache : PrecomputedTxData) (annex : Option Bytes) (ext : Option Spec.TapExt)
    (hin : nIn < tx.vin.length) (hc : Coherent cr tx cache) (hp : SchnorrPre cr ed tx nIn annex ext sv) :
    schnorrSighash cr ed tx nIn ht sv cache = none ↔
      (¬ (cache.bip341TaprootReady = true ∧ cache.spentOutputsReady = true) ∨ ¬ Spec.tapHashTypeValid ht
        ∨ (ht % 4 = 3 ∧ tx.vout.length ≤ nIn)) := by
  by_cases hr : cache.bip341TaprootReady = true ∧ cache.spentOutputsReady = true
  · rw [schnorrSighash_eq_spec cr ed tx nIn ht sv cache annex ext hin hc hr.1 hr.2 hp]
    unfold Spec.bip341Defined
    by_cases hv : Spec.tapHashTypeValid ht
    · by_cases hs : ht % 4 = 3
      · by_cases hl : nIn < tx.vout.length
        · simp [hr, hv, hs, hl]
        · simp [hr, hv, hs, hl]; omega
      · simp [hr, hv, hs]
    · simp [hr, hv]
  · simp [schnorrSighash_not_ready cr ed tx nIn ht sv cache hr, hr]

/-- consequence for a btcdeb session on a transaction with several inputs: no taproot digest can be computed -/
theorem schnorrSighash_multi_input_instance (cr : SigCrypto) (ed : ExecData) (tx : Tx) (nIn ht : Nat) (sv : SigVersion)
    (o : TxOut) (hasPreamble : Bool) (hv : tx.vin.length ≠ 1) :
    ∃ d, instanceTxData cr tx o hasPreamble = .ok d ∧ schnorrSighash cr ed tx nIn ht sv d = none := by
  refine ⟨{}, (instanceTxData_multi_input_not_ready cr tx o hasPreamble hv).1, ?_⟩
  exact schnorrSighash_not_ready cr ed tx nIn ht sv {} (by simp)


theorem cpubkeyIsValid_eq (k : Bytes) : cpubkeyIsValid k = decide (Spec.secShape k) := by
  cases k with
  | nil => simp [cpubkeyIsValid, Spec.secShape]
  | cons h r =>
    simp only [cpubkeyIsValid, Spec.secShape, List.length_cons, List.headD_cons]
    by_cases h2 : h.toNat = 2
    · simp [h2, Bool.beq_eq_decide_eq]
    · by_cases h3 : h.toNat = 3
      · simp [h3, Bool.beq_eq_decide_eq]
      · by_cases h4 : h.toNat = 4
        · simp [h4, Bool.beq_eq_decide_eq]
        · by_cases h6 : h.toNat = 6
          · simp [h6, Bool.beq_eq_decide_eq]
          · by_cases h7 : h.toNat = 7
            · simp [h7, Bool.beq_eq_decide_eq]
            · simp [h2, h3, h4, h6, h7]

/-- **ECDSA signatures.**  `CheckECDSASignature` accepts exactly the signatures that are valid ECDSA signatures by a key
    of SEC shape over the BIP-defined digest for the signature's hash type byte: BIP143 for witness v0 (which needs a
    non-negative amount), the original digest otherwise (there for a script code that decodes: the FINDING in the file
    header).  It never asserts for an existing input. -/
theorem checkECDSA_eq_spec (cr : SigCrypto) (tx : Tx) (nIn : Nat) (amount : Int) (txdata : PrecomputedTxData)
    (sig key sc : Bytes) (sv : SigVersion) (hin : nIn < tx.vin.length) (hc : Coherent cr tx txdata)
    (hd : sv ≠ .WITNESS_V0 → Spec.decode sc ≠ none) :
    checkECDSASignatureM cr tx nIn amount txdata .fail sig key sc sv =
      .ok (Spec.ecdsaSigValid cr.sha256 cr.ecdsaVerify tx nIn amount sig key sc sv) := by
  unfold checkECDSASignatureM Spec.ecdsaSigValid
  rw [cpubkeyIsValid_eq]
  by_cases hk : Spec.secShape key
  · cases hl : sig.getLast? with
    | none =>
      have : sig = [] := by simpa using hl
      simp [hk, this]
    | some htb =>
      have hne : sig.isEmpty = false := by
        cases sig with
        | nil => simp at hl
        | cons _ _ => rfl
      simp only [hk, decide_true, Bool.not_true, Bool.false_eq_true, if_false, hne, Option.getD_some, Bool.true_and]
      by_cases hsv : sv = .WITNESS_V0
      · subst hsv
        by_cases ha : amount < 0
        · have : ¬ (0 ≤ amount) := by omega
          simp [ha, this, handleMissingData]
        · have : 0 ≤ amount := by omega
          simp [ha, this, signatureHash_v0 cr sc tx nIn htb.toNat amount txdata hin hc]
      · have h2 : (sv == SigVersion.WITNESS_V0) = false := by cases sv <;> simp_all
        simp [h2, hsv, signatureHash_legacy cr sc tx nIn htb.toNat amount sv txdata hin (hd hsv) hsv]
  · cases hl : sig.getLast? <;> simp [hk]

theorem bip341Defined_default (tx : Tx) (nIn : Nat) : Spec.bip341Defined tx nIn 0 :=
  ⟨Or.inl rfl, by intro h; cases h⟩

theorem schnorrSigValid_64 (sha256 : Bytes → Bytes) (verify : Bytes → Bytes → Bytes → Bool) (tx : Tx) (nIn : Nat)
    (spent : List TxOut) (annex : Option Bytes) (ext : Option Spec.TapExt) (sig key : Bytes) (h : sig.length = 64) :
    Spec.schnorrSigValid sha256 verify tx nIn spent annex ext sig key =
      if verify key (Spec.bip341Digest sha256 tx nIn 0 spent annex ext) sig then .ok () else .error .SCHNORR_SIG := by
  unfold Spec.schnorrSigValid
  rw [if_pos h]
  exact if_neg (not_not_intro (bip341Defined_default tx nIn))

/-- **Schnorr signatures.**  With the BIP341 data ready and coherent and execution data as `SchnorrPre` asks,
    `CheckSchnorrSignature` (32-byte key) applies exactly the BIP341 signature validation rules and reports their error
    codes: size (44), hash type incl. undefined message (45), invalid signature (46). -/
theorem checkSchnorr_eq_spec (cr : SigCrypto) (tx : Tx) (nIn : Nat) (txdata : PrecomputedTxData) (mdb : MissingDataBehavior)
    (sig key : Bytes) (sv : SigVersion) (ed : ExecData) (annex : Option Bytes) (ext : Option Spec.TapExt)
    (hin : nIn < tx.vin.length) (hc : Coherent cr tx txdata)
    (hr1 : txdata.bip341TaprootReady = true) (hr2 : txdata.spentOutputsReady = true)
    (hp : SchnorrPre cr ed tx nIn annex ext sv) (hk : key.length = 32) :
    checkSchnorrSignatureM cr tx nIn txdata mdb sig key sv ed =
      (match Spec.schnorrSigValid cr.sha256 cr.schnorrVerify tx nIn txdata.spentOutputs annex ext sig key with
       | .ok () => .ok ()
       | .error e => .error (.script e)) := by
  unfold checkSchnorrSignatureM Spec.schnorrSigValid
  simp only [pre_sv hp, if_false, hk, ne_eq, not_true_eq_false, Gen.SIGHASH_DEFAULT]
  by_cases h64 : sig.length = 64
  · obtain ⟨oh, h, _⟩ := schnorrSighashM_eq_spec cr ed tx nIn 0 sv txdata mdb annex ext hin hc hr1 hr2 hp
    simp only [h64, (by decide : ¬ (64 : Nat) = 65), not_true_eq_false, false_and, if_false, if_true]
    rw [h]
    simp only [bip341Defined_default, if_true, not_true_eq_false, if_false]
    cases cr.schnorrVerify key (Spec.bip341Digest cr.sha256 tx nIn 0 txdata.spentOutputs annex ext) sig <;> simp [fail]
  · by_cases h65 : sig.length = 65
    · simp only [h65, (by decide : ¬ (65 : Nat) = 64), not_false_eq_true, not_true_eq_false, and_false, if_false, if_true, true_and]
      by_cases hz : (sig.getLast?.getD 0).toNat = 0
      · simp [hz, fail]
      · obtain ⟨oh, h, _⟩ := schnorrSighashM_eq_spec cr ed tx nIn (sig.getLast?.getD 0).toNat sv txdata mdb annex ext hin hc hr1 hr2 hp
        simp only [hz, if_false]
        rw [h]
        by_cases hdef : Spec.bip341Defined tx nIn (sig.getLast?.getD 0).toNat
        · simp only [hdef, if_true, not_true_eq_false, if_false]
          cases cr.schnorrVerify key (Spec.bip341Digest cr.sha256 tx nIn (sig.getLast?.getD 0).toNat txdata.spentOutputs annex ext) sig.dropLast <;>
            simp [fail]
        · simp [hdef, fail]
    · simp [h64, h65, fail]

section
variable (cr : SigCrypto) (base : Ctx) (tx : Tx) (nIn : Nat) (amount : Int) (txdata : PrecomputedTxData)

theorem txChecker_checkECDSA (sig key sc : Bytes) (sv : SigVersion) (hin : nIn < tx.vin.length) (hc : Coherent cr tx txdata)
    (hd : sv ≠ .WITNESS_V0 → Spec.decode sc ≠ none) :
    (txCheckerWith cr base tx nIn amount txdata).checkECDSA sig key sc sv =
      Spec.ecdsaSigValid cr.sha256 cr.ecdsaVerify tx nIn amount sig key sc sv := by
  simp [txCheckerWith, checkECDSA_eq_spec cr tx nIn amount txdata sig key sc sv hin hc hd]

theorem txChecker_checkSchnorr (sig key : Bytes) (sv : SigVersion) (ed : ExecData) (annex : Option Bytes) (ext : Option Spec.TapExt)
    (hin : nIn < tx.vin.length) (hc : Coherent cr tx txdata)
    (hr1 : txdata.bip341TaprootReady = true) (hr2 : txdata.spentOutputsReady = true)
    (hp : SchnorrPre cr ed tx nIn annex ext sv) (hk : key.length = 32) :
    (txCheckerWith cr base tx nIn amount txdata).checkSchnorr sig key sv ed =
      (match Spec.schnorrSigValid cr.sha256 cr.schnorrVerify tx nIn txdata.spentOutputs annex ext sig key with
       | .ok () => .ok ()
       | .error e => .error (.script e)) := by
  simp only [txCheckerWith]
  exact checkSchnorr_eq_spec cr tx nIn txdata .fail sig key sv ed annex ext hin hc hr1 hr2 hp hk

theorem txChecker_base_fields :
    (txCheckerWith cr base tx nIn amount txdata).sha256 = base.sha256
      ∧ (txCheckerWith cr base tx nIn amount txdata).ripemd160 = base.ripemd160
      ∧ (txCheckerWith cr base tx nIn amount txdata).sha1 = base.sha1
      ∧ (txCheckerWith cr base tx nIn amount txdata).checkLowS = base.checkLowS := by
  unfold txCheckerWith
  exact ⟨rfl, rfl, rfl, rfl⟩

end

/-- Without ready data (btcdeb with a multi-input transaction) every Schnorr signature of admissible size and hash
    type byte is refused with SCRIPT_ERR_SCHNORR_SIG_HASHTYPE -/
theorem txChecker_checkSchnorr_not_ready (cr : SigCrypto) (base : Ctx) (tx : Tx) (nIn : Nat) (amount : Int)
    (txdata : PrecomputedTxData) (sig key : Bytes) (sv : SigVersion) (ed : ExecData)
    (hin : nIn < tx.vin.length) (hsv : sv = .TAPROOT ∨ sv = .TAPSCRIPT) (hk : key.length = 32)
    (hs : sig.length = 64 ∨ (sig.length = 65 ∧ (sig.getLast?.getD 0).toNat ≠ 0))
    (h : ¬ (txdata.bip341TaprootReady = true ∧ txdata.spentOutputsReady = true)) :
    (txCheckerWith cr base tx nIn amount txdata).checkSchnorr sig key sv ed = .error (.script .SCHNORR_SIG_HASHTYPE) := by
  have hsvOk : ¬ (sv ≠ SigVersion.TAPROOT ∧ sv ≠ SigVersion.TAPSCRIPT) := by
    rcases hsv with h | h <;> simp [h]
  have hM : ∀ ht, schnorrSighashM cr ed tx nIn ht sv txdata .fail = .ok (none, ed.outputHash) :=
    fun ht => schnorrSighashM_not_ready cr ed tx nIn ht sv txdata hsvOk hin h
  simp only [txCheckerWith, checkSchnorrSignatureM, hsvOk, if_false, hk, ne_eq, not_true_eq_false, hM, Gen.SIGHASH_DEFAULT]
  rcases hs with h64 | ⟨h65, hz⟩
  · have : ¬ sig.length = 65 := by omega
    simp [h64, fail]
  · have : ¬ sig.length = 64 := by omega
    simp [h65, hz, fail]


private theorem lockTime_core (L n T : Int) (s F : Nat) :
    (if (!((decide (L < T) && decide (n < T)) || (decide (L ≥ T) && decide (n ≥ T)))) = true then false
      else if n > L then false else if F = s then false else true)
      = decide ((L < T ↔ n < T) ∧ n ≤ L ∧ s ≠ F) := by
  rw [Bool.eq_iff_iff]
  simp only [Bool.if_false_left, Bool.and_eq_true, decide_eq_false_iff_not, decide_eq_true_eq, Bool.and_true,
    Bool.not_eq_eq_eq_not, Bool.not_true, Bool.or_eq_false_iff, Bool.and_eq_false_imp]
  omega

theorem checkLockTime_eq_spec (tx : Tx) (nIn : Nat) (n : Int) (hin : nIn < tx.vin.length) :
    checkLockTimeTx tx nIn n = Spec.bip65Satisfied tx nIn n := by
  unfold checkLockTimeTx Spec.bip65Satisfied
  simp only [List.getD_eq_getElem?_getD, List.getElem?_eq_getElem hin, Option.getD_some]
  exact lockTime_core (tx.lockTime : Int) n (Gen.LOCKTIME_THRESHOLD : Nat) tx.vin[nIn].sequence Gen.SEQUENCE_FINAL

private theorem mask_eq (x : Nat) : x &&& (4194304 ||| 65535) = (x / 4194304 % 2) * 4194304 + x % 65536 := by
  rw [Nat.and_or_distrib_left]
  have a := and_two_pow x 22
  have b := Nat.and_two_pow_sub_one_eq_mod x 16
  simp only [Nat.reducePow, Nat.add_one_sub_one] at a b
  rw [a, b, Nat.testBit_eq_decide_div_mod_eq]
  simp only [Nat.reducePow]
  have hlt : x % 65536 < 2 ^ 22 := by omega
  by_cases h : x / 4194304 % 2 = 1
  · have := Nat.two_pow_add_eq_or_of_lt hlt 1
    simp only [Nat.reducePow, Nat.mul_one] at this
    simp [h, ← this]
  · have h0 : x / 4194304 % 2 = 0 := by omega
    simp [h0]

private theorem bit31 (x : Nat) : (x &&& 2147483648 != 0) = decide (x / 2147483648 % 2 = 1) :=
  (and_two_pow_ne_zero x 31).trans Nat.testBit_eq_decide_div_mod_eq

/-- `CheckSequence` is BIP112 (for the non-negative operands that OP_CHECKSEQUENCEVERIFY passes) -/
theorem checkSequence_eq_spec (tx : Tx) (nIn : Nat) (n : Nat) (hin : nIn < tx.vin.length) :
    checkSequenceTx tx nIn (n : Int) = Spec.bip112Satisfied tx nIn n := by
  have hn : ofSigned 64 (n : Int) = n % 18446744073709551616 := by
    simp only [ofSigned, Nat.reducePow]
    omega
  unfold checkSequenceTx Spec.bip112Satisfied
  simp only [List.getD_eq_getElem?_getD, List.getElem?_eq_getElem hin, Option.getD_some,
    Gen.SEQUENCE_LOCKTIME_DISABLE_FLAG, Gen.SEQUENCE_LOCKTIME_TYPE_FLAG, Gen.SEQUENCE_LOCKTIME_MASK, bit31, mask_eq,
    twos_eq, hn]
  have e1 : n % 18446744073709551616 / 4194304 % 2 = n / 4194304 % 2 := by omega
  have e2 : n % 18446744073709551616 % 65536 = n % 65536 := by omega
  simp only [e1, e2, Nat.reducePow]
  -- what is left is linear arithmetic on bit 31, bit 22 and the low 16 bits of the sequence number and of `n`
  have h1 := Nat.mod_lt (tx.vin[nIn].sequence / 4194304) (by omega : 2 > 0)
  have h2 := Nat.mod_lt (n / 4194304) (by omega : 2 > 0)
  have h3 := Nat.mod_lt tx.vin[nIn].sequence (by omega : 65536 > 0)
  have h4 := Nat.mod_lt n (by omega : 65536 > 0)
  have h5 := Nat.mod_lt (tx.vin[nIn].sequence / 2147483648) (by omega : 2 > 0)
  generalize tx.vin[nIn].sequence / 4194304 % 2 = b1 at *
  generalize n / 4194304 % 2 = b2 at *
  generalize tx.vin[nIn].sequence % 65536 = r1 at *
  generalize n % 65536 = r2 at *
  generalize tx.vin[nIn].sequence / 2147483648 % 2 = d at *
  rw [Bool.eq_iff_iff]
  simp only [Bool.if_false_left, Bool.and_eq_true, decide_eq_false_iff_not, decide_eq_true_eq, Bool.and_true,
    Bool.not_eq_eq_eq_not, Bool.not_true, Bool.or_eq_false_iff, Bool.and_eq_false_imp]
  omega


/-- a script code with OP_CODESEPARATOR as an instruction and inside push data decodes; so `legacySighash_eq_spec_partial`
    applies to it, for a two-input transaction, SIGHASH_SINGLE|ANYONECANPAY, second input -/
example (cr : SigCrypto) :
    let tx : Tx := { version := 1,
                     vin := [⟨⟨List.replicate 32 1, 0⟩, [], 0xffffffff, []⟩, ⟨⟨List.replicate 32 2, 5⟩, [0x51], 7, []⟩],
                     vout := [⟨1000, [0x51]⟩, ⟨-1, []⟩], lockTime := 500000000 }
    legacySighash cr [0xab, 0x76, 0x02, 0xab, 0xab, 0xab, 0xac] tx 1 0x83
      = Spec.legacyDigest cr.sha256 [0xab, 0x76, 0x02, 0xab, 0xab, 0xab, 0xac] tx 1 0x83 :=
  legacySighash_eq_spec_partial cr _ _ 1 0x83 (by decide) (by decide)

/-- a one-input taproot script path spend with annex: `Init` makes the data ready and the tapscript digest with
    SIGHASH_SINGLE is the BIP341/342 digest -/
example (cr : SigCrypto) (leaf : Bytes) :
    let i : TxIn := ⟨⟨List.replicate 32 7, 1⟩, [], 0xfffffffd, [[1, 2, 3], [0x51], 0xc0 :: List.replicate 32 4, [0x50, 9]]⟩
    let o : TxOut := ⟨1000, 0x51 :: 0x20 :: List.replicate 32 9⟩
    let tx : Tx := { version := 2, vin := [i], vout := [⟨900, [0x51]⟩], lockTime := 0 }
    let ed : ExecData := { annexInit := true, annexPresent := true, annexHash := cr.sha256 (serVarBytes [0x50, 9]),
                           tapleafHashInit := true, tapleafHash := leaf, codesepPosInit := true, codesepPos := 3 }
    ∃ d, precomputeInit cr tx [o] false = .ok d ∧
      schnorrSighash cr ed tx 0 3 .TAPSCRIPT d = some (Spec.bip341Digest cr.sha256 tx 0 3 [o] (some [0x50, 9]) (some ⟨leaf, 3⟩)) := by
  intro i o tx ed
  obtain ⟨d, hd, h1, h2, h3, hc⟩ := precomputeInit_single_input_ready cr tx i o false rfl (Or.inr ⟨by decide, by decide⟩)
  refine ⟨d, hd, ?_⟩
  have hp : SchnorrPre cr ed tx 0 (some [0x50, 9]) (some ⟨leaf, 3⟩) .TAPSCRIPT :=
    ⟨rfl, rfl, fun a ha => by cases ha; rfl, ⟨rfl, rfl, rfl, rfl, rfl⟩, Or.inl rfl⟩
  rw [schnorrSighash_eq_spec cr ed tx 0 3 .TAPSCRIPT d _ _ (by decide) hc h1 h2 hp, h3]
  have : Spec.bip341Defined tx 0 3 := by decide
  simp [this]

end Btcdeb.Proofs.Sighash
