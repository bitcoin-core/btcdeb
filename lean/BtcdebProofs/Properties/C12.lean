/-
  C12 — the script listing and the position marker show exactly what executes next.
  Model: `Btcdeb/Model/Listing.lean` (`buildListing` = the construction of `script_lines` in btcdeb.cpp main,
  `markedLine` / `echoLine` = `fn_print` / `fn_step` / `fn_rewind`, `fnStep`), sessions: `Btcdeb/Model/Session.lean`.
  Specification: `Btcdeb/Spec/Listing.lean` (`idealListing` = the decoding of everything that will be executed, in
  execution order; `pending` = the operation the next step performs).

  For every session kind (plain scripts, legacy spends with scriptPubKey and P2SH sections, P2WSH, taproot script paths),
  any signature checker and every history of `step` / `rewind` commands, failing steps included: the listing the debugger
  builds is the execution-order decoding, and the marked line is the operation the next step performs.  The idea: the
  listing is what has been executed followed by the plan of the rest (`Inv`, Lemmas/Marker.lean), kept by every step.
  The hypotheses (`Fresh`, `hstack`, `htap`) describe what `setup_environment` / `configure_tx_txin` establish; `htap` (a
  tapscript is not treated as a P2SH scriptPubKey) excludes a combination in which btcdeb still misbehaves (finding
  `F-C12-tapscript-p2sh-pattern-leaf` of checks/c12.py: no commitment lines are listed).
-/
import Btcdeb
import BtcdebProofs.Lemmas.Marker
namespace Btcdeb.Proofs.C12
open Btcdeb Btcdeb.Model

/-- The marker, every history.  For every session, signature checker and history over {step, rewind} without a failing
    step (any length; failing steps: `C12_session`): the line whose number is `curr_op_seq` in the execution-order decoding
    of the session (`Spec.idealListing`) is exactly the operation the next `step` performs, and no line has that number
    when nothing is pending.
    `r` is the redeem script the listing announces for a P2SH scriptPubKey; `hpred` (only relevant then) says that it is
    the item on top of the stack when the scriptPubKey is entered.  For every fresh session `predOk_holds` discharges it
    with `r` = what the last instruction of the scriptSig pushes. -/
theorem C12_marker_histories (cx : Ctx) (tc : TapCtx) (r : Bytes) (e0 : IEnv) (hf : Fresh e0)
    (hpred : ∀ j e, C04.advance cx tc e0 j = some e → PredOk r e)
    (cmds : List C04.Cmd) (e : IEnv) (n : Int) (h : C04.execHist cx tc cmds (e0, 0) = some (e, n)) :
    MarkerInv (Spec.idealListing r e0) e := by
  obtain ⟨hi0, hs0⟩ := IEnv.Inv.of_start hf.pcStart
  obtain ⟨_, hadv⟩ := C04.C04_rewind_exact cx tc e0 hi0 hs0 cmds e n h
  exact marker_of_inv r _ e (inv_advance cx tc r e0 hf hpred _ e hadv) (side_advance cx tc e0 hf _ e hadv).scripts

/-- after the last operation nothing is marked as pending: in the ended state the marker number lies
    behind the last line of the listing -/
theorem C12_nothing_pending_at_end (cx : Ctx) (tc : TapCtx) (r : Bytes) (e0 : IEnv) (hf : Fresh e0)
    (hpred : ∀ j e, C04.advance cx tc e0 j = some e → PredOk r e)
    (cmds : List C04.Cmd) (e : IEnv) (n : Int) (h : C04.execHist cx tc cmds (e0, 0) = some (e, n))
    (hd : e.done = true) :
    (Spec.idealListing r e0).length ≤ (markerIndex e).toNat := by
  have := (C12_marker_histories cx tc r e0 hf hpred cmds e n h).2
  simp only [Spec.pending, hd, if_true] at this
  exact List.getElem?_eq_none_iff.mp this

/-- the states a debugging session can be in: reached from the fresh session by `step` commands that
    succeed and `rewind` commands that are accepted -/
inductive Reach (cx : Ctx) (tc : TapCtx) (e0 : IEnv) : IEnv → Prop
  | init : Reach cx tc e0 e0
  | step {e e' : IEnv} : Reach cx tc e0 e → instStep cx tc e = .ok e' → Reach cx tc e0 e'
  | rewind {e e' : IEnv} : Reach cx tc e0 e → instRewind e = some e' → Reach cx tc e0 e'

theorem reach_hist (cx : Ctx) (tc : TapCtx) (e0 e : IEnv) (h : Reach cx tc e0 e) :
    ∃ cmds n, C04.execHist cx tc cmds (e0, 0) = some (e, n) := by
  induction h with
  | init => exact ⟨[], 0, rfl⟩
  | @step e1 e2 _ hs ih =>
    obtain ⟨cmds, n, hc⟩ := ih
    refine ⟨cmds ++ [.step], n + 1, ?_⟩
    rw [C04.execHist_append, hc]
    obtain ⟨hd, hs⟩ := instStep_eq_ok.mp hs
    simp [C04.execHist, C04.execCmd, hd, hs]
  | rewind _ hr ih =>
    obtain ⟨cmds, n, hc⟩ := ih
    refine ⟨cmds ++ [.rewind], n + -1, ?_⟩
    rw [C04.execHist_append, hc]
    simp [C04.execHist, C04.execCmd, hr]

/-- the same in the form "holds initially and is preserved by `instStep` and `instRewind`":
    every state of a session satisfies the marker property -/
theorem C12_marker_reach (cx : Ctx) (tc : TapCtx) (r : Bytes) (e0 : IEnv) (hf : Fresh e0)
    (hpred : ∀ j e, C04.advance cx tc e0 j = some e → PredOk r e) (e : IEnv) (h : Reach cx tc e0 e) :
    MarkerInv (Spec.idealListing r e0) e := by
  obtain ⟨cmds, n, hc⟩ := reach_hist cx tc e0 e h
  exact C12_marker_histories cx tc r e0 hf hpred cmds e n hc

theorem fnStep_spec (cx : Ctx) (tc : TapCtx) (e : IEnv) :
    if (fnStep cx tc e).2 then instStep cx tc e = .ok (fnStep cx tc e).1 else (fnStep cx tc e).1 = e := by
  unfold fnStep
  cases hd : e.done
  · cases hs : stepSession cx tc e
    · simp
    · simpa using instStep_eq_ok.mpr ⟨hd, hs⟩
  · simp

/-- one debugger command as the debugger performs it (`fn_step` / `fn_rewind`): a refused or failed
    command changes nothing -/
def fnCmd (cx : Ctx) (tc : TapCtx) (e : IEnv) : C04.Cmd → IEnv
  | .step => (fnStep cx tc e).1
  | .rewind => (instRewind e).getD e

/-- the session after a command history (any commands, failing steps included) -/
def runCmds (cx : Ctx) (tc : TapCtx) : List C04.Cmd → IEnv → IEnv
  | [], e => e
  | c :: cs, e => runCmds cx tc cs (fnCmd cx tc e c)

theorem run_reach (cx : Ctx) (tc : TapCtx) (e0 : IEnv) : ∀ (cmds : List C04.Cmd) (e : IEnv), Reach cx tc e0 e →
    Reach cx tc e0 (runCmds cx tc cmds e) := by
  intro cmds
  induction cmds with
  | nil => intro e h; exact h
  | cons c cs ih =>
    intro e h
    simp only [runCmds]
    apply ih
    cases c with
    | step =>
      simp only [fnCmd]
      have hspec := fnStep_spec cx tc e
      split at hspec
      · exact .step h hspec
      · rw [hspec]; exact h
    | rewind =>
      simp only [fnCmd]
      cases hr : instRewind e with
      | none => exact h
      | some e' => exact .rewind h hr

theorem description_drop (t : Tce) (h : t.i ≤ t.pathLen) :
    (t.description.drop t.i).map Line.plan = Spec.commitFuture (some t) := by
  simp only [Tce.description, Spec.commitFuture, Spec.commitmentPlan]
  have hlen : ((List.range t.pathLen).map (branchLine t)).length = t.pathLen := by simp
  rw [List.drop_append_of_le_length (by rw [hlen]; exact h), List.map_append, ← List.map_drop, List.map_map]
  have hf : (Line.plan ∘ branchLine t) = Spec.merkleStep t.control := funext (branchLine_plan t)
  rw [hf]
  congr 2
  rw [List.range_eq_range', List.drop_range']
  simp

/-- `h1`: a P2SH hand-over is pending only with the redeem script saved and after the scriptPubKey has been entered;
    `h2`: the redeem script announced while the scriptSig is current is the one that will be handed over to. -/
theorem sections_plan (r : Bytes) (e : IEnv)
    (h1 : e.isP2sh = true → e.p2shStack ≠ [] ∧ e.successor = [])
    (h2 : e.successor ≠ [] → p2shPattern e.see.flags e.successor = true → lastPayload e.see.script = r) :
    (spkSection e ++ p2shSection e).map Line.plan = Spec.tailFuture r e := by
  unfold spkSection p2shSection Spec.tailFuture
  by_cases hsu : e.successor = []
  · have hvs : viaSucc e = false := by simp [viaSucc, hsu]
    simp only [hsu, List.isEmpty_nil, Bool.not_true, Bool.false_eq_true, if_false, List.nil_append, if_true, List.append_nil, hvs,
      Bool.or_false]
    by_cases hp : e.isP2sh = true
    · have hst : e.p2shStack.isEmpty = false := List.isEmpty_eq_false_iff.mpr (h1 hp).1
      simp [viaStack, hp, hst, opLines_plan, Line.plan, p2shHeader, headerLine, Spec.handOverP2sh]
    · simp [viaStack, hp]
  · have hp : e.isP2sh = false := by
      cases hq : e.isP2sh with
      | false => rfl
      | true => exact absurd (h1 hq).2 hsu
    have hse : e.successor.isEmpty = false := List.isEmpty_eq_false_iff.mpr hsu
    have hvs : viaSucc e = p2shPattern e.see.flags e.successor := by
      rw [p2shPattern_eq]; simp [viaSucc, hse]
    simp only [hse, Bool.not_false, if_true, viaStack, hp, Bool.false_and, Bool.false_or, Bool.false_eq_true, if_false,
      List.nil_append, hvs]
    by_cases hpat : p2shPattern e.see.flags e.successor = true
    · simp [hpat, h2 hsu hpat, opLines_plan, Line.plan, p2shHeader, spkHeader, headerLine, Spec.handOverP2sh, Spec.handOverSpk]
    · simp [hpat, opLines_plan, Line.plan, spkHeader, headerLine, Spec.handOverSpk]

/-- The listing.  For every fresh session the listing the debugger builds is exactly the execution-order
    decoding: commitment steps (one line per step), the script, the scriptPubKey and P2SH sections, every
    instruction by its name or by ALL the bytes it pushes; the redeem script shown for a P2SH scriptPubKey is
    what the last instruction of the scriptSig leaves on the stack.
    `hstack`: a session that starts on a P2SH-pattern script has the redeem script on its stack (otherwise
    the first operation fails and the debugger lists no P2SH section at all);
    `htap`: the commitment environment is fresh, belongs to a tapscript session, and the tapscript is not at
    the same time treated as a P2SH scriptPubKey (excluded: there the debugger lists no commitment lines). -/
theorem C12_listing_exact (e0 : IEnv) (hf : Fresh e0)
    (hstack : e0.isP2sh = true → e0.p2shStack ≠ [])
    (htap : ∀ t, e0.tce = some t → t.i = 0 ∧ e0.see.sigversion = .TAPSCRIPT ∧ e0.isP2sh = false) :
    (buildListing e0).map Line.plan = Spec.idealListing (lastPayload e0.see.script) e0 := by
  have hcommit : (commitLines e0).map Line.plan = Spec.commitFuture e0.tce := by
    unfold commitLines
    cases htce : e0.tce with
    | none => simp only [Spec.commitFuture]; split <;> rfl
    | some t =>
      obtain ⟨hi, hsv, hp⟩ := htap t htce
      have := description_drop t (by omega)
      rw [hi, List.drop_zero] at this
      simp [hsv, hp, viaStack, this]
  have htail := sections_plan (lastPayload e0.see.script) e0
    (fun hp => ⟨hstack hp, Classical.byContradiction fun hne => by rw [(hf.succ0 hne).2.1] at hp; cases hp⟩) (fun _ _ => rfl)
  unfold buildListing Spec.idealListing Spec.sessionPlan
  rw [List.append_assoc, List.map_append, List.map_append, hcommit, opLines_plan, htail]

/-- in every fresh session the redeem script the listing announces for a P2SH scriptPubKey — what the last
    instruction of the scriptSig leaves on the stack — is the item on top of the stack when the scriptPubKey is
    entered after a push-only scriptSig (after any other scriptSig the hand-over to the redeem script fails) -/
theorem predOk_holds (cx : Ctx) (tc : TapCtx) (e0 : IEnv) (hf : Fresh e0) :
    ∀ j e, C04.advance cx tc e0 j = some e → PredOk (lastPayload e0.see.script) e := by
  intro j e hj _ hpc _ hne _ hpo
  have hside := side_advance cx tc e0 hf j e hj
  rw [(hside.inSig hne).1] at hpo
  obtain ⟨_, _, htop⟩ := hside.top (isPushOnly_ops _ hpo) hne
  rw [← htop, hpc, lastFrom, decodeFrom_none rfl]; rfl

/-- the conclusion of C12 at one point of a session -/
def Holds (e0 e : IEnv) : Prop :=
  (buildListing e0).map Line.plan = Spec.idealListing (lastPayload e0.see.script) e0 ∧
  0 ≤ markerIndex e ∧
  (markedLine (buildListing e0) e).map Line.plan = Spec.pending e ∧
  (e.done = true → markedLine (buildListing e0) e = none)

/-- Listing and marker of the debugger.  For every fresh session and every history over
    {step, rewind} without a failing step:
    (1) the listing the debugger prints is exactly the execution-order decoding of the session;
    (2) `curr_op_seq` is not negative, and the line the debugger marks (and echoes after `step` / `rewind`) is
        the operation the next step performs, no line being marked when nothing is pending;
    (3) in the ended state no line is marked. -/
theorem C12_marked_line (cx : Ctx) (tc : TapCtx) (e0 : IEnv) (hf : Fresh e0)
    (hstack : e0.isP2sh = true → e0.p2shStack ≠ [])
    (htap : ∀ t, e0.tce = some t → t.i = 0 ∧ e0.see.sigversion = .TAPSCRIPT ∧ e0.isP2sh = false)
    (cmds : List C04.Cmd) (e : IEnv) (n : Int) (h : C04.execHist cx tc cmds (e0, 0) = some (e, n)) :
    Holds e0 e := by
  have hL := C12_listing_exact e0 hf hstack htap
  obtain ⟨h0, hm⟩ := C12_marker_histories cx tc _ e0 hf (predOk_holds cx tc e0 hf) cmds e n h
  have hnn : ¬ e.currOpSeq < 0 := by unfold markerIndex at h0; omega
  have hmk : (markedLine (buildListing e0) e).map Line.plan = Spec.pending e := by
    unfold markedLine
    simp only [hnn, if_false]
    rw [← List.getElem?_map, hL]; exact hm
  refine ⟨hL, h0, hmk, ?_⟩
  intro hd
  have : Spec.pending e = none := by simp [Spec.pending, hd]
  rw [this] at hmk
  cases hx : markedLine (buildListing e0) e with
  | none => rfl
  | some l => rw [hx] at hmk; cases hmk

/-- All command histories: the same at every point of every history of `step` and `rewind`
    commands as the debugger performs them — refused commands and failed steps included (they leave the
    session where it was: the same line stays marked, the same operation is pending) -/
theorem C12_session (cx : Ctx) (tc : TapCtx) (e0 : IEnv) (hf : Fresh e0)
    (hstack : e0.isP2sh = true → e0.p2shStack ≠ [])
    (htap : ∀ t, e0.tce = some t → t.i = 0 ∧ e0.see.sigversion = .TAPSCRIPT ∧ e0.isP2sh = false)
    (cmds : List C04.Cmd) : Holds e0 (runCmds cx tc cmds e0) := by
  obtain ⟨cs, n, hc⟩ := reach_hist cx tc e0 _ (run_reach cx tc e0 cmds e0 .init)
  exact C12_marked_line cx tc e0 hf hstack htap cs _ n hc

/-- `pending` is what `step` does: when an instruction is pending and the step succeeds, the step
    executed exactly that instruction (the one the specification decodes at the position) and the new
    position is directly behind it; when a hand-over is pending the step enters the announced script -/
theorem pending_is_next_step (cx : Ctx) (tc : TapCtx) (e e' : IEnv) (htce : e.tce = none) (hnd : e.done = false)
    (hs : stepSession cx tc e = .ok e') :
    (e.pc ≠ [] → ∃ i after, Spec.decodeOne e.pc = some (i, after) ∧ e'.pc = after ∧ e'.see.script = e.see.script ∧
        Spec.pending e = some ⟨false, e.see.script.length - e.pc.length, Spec.instrText i⟩) ∧
    (e.pc = [] → e.isP2sh = true → Spec.pending e = some Spec.handOverP2sh ∧
        e'.see.script = e.p2shStack.getLast?.getD [] ∧ e'.pc = e'.see.script) ∧
    (e.pc = [] → e.isP2sh = false → e.successor ≠ [] → Spec.pending e = some Spec.handOverSpk ∧
        e'.see.script = e.successor ∧ e'.pc = e'.see.script) := by
  cases stepSession_kind hs with
  | merkle t _ htce' => rw [htce] at htce'; cases htce'
  | tweak t htce' => rw [htce] at htce'; cases htce'
  | op g see' _ hne hg hst hch =>
    refine ⟨fun _ => ?_, fun h => absurd h hne, fun h => absurd h hne⟩
    have hdo := Refine.getOp_eq_some_iff.mp hg
    have hpe : e.pc.isEmpty = false := List.isEmpty_eq_false_iff.mpr hne
    exact ⟨⟨g.opcode, g.data⟩, g.rest, hdo, rfl, hch.script, by simp [Spec.pending, hnd, htce, hpe, hdo]⟩
  | redeem redeem _ hpc0 hp2 _ hr =>
    refine ⟨fun h => absurd hpc0 h, fun _ _ => ?_, fun _ h => (by rw [hp2] at h; cases h)⟩
    exact ⟨by simp [Spec.pending, hnd, htce, hpc0, hp2], by rw [hr]; rfl, rfl⟩
  | successor _ hpc0 _ hp2 hne =>
    refine ⟨fun h => absurd hpc0 h, fun _ h => (by rw [hp2] at h; cases h), fun _ _ _ => ?_⟩
    have hse : e.successor.isEmpty = false := List.isEmpty_eq_false_iff.mpr hne
    exact ⟨by simp [Spec.pending, hnd, htce, hpc0, hp2, hse], rfl, rfl⟩
  | finish _ hpc0 hp2 hsu0 =>
    exact ⟨fun h => absurd hpc0 h, fun _ h => (by rw [hp2] at h; cases h), fun _ _ h => absurd hsu0 h⟩

/-- sessions produced by `Instance::setup_environment` are fresh, given what the callers guarantee for a
    scriptSig (a script followed by a scriptPubKey: legacy branch of `configure_tx_txin`): it decodes completely
    (`hasValidOps_decodable`), is not itself the P2SH pattern, starts on an empty stack, without commitment phase -/
theorem setup_fresh (stack : List Bytes) (script : Bytes) (flags : Nat) (sv : SigVersion) (succ : Bytes)
    (z : Bool) (ed : ExecData) (tce : Option Tce) (pm : List (Bytes × Bytes)) (pk : List Bytes) (e0 : IEnv)
    (h : setupEnvironment stack script flags sv succ z ed tce pm pk = .ok e0)
    (hsucc : succ ≠ [] → Decodable script ∧ p2shPattern flags script = false ∧ stack = [] ∧ tce = none) : Fresh e0 := by
  obtain ⟨_, _, _, rfl⟩ := Refine.setupEnvironment_ok h
  refine ⟨rfl, rfl, ?_, ?_, rfl, ?_⟩
  · intro hd
    simp only [Bool.and_eq_true, List.isEmpty_iff, Option.isNone_iff_eq_none] at hd
    obtain ⟨⟨hs, hsu⟩, ht⟩ := hd
    subst hs
    exact ⟨ht, rfl, by simp [p2shPattern], hsu⟩
  · intro hp
    have hp' : (sv == SigVersion.BASE && p2shPattern flags script) = true := hp
    simp only [Bool.and_eq_true] at hp'
    exact hp'.2
  · intro hne
    obtain ⟨hd, hp, hst, ht⟩ := hsucc hne
    exact ⟨hd, by show (sv == SigVersion.BASE && p2shPattern flags script) = false; rw [hp, Bool.and_false], hst, rfl, ht⟩

def exCx : Ctx :=
  { sha256 := id, ripemd160 := fun b => b.take 20, sha1 := id, checkLowS := fun _ => true, checkLockTime := fun _ => false,
    checkSequence := fun _ => false, checkECDSA := fun _ _ _ _ => false, checkSchnorr := fun _ _ _ _ => .ok () }
def exTc : TapCtx := { taggedHash := fun _ b => b.take 32, checkTapTweak := fun _ _ _ _ => true }

/-- the marked line (rendered as `script_lines[curr_op_seq]`) and the pending operation after a history -/
def exMarks (e0 : IEnv) (cmds : List C04.Cmd) : Option (Option String × Option String) :=
  (C04.execHist exCx exTc cmds (e0, 0)).map (fun r =>
    (echoLine (buildListing e0) r.1, (Spec.pending r.1).map (·.text)))

/-- P2SH spend: scriptSig `<07> <redeem = OP_2 OP_ADD ...>`, scriptPubKey `OP_HASH160 <20 bytes> OP_EQUAL`
    (the toy hash of `exCx` makes the redeem script, padded, its own hash) -/
def exRedeem : Bytes := [0x52, 0x93] ++ List.replicate 18 0x61
def exP2sh : Except ScriptError IEnv :=
  setupEnvironment [] ([0x01, 0x07, 0x14] ++ exRedeem) 1 .BASE ([0xa9, 0x14] ++ exRedeem ++ [0x87]) false {} none [] []

def exP2shRes : Option (Nat × List (Option (Option String × Option String))) :=
  match exP2sh with
  | .ok e0 => some ((buildListing e0).length,
      [exMarks e0 [], exMarks e0 [.step, .step], exMarks e0 [.step, .step, .step, .step, .step, .rewind],
       exMarks e0 [.step, .step, .step, .step, .step, .step]])
  | .error _ => none

/-- non-vacuity: the marked line and the pending operation along a P2SH spend, across both hand-overs -/
example : exP2shRes = some (27,
    [some (some "#0000 07", some "07"),
     some (some "<<< scriptPubKey >>>", some "<<< scriptPubKey >>>"),
     some (some "#0004 5293616161616161616161616161616161616161", some "5293616161616161616161616161616161616161"),
     some (some "<<< P2SH script >>>", some "<<< P2SH script >>>")]) := by decide +kernel

/-- … and this session satisfies the hypotheses of `C12_session` that are not structural -/
def exHyp : Bool :=
  match exP2sh with
  | .ok e0 => decide (e0.pc = e0.see.script) && decide (e0.tce = none) && decide (e0.see.stack = []) && e0.see.cond.allTrue &&
      !e0.isP2sh && !e0.sigscriptExecuted
  | .error _ => false
example : exHyp = true := by decide +kernel

/-- the marked / echoed line and the pending operation after a command history with `runCmds` (failing steps allowed) -/
def runMarks (e0 : IEnv) (cmds : List C04.Cmd) : Option String × Option String :=
  let e := runCmds exCx exTc cmds e0
  (echoLine (buildListing e0) e, (Spec.pending e).map (fun l => l.text))

/-- taproot script path, two path nodes, script `OP_1 OP_2`: three commitment lines for three commitment steps;
    the echoed line is the pending operation at every point, nothing is marked at the end -/
def exControl : Bytes := 0xc0 :: List.replicate 32 0x11 ++ List.replicate 32 0x22 ++ List.replicate 32 0x33
def exTap : Except ScriptError IEnv :=
  setupEnvironment [] [0x51, 0x52] 0 .TAPSCRIPT [] false {}
    (some (Tce.init exTc exControl (List.replicate 32 0x44) [0x51, 0x52])) [] []
def exTapRes : Option (Nat × List (Option String × Option String)) :=
  match exTap with
  | .ok e0 => some ((buildListing e0).length, [2, 3, 4, 5, 6].map (fun k => runMarks e0 (List.replicate k .step)))
  | .error _ => none
example : exTapRes = some (5,
    [(some "#0002 CheckTapTweak: 1111111111111111111111111111111111111111111111111111111111111111",
      some "CheckTapTweak: 1111111111111111111111111111111111111111111111111111111111111111"),
     (some "#0003 1", some "1"), (some "#0004 2", some "2"), (none, none), (none, none)]) := by decide +kernel

/-- a failed step (`OP_0 OP_VERIFY OP_5`: the second step fails) leaves the session where it was: repeating it
    fails again, the same line stays marked and is the pending operation, a rewind still works -/
def exFail : Except ScriptError IEnv :=
  setupEnvironment [] [0x00, 0x69, 0x55] 0 .BASE [] false {} none [] []
def exFailRes : Option (List (Option String × Option String) × Bool) :=
  match exFail with
  | .ok e0 => some ([runMarks e0 [.step, .step], runMarks e0 [.step, .step, .step], runMarks e0 [.step, .step, .rewind]],
      decide (runCmds exCx exTc [.step, .step, .step] e0 = runCmds exCx exTc [.step] e0))
  | .error _ => none
example : exFailRes = some ([(some "#0001 OP_VERIFY", some "OP_VERIFY"), (some "#0001 OP_VERIFY", some "OP_VERIFY"),
    (some "#0000 0", some "0")], true) := by decide +kernel

/-- a P2SH spend whose redeem script (the single byte `01`) is pushed by `OP_1`: the P2SH section lists the script
    that is handed over to -/
def exSmall : Except ScriptError IEnv :=
  setupEnvironment [] [0x00, 0x51] 1 .BASE ([0xa9, 0x14] ++ (0x01 :: List.replicate 19 0) ++ [0x87]) false {} none [] []
def exSmallRes : Option (Bytes × Nat) :=
  match exSmall with
  | .ok e0 => some (lastPayload e0.see.script, (buildListing e0).length)
  | .error _ => none
example : exSmallRes = some ([1], 7) := by decide +kernel

end Btcdeb.Proofs.C12
