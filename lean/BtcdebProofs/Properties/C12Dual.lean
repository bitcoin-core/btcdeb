/-
  C12, the two-column display — `print_dualstack` shows exactly what executes next.
  Model: `Btcdeb/Model/Dual.lean` (`printDualstack`, `svPrintScripts`, the two static widths as `DualState`);
  specification: `Btcdeb/Spec/Dual.lean` (`remaining` = what is still to be executed, in execution order, by the
  specification's own decoder; `stackColumn`; `abbreviated`).

  For all sessions (plain scripts, legacy spends with scriptPubKey and P2SH sections, P2WSH, taproot script paths), all
  histories of step / rewind commands including failed and refused ones, and any widths inherited from earlier displays:
  the left column — the two title lines of the commitment section aside — is `Spec.remaining`, its first line the
  operation the next `step` performs, and it is empty at the end; the right column is the stack, top first; texts longer
  than 66 characters are cut to 63 and `...`; all rows of a display have their separator at the same offset; the widths
  only grow.  The undefined behaviour of svprintscripts (an iterator of one script used on the next) is not reachable.
  One hypothesis besides freshness (`hstack`): a P2SH hand-over is pending only with a saved stack that is not empty (with
  an empty one it cannot be performed and no section is listed for it; as in `C12.C12_listing_exact`).
-/
import Btcdeb
import BtcdebProofs.Lemmas.Dual
import BtcdebProofs.Properties.C12
namespace Btcdeb.Proofs.C12Dual
open Btcdeb Btcdeb.Model Btcdeb.Proofs.C12

/-- the two title lines of the commitment section (`<<< taproot commitment >>>`, `<<< committed script >>>`) -/
def isDecor (l : Line) : Bool := l.sect == .commitment && l.kind == .header

def leftOps (e : IEnv) : List Line := (dualLeft e).filter (fun l => !isDecor l)

def dualTail (e : IEnv) : List Line := (dualScripts e).tail.flatMap sectLines

/-- the display is well defined: the current script lists something or is at its end, or nothing follows it -/
def Defined (e : IEnv) : Prop := startedAt e.pc = true ∨ (dualScripts e).tail = []

theorem dualSv_eq (e : IEnv) :
    dualSv e =
      if startedAt e.pc = true then
        { Sv.ext {} (tceLines e.tce ++ opLinesFrom .main e.see.script.length e.pc ++ dualTail e) false with begun := true }
      else { Sv.ext {} (tceLines e.tce ++ opLinesFrom .main e.see.script.length e.pc) false with
             stale := !(dualScripts e).tail.isEmpty } := by
  exact svPrintScripts_eq (Sect.main, e.see.script, "") (dualScripts e).tail e.pc e.tce

theorem dualLeft_closed (e : IEnv) (h : Defined e) :
    dualLeft e = tceLines e.tce ++ opLinesFrom .main e.see.script.length e.pc ++ dualTail e ∧ dualStale e = false := by
  unfold dualLeft dualStale
  rw [dualSv_eq]
  split
  · exact ⟨List.nil_append _, rfl⟩
  · rename_i hs
    have ht : (dualScripts e).tail = [] := h.resolve_left hs
    simp [Sv.ext, dualTail, ht]

/-- when the display is not well defined the model says so -/
theorem dualStale_of_undefined (e : IEnv) (h : ¬ Defined e) : dualStale e = true := by
  unfold Defined at h
  unfold dualStale
  rw [dualSv_eq, if_neg (fun hs => h (Or.inl hs))]
  cases ht : (dualScripts e).tail with
  | nil => exact absurd (Or.inr ht) h
  | cons _ _ => rfl

theorem dualSv_lmax (e : IEnv) : (dualSv e).lmax = maxLen ((dualLeft e).map Line.shown) := by
  unfold dualLeft
  rw [dualSv_eq]
  split <;> simp [Sv.ext]

theorem opLinesFrom_self (sect : Sect) (s : Bytes) : opLinesFrom sect s.length s = opLines sect s := rfl

theorem opLinesFrom_notDecor (sect : Sect) (total : Nat) (it : Bytes) : ∀ l ∈ opLinesFrom sect total it, isDecor l = false := by
  intro l hl
  simp only [opLinesFrom, List.mem_map] at hl
  obtain ⟨p, _, rfl⟩ := hl
  simp [isDecor]

theorem dualTail_sections (e : IEnv) : dualTail e = spkSection e ++ p2shSection e := by
  unfold dualTail dualScripts spkSection p2shSection dualRedeem
  by_cases h1 : (!e.successor.isEmpty) = true <;> by_cases h2 : viaSucc e = true <;> by_cases h3 : viaStack e = true <;>
    simp [h1, h2, h3, sectLines, spkHeader, p2shHeader, opLinesFrom_self]

theorem dualTail_notDecor (e : IEnv) : ∀ l ∈ dualTail e, isDecor l = false := by
  intro l hl
  rw [dualTail_sections] at hl
  unfold spkSection p2shSection at hl
  rcases List.mem_append.mp hl with hl | hl <;> split at hl
  · rcases List.mem_cons.mp hl with rfl | hl
    · rfl
    · exact opLinesFrom_notDecor _ _ _ l hl
  · cases hl
  · rcases List.mem_cons.mp hl with rfl | hl
    · rfl
    · exact opLinesFrom_notDecor _ _ _ l hl
  · cases hl

/-- the commitment environment is as `Iterate()` keeps it: at most `m_path_len` Merkle steps have been counted -/
def TceOk (e : IEnv) : Prop := ∀ t, e.tce = some t → t.i ≤ t.pathLen

theorem description_notDecor (t : Tce) : ∀ l ∈ t.description, isDecor l = false := by
  intro l hl
  simp only [Tce.description, List.mem_append, List.mem_map, List.mem_singleton] at hl
  rcases hl with ⟨i, _, rfl⟩ | rfl <;> rfl

theorem tceLines_filter (tce : Option Tce) :
    (tceLines tce).filter (fun l => !isDecor l) = (match tce with | some t => t.description.drop t.i | none => []) := by
  cases tce with
  | none => rfl
  | some t =>
    simp only [tceLines, List.filter_cons, List.filter_append, List.filter_nil]
    have h1 : isDecor tapHeader = true := rfl
    have h2 : isDecor committedHeader = true := rfl
    simp only [h1, h2, Bool.not_true, Bool.false_eq_true, if_false, List.append_nil]
    exact List.filter_eq_self.mpr (fun l hl => by simp [description_notDecor t l (List.mem_of_mem_drop hl)])

theorem leftOps_closed (e : IEnv) (h : Defined e) :
    leftOps e = (match e.tce with | some t => t.description.drop t.i | none => []) ++
      opLinesFrom .main e.see.script.length e.pc ++ dualTail e := by
  unfold leftOps
  rw [(dualLeft_closed e h).1, List.filter_append, List.filter_append, tceLines_filter]
  congr 1
  · congr 1
    exact List.filter_eq_self.mpr (fun l hl => by simp [opLinesFrom_notDecor _ _ _ l hl])
  · exact List.filter_eq_self.mpr (fun l hl => by simp [dualTail_notDecor e l hl])

/-- One state: the operations listed in the left column are, in order, exactly what remains to be executed.
    `hdef` (no undefined behaviour), `hend`, `htce`, `h1`, `h2`: see `Defined`, `EndOk`, `TceOk`, `C12.sections_plan`; all are
    established for the states of a session in `C12_dual_left_session` (`h1` from `hstack`). -/
theorem C12_dual_left (r : Bytes) (e : IEnv) (hdef : Defined e) (hend : EndOk e) (htce : TceOk e)
    (h1 : e.isP2sh = true → e.p2shStack ≠ [] ∧ e.successor = [])
    (h2 : e.successor ≠ [] → p2shPattern e.see.flags e.successor = true → lastPayload e.see.script = r) :
    (leftOps e).map Line.plan = Spec.remaining r e := by
  rw [leftOps_closed e hdef, List.map_append, List.map_append, opLinesFrom_plan, dualTail_sections, sections_plan r e h1 h2]
  unfold Spec.remaining
  by_cases hd : e.done = true
  · obtain ⟨ht, hpc, hp, hsu⟩ := hend hd
    simp [hd, ht, hpc, hp, hsu, Spec.tailFuture, Spec.planFrom]
  · simp only [hd, Bool.false_eq_true, if_false]
    cases ht : e.tce with
    | none => simp [Spec.commitFuture]
    | some t => simp only []; rw [description_drop t (htce t ht)]

/-- `hdec`: an instruction that does not decode is only met in the last script of a session (`undecodable_last`) -/
theorem remaining_head (r : Bytes) (e : IEnv)
    (hdec : e.tce = none → e.pc ≠ [] → Spec.decodeOne e.pc = none → Spec.tailFuture r e = []) :
    (Spec.remaining r e).head? = Spec.pending e := by
  unfold Spec.remaining
  by_cases hd : e.done = true
  · simp [hd, Spec.pending]
  · rw [if_neg hd]
    exact future_head r e _ (by simpa using hd) rfl hdec

/-- what holds at every point of every session: after any history of `step` and `rewind` commands as the debugger
    performs them (refused commands and failed steps included) -/
structure Facts (e0 e : IEnv) : Prop where
  endOk : EndOk e
  side : Side e0.see.script e
  tceOk : TceOk e

theorem tceOk_step (cx : Ctx) (tc : TapCtx) (ep e : IEnv) (hs : stepSession cx tc ep = .ok e) : TceOk e := by
  intro t ht
  cases stepSession_kind hs with
  | merkle t0 _ _ hlt => cases ht; exact hlt
  | tweak => cases ht
  -- the other steps leave `tce` as it was: unset
  | op _ _ h | redeem _ h | successor h | finish h => rw [h] at ht; cases ht

theorem reach_facts (cx : Ctx) (tc : TapCtx) (e0 : IEnv) (hf : Fresh e0) (htap : TceOk e0) (cmds : List C04.Cmd) :
    Facts e0 (runCmds cx tc cmds e0) := by
  obtain ⟨cs, n, hc⟩ := reach_hist cx tc e0 _ (run_reach cx tc e0 cmds e0 .init)
  obtain ⟨hi0, hs0⟩ := IEnv.Inv.of_start hf.pcStart
  obtain ⟨_, hadv⟩ := C04.C04_rewind_exact cx tc e0 hi0 hs0 cs _ n hc
  exact ⟨C04.advance_induction cx tc e0 (P := fun _ => EndOk) hf.done0 (fun _ ep e _ hnd _ hs => endOk_step cx tc ep e hnd hs) _ _ hadv,
    side_advance cx tc e0 hf _ _ hadv,
    C04.advance_induction cx tc e0 (P := fun _ => TceOk) htap (fun _ ep e _ _ _ hs => tceOk_step cx tc ep e hs) _ _ hadv⟩

/-- the undefined behaviour of svprintscripts is not reachable in a session -/
theorem C12_dual_not_stale (cx : Ctx) (tc : TapCtx) (e0 : IEnv) (hf : Fresh e0) (htap : TceOk e0) (cmds : List C04.Cmd) :
    Defined (runCmds cx tc cmds e0) ∧ dualStale (runCmds cx tc cmds e0) = false := by
  have hfa := reach_facts cx tc e0 hf htap cmds
  generalize runCmds cx tc cmds e0 = e at hfa
  have hdef : Defined e := by
    unfold Defined
    by_cases hpc : e.pc = []
    · left; simp [startedAt, hpc, endPos_none (it := []) rfl, failPos]
    · cases hg : getOp e.pc with
      | some g => left; simp [startedAt, decodeFrom_some hg]
      | none =>
        right
        obtain ⟨hp, hsu⟩ := undecodable_last hfa.side.scripts hpc hg
        simp [dualScripts, hsu, viaStack, viaSucc, hp]
  exact ⟨hdef, (dualLeft_closed e hdef).2⟩

/-- Every state of every session.  For every fresh session (`htap`: a commitment environment as its constructor leaves
    it) and every history of `step` / `rewind` commands as the debugger performs them (failed steps and refused commands
    included): the display is well defined, the operations listed in the left column are, in order, exactly what remains to
    be executed — commitment steps still to be taken, the current script from the current position, the scriptPubKey and
    redeem script sections —, and the first thing that remains is the operation the next step performs.
    `hstack`: a P2SH hand-over is pending only with a saved stack that is not empty (otherwise it cannot be performed and
    no section is listed for it).  The redeem script meant for a P2SH scriptPubKey is the item that will be on top of the
    stack when the scriptPubKey is entered: `C12.predOk_holds`. -/
theorem C12_dual_left_session (cx : Ctx) (tc : TapCtx) (e0 : IEnv) (hf : Fresh e0) (htap : TceOk e0) (cmds : List C04.Cmd)
    (hstack : (runCmds cx tc cmds e0).isP2sh = true → (runCmds cx tc cmds e0).p2shStack ≠ []) :
    dualStale (runCmds cx tc cmds e0) = false ∧
    (leftOps (runCmds cx tc cmds e0)).map Line.plan = Spec.remaining (lastPayload e0.see.script) (runCmds cx tc cmds e0) ∧
    (Spec.remaining (lastPayload e0.see.script) (runCmds cx tc cmds e0)).head? = Spec.pending (runCmds cx tc cmds e0) := by
  have hfa := reach_facts cx tc e0 hf htap cmds
  obtain ⟨hdef, hstale⟩ := C12_dual_not_stale cx tc e0 hf htap cmds
  generalize runCmds cx tc cmds e0 = e at hfa hdef hstale hstack
  refine ⟨hstale, C12_dual_left _ e hdef hfa.endOk hfa.tceOk (fun hp => ⟨hstack hp, ?_⟩) (fun hne _ => by rw [(hfa.side.inSig hne).1]),
    remaining_head _ e fun _ hne hdo => ?_⟩
  · cases hsu : e.successor with
    | nil => rfl
    | cons a b =>
      have := hfa.side.scripts.2 (by simp [hsu])
      rw [hp] at this; cases this
  · obtain ⟨h1, h2⟩ := undecodable_last hfa.side.scripts hne (Refine.getOp_none_of_decodeOne hdo)
    simp [Spec.tailFuture, h1, h2]

/-- The same in the form of the property: at every point of every session the first operation listed in the left column
    is the operation the next step performs, and nothing is listed when nothing is pending -/
theorem C12_dual_first_is_pending (cx : Ctx) (tc : TapCtx) (e0 : IEnv) (hf : Fresh e0) (htap : TceOk e0) (cmds : List C04.Cmd)
    (hstack : (runCmds cx tc cmds e0).isP2sh = true → (runCmds cx tc cmds e0).p2shStack ≠ []) :
    ((leftOps (runCmds cx tc cmds e0)).head?).map Line.plan = Spec.pending (runCmds cx tc cmds e0) := by
  obtain ⟨_, h2, h3⟩ := C12_dual_left_session cx tc e0 hf htap cmds hstack
  rw [← h3, ← h2, List.head?_map]

/-- The first line is the instruction the next step executes (any state, no hypothesis on how it was reached): outside
    the commitment phase, when a `step` executes an instruction, the first line of the left column is that instruction —
    the one `stepSession` decodes at the position and consumes (the new position is directly behind it), shown by its name
    or by the bytes it pushes -/
theorem C12_dual_first_is_next_op (cx : Ctx) (tc : TapCtx) (e e' : IEnv) (htce : e.tce = none) (hne : e.pc ≠ [])
    (hs : stepSession cx tc e = .ok e') :
    ∃ i after, Spec.decodeOne e.pc = some (i, after) ∧ e'.pc = after ∧
      (dualLeft e).head?.map (fun l => (l.kind, l.text)) = some (LineKind.op, Spec.instrText i) := by
  cases stepSession_kind hs with
  | merkle t _ htce' => rw [htce] at htce'; cases htce'
  | tweak t htce' => rw [htce] at htce'; cases htce'
  | op g see' _ _ hg =>
    have hdef : Defined e := Or.inl (by simp [startedAt, decodeFrom_some hg])
    refine ⟨⟨g.opcode, g.data⟩, g.rest, Refine.getOp_eq_some_iff.mp hg, rfl, ?_⟩
    rw [(dualLeft_closed e hdef).1, htce]
    simp [tceLines, opLinesFrom_some hg, opText_instrText]
  | redeem _ _ hpc0 => exact absurd hpc0 hne
  | successor _ hpc0 => exact absurd hpc0 hne
  | finish _ hpc0 => exact absurd hpc0 hne

/-- Nothing is pending at the end: in the ended state of every session the left column is empty (every row of the
    display consists of a blank left cell beside the final stack) -/
theorem C12_dual_nothing_pending_at_end (cx : Ctx) (tc : TapCtx) (e0 : IEnv) (hf : Fresh e0) (htap : TceOk e0) (cmds : List C04.Cmd)
    (hd : (runCmds cx tc cmds e0).done = true) :
    dualLeft (runCmds cx tc cmds e0) = [] := by
  have hfa := reach_facts cx tc e0 hf htap cmds
  generalize runCmds cx tc cmds e0 = e at hfa hd
  obtain ⟨ht, hpc, hp, hsu⟩ := hfa.endOk hd
  have htail : (dualScripts e).tail = [] := by simp [dualScripts, hsu, viaStack, viaSucc, hp]
  rw [(dualLeft_closed e (Or.inr htail)).1, ht, hpc]
  simp [dualTail, htail, tceLines, opLinesFrom_none (it := []) rfl]

/-- the widths as they are from process start on: never below 7 -/
def WidthsOk (st : DualState) : Prop := 7 ≤ st.glmax ∧ 7 ≤ st.grmax

theorem widthsOk_init : WidthsOk {} := ⟨Nat.le_refl _, Nat.le_refl _⟩

/-- the widths only grow (and stay at least 7) -/
theorem C12_dual_widths_monotone (st : DualState) (e : IEnv) :
    st.glmax ≤ (printDualstack st e).2.glmax ∧ st.grmax ≤ (printDualstack st e).2.grmax ∧
    (WidthsOk st → WidthsOk (printDualstack st e).2) := by
  obtain ⟨hl, hr⟩ := printDualstack_widths st e
  unfold WidthsOk
  omega

/-- every command of a session leaves the widths at least as large as it found them (and at least 7) -/
theorem C12_dual_session_widths (cx : Ctx) (tc : TapCtx) (st : DualState) (e : IEnv) (c : DualCmd) :
    st.glmax ≤ (dualCmd cx tc st e c).2.2.glmax ∧ st.grmax ≤ (dualCmd cx tc st e c).2.2.grmax ∧
    (WidthsOk st → WidthsOk (dualCmd cx tc st e c).2.2) := by
  cases c with
  | step =>
    simp only [dualCmd]
    split
    · exact C12_dual_widths_monotone st _
    · exact ⟨Nat.le_refl _, Nat.le_refl _, id⟩
  | rewind =>
    simp only [dualCmd]
    split
    · exact C12_dual_widths_monotone st _
    · exact ⟨Nat.le_refl _, Nat.le_refl _, id⟩
  | «show» => exact C12_dual_widths_monotone st _

/-- the column widths of one display -/
def lcapOf (st : DualState) (e : IEnv) : Nat := capOf (printDualstack st e).2.glmax
def rcapOf (st : DualState) (e : IEnv) : Nat := capOf (printDualstack st e).2.grmax

theorem caps_bounds (st : DualState) (hw : WidthsOk st) (e : IEnv) :
    7 ≤ lcapOf st e ∧ lcapOf st e ≤ 66 ∧ 7 ≤ rcapOf st e ∧ rcapOf st e ≤ 66 := by
  obtain ⟨h1, h2⟩ := (C12_dual_widths_monotone st e).2.2 hw
  exact ⟨capOf_ge h1 (by omega), capOf_le66 _, capOf_ge h2 (by omega), capOf_le66 _⟩

/-- the display = two title rows, then the rows -/
theorem printDualstack_eq (st : DualState) (e : IEnv) :
    (printDualstack st e).1 =
      dualTitle (lcapOf st e) (rcapOf st e) ++
      dualRows (lcapOf st e) (rcapOf st e) ((dualLeft e).map Line.shown) (dualRight e) := rfl

/-- One column offset per display: every row of a display — the title row included — is a left cell of exactly
    `lcap + 1` characters, the separator `| `, and a right cell that is empty or has exactly `rcap` characters; the rule
    under the title has its `+` at the same offset -/
theorem C12_dual_rows (st : DualState) (hw : WidthsOk st) (e : IEnv) :
    (∀ row ∈ dualRows (lcapOf st e) (rcapOf st e) ((dualLeft e).map Line.shown) (dualRight e),
        RowShape (lcapOf st e) (rcapOf st e) row) ∧
    (∃ t1 t2, dualTitle (lcapOf st e) (rcapOf st e) = [t1, t2] ∧ RowShape (lcapOf st e) (rcapOf st e) t1 ∧
       t2 = List.replicate (lcapOf st e + 1) '-' ++ ['+', '-'] ++ List.replicate (rcapOf st e) '-') := by
  obtain ⟨h1, _, h3, _⟩ := caps_bounds st hw e
  refine ⟨dualRows_shape _ _ (by omega) (by omega) _ _, _, _, rfl, ?_, ?_⟩
  · refine ⟨_, _, rfl, padRight_length (by simp only [List.length_cons, List.length_nil]; omega),
      Or.inr (padLeft_length (by simp only [List.length_cons, List.length_nil]; omega))⟩
  · have : List.replicate (lcapOf st e + 1) '-' = List.replicate (lcapOf st e) '-' ++ ['-'] := by
      rw [List.replicate_succ']
    rw [this]; simp

/-- row `i` shows entry `i` of the left column beside entry `i` of the right column (a column that has run out
    is blank) -/
theorem C12_dual_row_content (st : DualState) (e : IEnv) (i : Nat)
    (h : i < max (dualLeft e).length (dualRight e).length) :
    (dualRows (lcapOf st e) (rcapOf st e) ((dualLeft e).map Line.shown) (dualRight e))[i]? =
      some (dualRow (lcapOf st e) (rcapOf st e) ((dualLeft e)[i]?.map Line.shown) (dualRight e)[i]?) := by
  rw [dualRows_get _ _ _ _ i (by simpa using h), List.getElem?_map]

/-- What a cell shows: every text of the left column and every text of the right column is shown in full when it has
    at most 66 characters, otherwise as its first 63 characters followed by `...` — whatever the widths inherited from
    earlier displays; the cut at 1023 characters made by the `buf[1024]` of svprintscripts never shows -/
theorem C12_dual_cells (st : DualState) (e : IEnv) :
    (∀ l ∈ dualLeft e, fit (lcapOf st e) l.shown = Spec.abbreviated Spec.columnCap l.text.toList) ∧
    (∀ s ∈ dualRight e, fit (rcapOf st e) s = Spec.abbreviated Spec.columnCap s) := by
  constructor
  · intro l hl
    apply fit_shown
    have h1 := maxLen_ge _ _ (List.mem_map_of_mem (f := Line.shown) hl)
    have := (printDualstack_widths st e).1
    rw [dualSv_lmax] at this
    omega
  · intro s hs
    apply fit_abbrev
    have h1 := maxLen_ge _ s hs
    have := (printDualstack_widths st e).2
    omega

/-- The right column is the stack, top first: outside the commitment phase its entries are the stack items from the
    top down, each in hex, the empty item as `0x` -/
theorem C12_dual_right_stack (e : IEnv) (h : e.tce = none) :
    dualRight e = (Spec.stackColumn e.see.stack).map String.toList := by
  simp only [dualRight, h, Spec.stackColumn, List.map_map]
  apply List.map_congr_left
  intro it _
  simp only [stackCell, Spec.itemText, Function.comp]
  split
  · rfl
  · simp [toHex]

/-- The right column spelled out for one row: outside the commitment phase row `i` of a display (below the title) ends in
    item `i` of the stack counted from the top, right-aligned to the column width, abbreviated if longer than 66 characters -/
theorem C12_dual_right_row (st : DualState) (e : IEnv) (h : e.tce = none) (i : Nat) (it : Bytes)
    (hit : e.see.stack.reverse[i]? = some it) :
    ∃ lc, (dualRows (lcapOf st e) (rcapOf st e) ((dualLeft e).map Line.shown) (dualRight e))[i]? =
      some (lc ++ ['|', ' '] ++ padLeft (rcapOf st e) (Spec.abbreviated Spec.columnCap (Spec.itemText it).toList)) := by
  have hr := C12_dual_right_stack e h
  have hget : (dualRight e)[i]? = some (Spec.itemText it).toList := by
    rw [hr]; simp only [Spec.stackColumn, List.getElem?_map, hit, Option.map_some]
  have hmem : (Spec.itemText it).toList ∈ dualRight e := List.mem_of_getElem? hget
  have hlt : i < (dualRight e).length := by
    cases hx : (dualRight e)[i]? with
    | none => rw [hx] at hget; cases hget
    | some v => exact (List.getElem?_eq_some_iff.mp hx).1
  rw [C12_dual_row_content st e i (by omega), hget]
  refine ⟨padRight (lcapOf st e + 1) (match (dualLeft e)[i]?.map Line.shown with | some s => fit (lcapOf st e) s | none => []), ?_⟩
  simp only [dualRow]
  rw [(C12_dual_cells st e).2 _ hmem]
  rfl

/-- everything a session displays, from the start-up display on (`none`: the command displayed nothing) -/
def exShow (e0 : Except ScriptError IEnv) (cmds : List DualCmd) : Option (List (Option (List (List Char)))) :=
  match e0 with
  | .ok e => some (dualSession exCx exTc (.show :: cmds) {} e)
  | .error _ => none

def exText (l : List (Option (List String))) : Option (List (Option (List (List Char)))) :=
  some (l.map (fun o => o.map (fun rows => rows.map String.toList)))

theorem dualLeft_shown (e : IEnv) : (dualLeft e).map Line.shown = leftTexts e := by
  unfold dualLeft leftTexts
  rw [dualSv_eq]
  split <;> simp [Sv.ext, dualTail, tceLines_shown, opLinesFrom_shown, List.map_flatMap, sectLines_shown]

theorem printDualstack_texts (st : DualState) (e : IEnv) : printDualstack st e = printTexts st e := by
  simp only [printDualstack, printTexts, dualSv_lmax, ← dualLeft_shown]; rfl

/-- the state each command of a session displays, if it displays one -/
def shownStates (cx : Ctx) (tc : TapCtx) : List DualCmd → IEnv → List (Option IEnv)
  | [], _ => []
  | .step :: cs, e =>
    (if (fnStep cx tc e).2 then some (fnStep cx tc e).1 else none) ::
      shownStates cx tc cs (if (fnStep cx tc e).2 then (fnStep cx tc e).1 else e)
  | .rewind :: cs, e => instRewind e :: shownStates cx tc cs ((instRewind e).getD e)
  | .show :: cs, e => some e :: shownStates cx tc cs e

def displays (print : DualState → IEnv → List (List Char) × DualState) :
    DualState → List (Option IEnv) → List (Option (List (List Char)))
  | _, [] => []
  | st, none :: es => none :: displays print st es
  | st, some e :: es => some (print st e).1 :: displays print (print st e).2 es

theorem dualSession_eq (cx : Ctx) (tc : TapCtx) : ∀ (cmds : List DualCmd) (st : DualState) (e : IEnv),
    dualSession cx tc cmds st e = displays printTexts st (shownStates cx tc cmds e) := by
  intro cmds
  induction cmds with
  | nil => intro st e; rfl
  | cons c cs ih =>
    intro st e
    cases c with
    | step => simp only [dualSession, dualCmd, shownStates]; split <;> simp only [displays, ih, printDualstack_texts]
    | rewind =>
      simp only [dualSession, dualCmd, shownStates]
      cases instRewind e <;> simp only [displays, ih, printDualstack_texts, Option.getD]
    | «show» => simp only [dualSession, dualCmd, shownStates, displays, ih, printDualstack_texts]

/-- a test vector of the display is evaluated on characters -/
theorem exShow_texts (e0 : Except ScriptError IEnv) (cmds : List DualCmd) :
    exShow e0 cmds = (match e0 with
      | .ok e => some (displays printTexts {} (shownStates exCx exTc (.show :: cmds) e))
      | .error _ => none) := by
  cases e0 <;> simp only [exShow, dualSession_eq]

/-- `OP_0 OP_VERIFY OP_5`: the empty item is shown as `0x`; the failing second step displays nothing and leaves the
    widths alone; after the rewind the first line is again the first instruction -/
example : exShow exFail [.step, .step, .rewind] = exText
    [some ["script    |  stack ", "----------+--------", "0         | ", "OP_VERIFY | ", "5         | "],
     some ["script    |  stack ", "----------+--------", "OP_VERIFY |      0x", "5         | "],
     none,
     some ["script    |  stack ", "----------+--------", "0         | ", "OP_VERIFY | ", "5         | "]] := by
  -- a literal is by definition `String.ofList` of its characters: `String.toList_ofList` turns the expected rows into
  -- lists of characters without evaluating `String.toList`
  rw [exShow_texts]
  simp only [exText, List.map_cons, List.map_nil, Option.map_some, Option.map_none]
  repeat rw [String.toList_ofList]
  decide +kernel

/-- taproot script path with two path nodes, script `OP_1 OP_2`: the commitment section lists the steps still to be taken
    (`i:` counts the ones taken), texts longer than 66 characters are cut to 63 and `...`, and the widths reached during
    the commitment phase stay for the rest of the process -/
example : exShow exTap [.step, .step, .step, .step] = exText
    [some ["script                                                             |      stack ",
           "-------------------------------------------------------------------+------------",
           "<<< taproot commitment >>>                                         |        i: 0",
           "Branch: 2222222222222222222222222222222222222222222222222222222... | k: c0025152",
           "Branch: 3333333333333333333333333333333333333333333333333333333... | ",
           "CheckTapTweak: 111111111111111111111111111111111111111111111111... | ",
           "<<< committed script >>>                                           | ",
           "1                                                                  | ",
           "2                                                                  | "],
     some ["script                                                             |                                                             stack ",
           "-------------------------------------------------------------------+-------------------------------------------------------------------",
           "<<< taproot commitment >>>                                         |                                                               i: 1",
           "Branch: 3333333333333333333333333333333333333333333333333333333... | k: 222222222222222222222222222222222222222222222222222222222222...",
           "CheckTapTweak: 111111111111111111111111111111111111111111111111... | ",
           "<<< committed script >>>                                           | ",
           "1                                                                  | ",
           "2                                                                  | "],
     some ["script                                                             |                                                             stack ",
           "-------------------------------------------------------------------+-------------------------------------------------------------------",
           "<<< taproot commitment >>>                                         |                                                               i: 2",
           "CheckTapTweak: 111111111111111111111111111111111111111111111111... | k: 222222222222222222222222222222222222222222222222222222222222...",
           "<<< committed script >>>                                           | ",
           "1                                                                  | ",
           "2                                                                  | "],
     some ["script                                                             |                                                             stack ",
           "-------------------------------------------------------------------+-------------------------------------------------------------------",
           "1                                                                  | ",
           "2                                                                  | "],
     some ["script                                                             |                                                             stack ",
           "-------------------------------------------------------------------+-------------------------------------------------------------------",
           "2                                                                  |                                                                 01"]] := by
  rw [exShow_texts]
  simp only [exText, List.map_cons, List.map_nil, Option.map_some]
  repeat rw [String.toList_ofList]
  decide +kernel

/-- the conclusion of `C12_dual_left_session` and the hypothesis `hstack`, checked by evaluation at one point of a session -/
def exAgree (e0 : Except ScriptError IEnv) (cmds : List C04.Cmd) : Bool :=
  match e0 with
  | .ok e0 =>
    let e := runCmds exCx exTc cmds e0
    !dualStale e && decide ((leftOps e).map Line.plan = Spec.remaining (lastPayload e0.see.script) e) &&
      decide ((Spec.remaining (lastPayload e0.see.script) e).head? = Spec.pending e) && (!e.isP2sh || !e.p2shStack.isEmpty)
  | .error _ => false

/-- P2SH spend (`C12.exP2sh`): at the start, inside the scriptSig, at both hand-overs, inside the scriptPubKey and at the
    start of the redeem script — with rewinds — the left column is what remains to be executed; at the start it has 27 lines -/
example : ([[], [.step], [.step, .step], [.step, .step, .step, .step, .step], [.step, .step, .step, .step, .step, .step],
            [.step, .step, .step, .rewind, .step, .step, .step, .step, .rewind]].map (exAgree exP2sh)).all id = true := by
  decide +kernel

example : (match exP2sh with | .ok e0 => (dualLeft e0).length | .error _ => 0) = 27 := by decide +kernel

/-- … and along the taproot session, commitment phase included -/
example : ((List.range 7).map (fun k => exAgree exTap (List.replicate k .step))).all id = true := by decide +kernel

/-- the ended state: nothing is listed, the rows show the final stack only -/
example : (match exTap with
    | .ok e0 => let e := runCmds exCx exTc (List.replicate 6 .step) e0; (e.done, dualLeft e, dualRight e)
    | .error _ => (false, [], [])) = (true, [], [['0', '2'], ['0', '1']]) := by decide +kernel

/-- the scriptSig of a P2SH spend ends in `OP_1NEGATE` (redeem script `0x81` = `OP_RIGHT`): the section announced for the
    redeem script lists `OP_RIGHT` from the start (the case the display got wrong before 9bb9088) -/
def exNeg : Except ScriptError IEnv :=
  setupEnvironment [] [0x51, 0x4f] 1 .BASE ([0xa9, 0x14] ++ (0x81 :: List.replicate 19 0) ++ [0x87]) false {} none [] []
example : (match exNeg with | .ok e0 => (dualLeft e0).map (·.text) | .error _ => []) =
    ["1", "-1", "<<< scriptPubKey >>>", "OP_HASH160", "8100000000000000000000000000000000000000", "OP_EQUAL",
     "<<< P2SH script >>>", "OP_RIGHT"] := by decide +kernel
example : ([[], [.step], [.step, .step], [.step, .step, .step]].map (exAgree exNeg)).all id = true := by decide +kernel

/-- a push of 40 bytes: 80 hex characters are shown as 63 and `...` in a column of 66, in the script and — after the step —
    on the stack -/
def exLong : Except ScriptError IEnv :=
  setupEnvironment [] (0x28 :: List.replicate 40 0xab ++ [0x51]) 0 .BASE [] false {} none [] []
example : exShow exLong [.step] = exText
    [some ["script                                                             |  stack ",
           "-------------------------------------------------------------------+--------",
           "abababababababababababababababababababababababababababababababa... | ",
           "1                                                                  | "],
     some ["script                                                             |                                                             stack ",
           "-------------------------------------------------------------------+-------------------------------------------------------------------",
           "1                                                                  | abababababababababababababababababababababababababababababababa..."]] := by
  rw [exShow_texts]
  simp only [exText, List.map_cons, List.map_nil, Option.map_some]
  repeat rw [String.toList_ofList]
  decide +kernel

end Btcdeb.Proofs.C12Dual
