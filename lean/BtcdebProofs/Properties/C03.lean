/-
  C03 — a `--tx`/`--txin` session reproduces consensus validation of that input.

  Model: `parseInputTransaction`, `configureTxTxin` (Model/Spend.lean), `setupEnvironment`, `stepSession`,
  `continueScript` (Model/Session.lean), verdict `sessionValid` (Model/Verdict.lean).
  Specification: `Spec.verifyScript` (Spec/Verify.lean; in normal form in Lemmas/SpecVerify.lean), `Spec.spendingInput`
  (Spec/TxOracle.lean).
  Hypothesis of every theorem about a session here: the session's signature checker and hash functions agree with the
  specification's oracle (`CheckerAgrees`, i.e. the refinement relation `CfgRel` for the script environments of the session), and
  `C05.Agree` for the taproot commitment functions.  (The theorems about `parse_input_transaction` and `configure_tx_txin`
  alone — `C03_select*`, `C03_shape_complete`, `C03_legacy_refused_*`, `C03_witness_not_p2sh` — need neither.)  Of the
  checker the session really builds `CfgRel` is false as a function equality (`C02.no_cfgRel_tx`); Properties/C03Tx.lean
  carries the theorems over to that checker (`C03_verdict_tx`, `C03_verdict_session`).
  The output types, by the letters the docstrings use: (a) legacy, (b) P2SH, (c) native P2WSH / P2WPKH, (d) P2SH-wrapped
  P2WSH / P2WPKH, (d') a witness behind a scriptSig on an output that is not P2SH, (e) taproot key path, (f) tapscript.
  The names `hnw`, `hP`, `hW`, `hT`, `hlv`, `hns`, `hnz` below are those of the hypotheses in the property theorems' statements.
  Vocabulary from Lemmas/Phases.lean: `Ends cx tc e N r` — the session started at `e` stops with result `r` for every fuel
  from `N` on; `PhaseRelS m r` — a script phase of the session and the specification's evaluation of that script both fail,
  or end with the same main stack; `conf`, `outer` — the parts of the environment that the operations of a script leave alone.

  The tx-level theorems have the form `Agrees …`: a refusal (`configure_tx_txin` / `setup_environment` return false)
  only for an input validation rejects; otherwise `sessionValid … (continueScript … n e0) = true ↔ verifyScript … = .ok ()`
  for every fuel `n ≥ continueFuel e0` (`sessionFuel e0 = continueFuel e0 + 519` for P2SH, whose redeem script is
  not known at the start).

  Regions excluded by hypothesis, each a recorded finding (KNOWN_FINDINGS.txt):
    * `hnw` in (a)/(b) (`witnessProgram spk = none ∨ ¬WITNESS`, redeem script not a witness program) ↔ F-C03-empty-witness:
      a witness program spent with an empty witness is run as a legacy script.
    * `NoUndefinedOpcode` (scriptSig / witness script / tapscript leaf) ↔ F-C03-undefined-opcode-refused: an undefined opcode
      (0xbb..0xff, in tapscript 0xff) in a branch that is not executed is refused by `HasValidOps`; validation accepts it.
      scriptSig 0063bb6851, scriptPubKey 5187, no witness, standard flags: REFUSED:configure vs VALID.
    * `spk ≠ []` in (a) ↔ F-C03-empty-scriptpubkey: with an empty scriptPubKey the scriptSig is not recognised as one and
      SIGPUSHONLY is not applied.  scriptSig 5161, scriptPubKey empty, flags STANDARD|SIGPUSHONLY: VALID vs SIG_PUSHONLY.
    * flags `hP` / `hW` / `hT` in (b)–(f) ↔ F-C03-witness-flag-off: the flags are not known to `configure_tx_txin`; with WITNESS
      (P2SH, TAPROOT) off validation ignores the witness, the debugger does not.  P2WSH output, witness script 00,
      witness [00], flags without WITNESS/CLEANSTACK/TAPROOT: INVALID vs VALID.
    * `hlv` (leaf version 0xc0) in (f), and what `configure_tx_txin` refuses: witness versions 2..16, `OP_1 <20 bytes>`
      ↔ F-C03-future-witness-version.
    * outside `Shape`, and not excluded by `C03_shape_complete`: a P2SH-wrapped `OP_1 <32 bytes>` (run as a taproot key path;
      BIP341 leaves it unencumbered) ↔ F-C03-p2sh-wrapped-v1.
    * `hns` (`hasOpSuccess = false`) in (f) ↔ F-C03-op-success-refused.
    * `CheckerAgrees` fails of the implementation's checker for taproot inputs of multi-input transactions
      ↔ F-C03-multi-input-taproot.
    * `hnz` (`Spec.toBool prog = true`): validation applies `CastToBool` to what the scriptPubKey / redeem script leaves, i.e.
      to the witness program itself; an all-zero program fails there and the debugger does not look.  Unreachable without a
      hash preimage / a curve point with x = 0; not a recorded finding.
  A scriptPubKey above 10,000 bytes answers SCRIPT_SIZE at the hand-over (`end_succ_size`; `legacy_handover` covers it), and
  P2SH-wrapped detection requires `IsPayToScriptHash`: `C03_witness_not_p2sh` proves that a witness behind a scriptSig on any
  other output is refused by the debugger and rejected by validation.
-/
import Btcdeb
import Btcdeb.Model.Verdict
import BtcdebProofs.Lemmas.Phases
import BtcdebProofs.Lemmas.SpecVerify
import BtcdebProofs.Properties.C01
import BtcdebProofs.Properties.C05
namespace Btcdeb.Proofs.C03
open Btcdeb Btcdeb.Model Btcdeb.Refine Btcdeb.Proofs.Phases Btcdeb.Proofs.Shapes Btcdeb.Proofs.SpecCore
open Btcdeb.Proofs.SpecEval

/-- Hypothesis of the property theorems: the session's signature checker and hash functions (`cx`) agree with the
    specification's oracle for scripts run under `sv` with the given annex and leaf hash — the refinement relation
    `CfgRel` holds for every script environment of such a session (no mock signatures, no re-enabled opcodes). -/
def CheckerAgrees (cx : Ctx) (sc : Spec.SpendCtx) (flags : Nat) (sv : SigVersion) (annex leaf : Option Bytes) : Prop :=
  ∀ e : SEE, conf e = (flags, sv, hasFlag flags Flag.MINIMALDATA, false, [], []) →
    CfgRel cx e (specCfg sc flags sv annex leaf)

theorem rThrow_bind {α β} (x : ScriptError) (f : α → Spec.R β) : ((throw x : Spec.R α) >>= f) = .error x := rfl

theorem sessionValid_error (flags : Nat) (sv : SigVersion) (x : StepErr) : sessionValid flags sv (.error x) = false := rfl

theorem invalid_of_ends_error {cx : Ctx} {tc : TapCtx} {e : IEnv} {N : Nat} {x : StepErr} (flags : Nat) (sv : SigVersion)
    (h : Ends cx tc e N (.error x)) (n : Nat) (hn : N ≤ n) :
    sessionValid flags sv (continueScript cx tc n e) = false := by
  rw [h.2 n hn]; rfl

theorem verdict_of_stack (flags : Nat) (sv : SigVersion) (e : IEnv) (st : Spec.St) (h : e.see.stack = st.stack.reverse) :
    sessionValid flags sv (.ok e) = specOk (finalChecks flags sv st) := by
  unfold sessionValid finalChecks Spec.evalTrue
  simp only [h, List.getLast?_reverse, List.length_reverse]
  cases hs : st.stack with
  | nil => simp [specOk, throw_eq, Btcdeb.error_bind]
  | cons t rest =>
    simp only [List.head?_cons, castToBool_eq_toBool]
    cases ht : Spec.toBool t
    · simp [specOk, throw_eq, Btcdeb.error_bind]
    · simp only [Bool.true_and, if_true]
      cases hc : ((sv != .BASE || hasFlag flags Flag.CLEANSTACK) && (t :: rest).length != 1)
      · simp [specOk]
      · simp [specOk]

theorem ends_finish {cx : Ctx} {tc : TapCtx} {e : IEnv} (ht : e.tce = none) (hd : e.done = false) (hpc : e.pc = [])
    (hc : e.see.cond.empty = true) (hp : e.isP2sh = false) (hs : e.successor = []) :
    Ends cx tc e 1 (.ok { e with done := true }) := by
  have hstep := end_finish cx tc e ht hpc hc hp hs
  exact ends_step hd hstep (ends_done cx tc _ rfl)

theorem last_phase {cx : Ctx} {tc : TapCtx} {e : IEnv} {r : Spec.R Spec.St} (flags : Nat) (sv : SigVersion)
    (ht : e.tce = none) (hd : e.done = false) (hp : e.isP2sh = false) (hs : e.successor = [])
    (h : PhaseRelS (phaseResult cx tc e) r) :
    ∃ res, Ends cx tc e (e.pc.length + 1) res ∧ sessionValid flags sv res = specOk (r >>= finalChecks flags sv) := by
  rcases phase_outcome ht hd h with ⟨x, y, rfl, hE⟩ | ⟨e', st', rfl, hst, hc, hpc, ho, _, hE⟩
  · exact ⟨_, hE, rfl⟩
  · have hfin := hE _ _ (ends_finish ((outer_tce ho).trans ht) ((outer_done ho).trans hd) hpc (by rw [hc]; rfl)
      ((outer_isP2sh ho).trans hp) ((outer_successor ho).trans hs))
    exact ⟨_, ends_weaken hfin (by omega), verdict_of_stack flags sv _ st' hst⟩

/-- A legacy session after the scriptSig and the hand-over step.  Either it has failed — and validation rejects, whatever
    the witness: the scriptSig fails, or the scriptPubKey has more than 10,000 bytes (SCRIPT_SIZE on both sides) — or it
    stands at the start of the scriptPubKey on the stack the scriptSig left, the scriptSig recorded. -/
theorem legacy_handover (cx : Ctx) (tc : TapCtx) (sc : Spec.SpendCtx) (flags : Nat) (sig spk : Bytes) (e0 : IEnv)
    (hag : CheckerAgrees cx sc flags .BASE none none)
    (hsetup : setupEnvironment [] sig flags .BASE spk false {} none [] [] = .ok e0)
    (hspk : spk ≠ []) :
    ((∃ x, Ends cx tc e0 (sig.length + 2) (.error x)) ∧ ∀ w, specOk (Spec.verifyScript sc flags sig spk w) = false) ∨
    ∃ e1 s1, Spec.runScript sc flags .BASE none none sig {} = .ok s1 ∧
      (∀ N r, Ends cx tc e1 N r → Ends cx tc e0 (N + sig.length + 1) r) ∧
      PhaseRelS (phaseResult cx tc e1) (Spec.runScript sc flags .BASE none none spk { stack := s1.stack }) ∧
      e1.pc = spk ∧ conf e1.see = (flags, .BASE, hasFlag flags Flag.MINIMALDATA, false, [], []) ∧
      e1.done = false ∧ e1.isP2sh = p2shPattern flags spk ∧
      e1.p2shStack = (if p2shPattern flags spk then s1.stack.reverse else []) ∧ e1.successor = [] ∧
      e1.sigscriptExecuted = true ∧ e1.sigscriptPushonly = isPushOnly sig ∧ e1.tce = none ∧ e1.see.script = spk := by
  obtain ⟨hsz, _, _, he0⟩ := setup_ok hsetup
  have h10k := Tables.max_script_size
  have hsiglen : sig.length ≤ Spec.maxScriptSize := by rw [h10k] at hsz; simpa using hsz
  subst he0
  have hd0 : (setupEnv [] sig flags .BASE spk {} none).done = false := by
    have : spk.isEmpty = false := by simpa using hspk
    simp [setupEnv, this]
  have h1 := phase_base cx tc (specCfg sc flags .BASE none none) (setupEnv [] sig flags .BASE spk {} none) []
    (Or.inl rfl) rfl (hag _ rfl) rfl rfl rfl rfl rfl hsiglen
  rcases phase_outcome rfl hd0 h1 with ⟨x, y, hr1, hE⟩ | ⟨e1, s1, hr1, hst1, hcond1, hpc1, hout1, hconf1, hends1⟩
  · exact Or.inl ⟨⟨x, ends_weaken hE (by show sig.length + 1 ≤ _; omega)⟩, fun w => verify_sig_fail sc flags sig spk w y hr1⟩
  · have hd1 : e1.done = false := (outer_done hout1).trans hd0
    have ht1 : e1.tce = none := outer_tce hout1
    have hce1 : e1.see.cond.empty = true := by rw [hcond1]; rfl
    have hflags1 : e1.see.flags = flags := congrArg (·.1) hconf1
    -- the scriptSig is not of the P2SH form: such a script fails on the empty stack
    have hnp : e1.isP2sh = false := by
      rw [outer_isP2sh hout1]
      show p2shPattern flags sig = false
      cases hp : p2shPattern flags sig with
      | false => rfl
      | true =>
        rw [p2shPattern_eq] at hp
        simp only [Bool.and_eq_true] at hp
        obtain ⟨rest, rfl⟩ := isP2SH_head sig hp.2
        exact (hash160_first_fails _ rest s1 hr1).elim
    have hsucc : e1.successor = spk := outer_successor hout1
    by_cases hspklen : spk.length > Spec.maxScriptSize
    · -- above 10,000 bytes both sides answer SCRIPT_SIZE at the hand-over
      have hstepE := end_succ_size cx tc e1 ht1 hpc1 hce1 hnp (by rw [hsucc, h10k]; exact hspklen)
      have hr2 : Spec.runScript sc flags .BASE none none spk { stack := s1.stack } = .error .SCRIPT_SIZE := by
        rw [runScript_eq, evalScript_result]
        have : ((specCfg sc flags .BASE none none).sigversion == .BASE ||
            (specCfg sc flags .BASE none none).sigversion == .WITNESS_V0) = true := rfl
        simp only [this, hspklen, decide_true, Bool.and_self, if_true]
      exact Or.inl ⟨⟨_, ends_weaken (hends1 _ _ (ends_step_err cx tc e1 _ hd1 hstepE)) (by show 1 + sig.length ≤ _; omega)⟩,
        fun w => verify_spk_fail sc flags sig spk w s1 _ hr1 hr2⟩
    · have hstep := end_succ cx tc e1 ht1 hpc1 hce1 hnp (by rw [hsucc]; exact hspk) (by rw [hsucc, h10k]; omega)
      rw [hflags1, hsucc] at hstep
      refine Or.inr ⟨_, s1, hr1,
        fun N r hE => ends_weaken (hends1 _ _ (ends_step hd1 hstep hE)) (by show N + 1 + sig.length ≤ _; omega),
        phase_base cx tc (specCfg sc flags .BASE none none) _ s1.stack (Or.inl rfl) ht1 (hag _ hconf1) hst1 rfl hcond1 rfl rfl
          (by show spk.length ≤ _; omega),
        rfl, hconf1, hd1, rfl, ?_, rfl, rfl, congrArg isPushOnly (outer_script hout1), ht1, rfl⟩
      have hps : e1.p2shStack = [] := by rw [outer_p2shStack hout1]; show (if _ then [] else []) = []; split <;> rfl
      show (if _ then e1.see.stack else e1.p2shStack) = _
      rw [hst1, hps]

/-- **C03 (a), legacy outputs** (bare scripts, P2PK, P2PKH, multisig, anything that is not P2SH / a witness program),
    empty witness.  The session runs the scriptSig, then the scriptPubKey on the stack it left, and its verdict is
    `VerifyScript`'s — including SIGPUSHONLY and CLEANSTACK — for every fuel that lets it finish.
    A scriptPubKey above 10,000 bytes fails with SCRIPT_SIZE on both sides.
    Excluded by hypothesis (see the findings in the header): an empty scriptPubKey (F-C03-empty-scriptpubkey),
    a witness program under the WITNESS flag (F-C03-empty-witness). -/
theorem C03_legacy (cx : Ctx) (tc : TapCtx) (sc : Spec.SpendCtx) (flags : Nat) (sig spk : Bytes) (e0 : IEnv)
    (hag : CheckerAgrees cx sc flags .BASE none none)
    (hsetup : setupEnvironment [] sig flags .BASE spk false {} none [] [] = .ok e0)
    (hspk : spk ≠ [])
    (hnw : Spec.witnessProgram spk = none ∨ hasFlag flags Flag.WITNESS = false)
    (hnp : (hasFlag flags Flag.P2SH && Spec.isP2SH spk) = false)
    (n : Nat) (hn : sig.length + spk.length + 2 ≤ n) :
    sessionValid flags .BASE (continueScript cx tc n e0) = specOk (Spec.verifyScript sc flags sig spk []) := by
  obtain ⟨_, hpo, _, _⟩ := setup_ok hsetup
  have hpo' : (hasFlag flags Flag.SIGPUSHONLY && !Spec.isPushOnly sig) = false := by
    have : spk.isEmpty = false := by simpa using hspk
    rw [this, isPushOnly_eq] at hpo
    simpa using hpo
  rcases legacy_handover cx tc sc flags sig spk e0 hag hsetup hspk with
    ⟨⟨x, hE⟩, hv⟩ | ⟨e1, s1, hr1, hE1, hph, hpc1, _, hd1, hp1, _, hsu1, _, _, ht1, _⟩
  · rw [hv, invalid_of_ends_error flags .BASE hE n (by omega)]
  · obtain ⟨res, hEr, hval⟩ := last_phase flags .BASE ht1 hd1 (by rw [hp1, p2shPattern_eq]; exact hnp) hsu1 hph
    rw [(hE1 _ _ hEr).2 n (by rw [hpc1]; omega), hval, verify_legacy sc flags sig spk hnw hnp]
    simp only [hpo', Bool.false_eq_true, if_false, hr1, Btcdeb.ok_bind]

/-- `C03_legacy` at the fuel `continueFuel e0`, as an equivalence with `VerifyScript`'s answer -/
theorem C03_legacy_iff (cx : Ctx) (tc : TapCtx) (sc : Spec.SpendCtx) (flags : Nat) (sig spk : Bytes) (e0 : IEnv)
    (hag : CheckerAgrees cx sc flags .BASE none none)
    (hsetup : setupEnvironment [] sig flags .BASE spk false {} none [] [] = .ok e0)
    (hspk : spk ≠ [])
    (hnw : Spec.witnessProgram spk = none ∨ hasFlag flags Flag.WITNESS = false)
    (hnp : (hasFlag flags Flag.P2SH && Spec.isP2SH spk) = false) :
    sessionValid flags .BASE (continueScript cx tc (continueFuel e0) e0) = true ↔
      Spec.verifyScript sc flags sig spk [] = .ok () := by
  rw [← specOk_iff]
  have hfuel : sig.length + spk.length + 2 ≤ continueFuel e0 := by
    obtain ⟨_, _, _, he0⟩ := setup_ok hsetup
    subst he0
    simp only [continueFuel, setupEnv]
    omega
  rw [C03_legacy cx tc sc flags sig spk e0 hag hsetup hspk hnw hnp _ hfuel]

/-- a script every instruction of which is a defined opcode (what `HasValidOps` additionally insists on, beyond what
    evaluation needs, is `opcode ≤ MAX_OPCODE` for instructions in branches that are not executed) -/
def NoUndefinedOpcode (s : Bytes) : Prop :=
  ∀ p ∈ (Spec.decodePrefix s.length s).1, p.1.opcode ≤ Gen.MAX_OPCODE

/-- a script that validation evaluates without error decodes completely and has no push above 520 bytes: with
    defined opcodes only, it passes `HasValidOps` -/
theorem hasValidOps_of_eval_ok (cfg : Spec.Cfg) (s : Bytes) (st0 st' : Spec.St) (hdef : NoUndefinedOpcode s)
    (h : (Spec.evalScript cfg s st0).result = .ok st') : hasValidOps s = true := by
  obtain ⟨_, hd, hx, _⟩ := evalScript_ok h
  rw [C01.gate_is_domain]
  unfold Spec.inDomain Spec.decode Spec.decodeWithRest
  simp only [hd, if_true, Option.map_some, List.all_map, List.all_eq_true]
  intro p hp
  simp only [Function.comp, Bool.and_eq_true, decide_eq_true_eq]
  exact ⟨hdef p hp, evalInstrs_ok_pushsize cfg _ _ _ _ hx p hp⟩

/-- **C03 (a), refusal by `configure_tx_txin`.**  A legacy input is refused only for a scriptSig that fails `HasValidOps`;
    if all its opcodes are defined ones, validation rejects the input as well. -/
theorem C03_legacy_refused_configure (h : HashCtx) (tc : TapCtx) (tx txin : Tx) (idx vout : Nat) (sv0 : SigVersion)
    (inp : TxIn) (spent : TxOut) (hinp : tx.vin[idx]? = some inp) (hspent : txin.vout[vout]? = some spent)
    (hw : inp.witness = []) (hdef : NoUndefinedOpcode inp.scriptSig)
    (hnone : configureTxTxin h tc tx txin idx vout sv0 = none) (sc : Spec.SpendCtx) (flags : Nat) :
    specOk (Spec.verifyScript sc flags inp.scriptSig spent.scriptPubKey inp.witness) = false := by
  rw [configureTxTxin_legacy hinp hspent hw] at hnone
  cases hv : hasValidOps inp.scriptSig with
  | true => rw [hv] at hnone; cases hnone
  | false =>
    cases hr : Spec.runScript sc flags .BASE none none inp.scriptSig {} with
    | error y => exact verify_sig_fail sc flags _ _ _ y hr
    | ok s1 =>
      rw [runScript_eq] at hr
      rw [hasValidOps_of_eval_ok _ _ _ _ hdef hr] at hv
      cases hv

/-- **C03 (a), refusal by `setup_environment`.**  A legacy session that `setup_environment` refuses to start (scriptSig
    above 10,000 bytes; SIGPUSHONLY with a scriptSig that is not push-only) is an input validation rejects. -/
theorem C03_legacy_refused_setup (sc : Spec.SpendCtx) (flags : Nat) (sig spk : Bytes) (w : List Bytes) (err : ScriptError)
    (hsetup : setupEnvironment [] sig flags .BASE spk false {} none [] [] = .error err) :
    specOk (Spec.verifyScript sc flags sig spk w) = false := by
  rw [setup_eq] at hsetup
  split at hsetup
  · rename_i hsz
    cases hr : Spec.runScript sc flags .BASE none none sig {} with
    | error y => exact verify_sig_fail sc flags _ _ _ y hr
    | ok s1 =>
      exfalso
      rw [runScript_eq, evalScript_result] at hr
      have h10k := Tables.max_script_size
      rw [h10k] at hsz
      simp only [Bool.and_eq_true, decide_eq_true_eq] at hsz
      have : ((specCfg sc flags .BASE none none).sigversion == .BASE || (specCfg sc flags .BASE none none).sigversion == .WITNESS_V0) = true := rfl
      simp [this, hsz.2] at hr
  · split at hsetup
    · rename_i hpo
      refine verify_pushonly_fail sc flags sig spk w ?_ ▸ rfl
      simp only [Bool.and_eq_true] at hpo ⊢
      rw [← isPushOnly_eq]
      exact ⟨hpo.1.2, hpo.2⟩
    · split at hsetup
      · rename_i hx; simp at hx
      · cases hsetup

theorem single_script_session (cx : Ctx) (tc : TapCtx) (cfg : Spec.Cfg) (e : IEnv) (st0 : Spec.St) (flags : Nat) (sv : SigVersion)
    (ht : e.tce = none) (hp : e.isP2sh = false) (hs : e.successor = []) (hdone : e.done = true → e.pc = [])
    (hc : CfgRel cx e.see cfg) (hrel : Rel e.see { st0 with codeFrom := e.pc }) (hcond0 : st0.cond = [])
    (hpos : e.see.opcodePos = 0)
    (hw : e.see.sigversion = .TAPSCRIPT → e.see.execdata.weightInit = true)
    (hlen : (cfg.sigversion = .BASE ∨ cfg.sigversion = .WITNESS_V0) → e.pc.length ≤ Spec.maxScriptSize) :
    ∃ r, Ends cx tc e (e.pc.length + 1) r ∧
      sessionValid flags sv r = specOk ((Spec.evalScript cfg e.pc st0).result >>= finalChecks flags sv) := by
  by_cases hd' : e.done = true
  · -- the empty script: the session is done before the first step
    have hemp := hdone hd'
    have hd := hd'
    refine ⟨.ok e, ends_weaken (ends_done cx tc e hd) (by omega), ?_⟩
    have hev : (Spec.evalScript cfg e.pc st0).result = .ok { st0 with codeFrom := e.pc } := by
      rw [evalScript_result, hemp]
      simp [evalFrom_nil, hcond0, Spec.maxScriptSize]
    rw [hev]
    simp only [Btcdeb.ok_bind]
    exact verdict_of_stack flags sv e _ hrel.stack
  · exact last_phase flags sv ht (by simpa using hd') hp hs (phase_alignedS cx tc cfg e st0 ht hc hrel hpos hw hlen)

/-- the commitment phase of a tapscript session: `Iterate()` is called until it stops answering `processing` -/
theorem commit_phase (cx : Ctx) (tc : TapCtx) : ∀ (k : Nat) (e : IEnv) (t : Tce), e.tce = some t → e.done = false →
    match Tce.run tc k t with
    | (.failed, _) => Ends cx tc e k (.error (.script .WITNESS_PROGRAM_MISMATCH))
    | (.done, _) => ∃ e', (∀ N r, Ends cx tc e' N r → Ends cx tc e (N + k) r) ∧ e'.tce = none ∧ e'.done = false ∧
        e'.pc = e.pc ∧ e'.isP2sh = e.isP2sh ∧ e'.successor = e.successor ∧
        e'.see = { e.see with execdata := { e.see.execdata with tapleafHash := t.leaf, tapleafHashInit := true } }
    | (.processing, _) => True := by
  intro k
  induction k with
  | zero => intro e t _ _; simp [Tce.run]
  | succ k ih =>
    intro e t ht hd
    have hs := stepSession_commit cx tc ht
    simp only [Tce.run]
    rcases hit : t.iterate tc with ⟨_ | _ | _, t1⟩ <;> rw [hit] at hs <;> simp only
    · -- one more Merkle step, then the rest of the phase
      have := ih { e with tce := some t1, currOpSeq := e.currOpSeq + 1 } t1 rfl hd
      rcases hr : Tce.run tc k t1 with ⟨_ | _ | _, t2⟩ <;> rw [hr] at this <;> simp only at this ⊢
      · exact ends_weaken (ends_step hd hs this) (by omega)
      · obtain ⟨e', h1, h2, h3, h4, h5, h6, h7⟩ := this
        exact ⟨e', fun N r hE => ends_weaken (ends_step hd hs (h1 N r hE)) (by omega), h2, h3, h4, h5, h6,
          by rw [h7, Btcdeb.Proofs.Tce.iterate_leaf hit]⟩
    · exact ends_weaken (ends_step_err cx tc e _ hd hs) (by omega)
    · exact ⟨_, fun N r hE => ends_weaken (ends_step hd hs hE) (by omega), rfl, hd, rfl, rfl, rfl,
        by rw [Btcdeb.Proofs.Tce.iterate_leaf hit]⟩

/-- **a session on one witness script**, after the commitment phase if it has one: it is valid iff the commitment holds
    (`valid`: what `Iterate()` answers in the end) and the script, evaluated on the witness items, leaves exactly one true
    element.  `hcs`: `Rel` wants the code-separator position of the execution data at the specification's start value,
    0xFFFFFFFF; that is the default of `ExecData`, and `configure_tx_txin` leaves it alone. -/
theorem script_session (tc : TapCtx) (cx : Ctx) (sc : Spec.SpendCtx) (flags : Nat) (sv : SigVersion)
    (annex leaf : Option Bytes) (items : List Bytes) (script : Bytes) (ed : ExecData) (tce : Option Tce) (valid : Bool)
    (hsv : sv ≠ .BASE) (hag : CheckerAgrees cx sc flags sv annex leaf)
    (hcs : ed.codesepPos = 0xFFFFFFFF) (hwi : sv = .TAPSCRIPT → ed.weightInit = true)
    (hlen : sv = .WITNESS_V0 → script.length ≤ Spec.maxScriptSize)
    (hcommit : match tce with
      | none => valid = true
      | some t => (Tce.run tc (t.pathLen + 1) t).1 = if valid then .done else .failed)
    (n : Nat) (hn : continueFuel (setupEnv items script flags sv [] ed tce) ≤ n) :
    sessionValid flags sv (continueScript cx tc n (setupEnv items script flags sv [] ed tce)) = true ↔
      valid = true ∧ (Spec.runScript sc flags sv annex leaf script
        { stack := items.reverse, weightLeft := ed.weightLeft, weightInit := ed.weightInit } >>= ewsFinal) = .ok () := by
  have hbase : (sv == SigVersion.BASE) = false := by simpa using hsv
  -- the script itself, from a state that differs from the start state in the commitment bookkeeping only
  have hscript : ∀ (e : IEnv) (lh : Bytes) (li : Bool), e.tce = none → e.isP2sh = false → e.successor = [] →
      (e.done = true → script = []) → e.pc = script →
      e.see = { (setupEnv items script flags sv [] ed none).see with
                execdata := { ed with tapleafHash := lh, tapleafHashInit := li } } →
      ∃ r, Ends cx tc e (script.length + 1) r ∧ (sessionValid flags sv r = true ↔
        (Spec.runScript sc flags sv annex leaf script
          { stack := items.reverse, weightLeft := ed.weightLeft, weightInit := ed.weightInit } >>= ewsFinal) = .ok ()) := by
    intro e lh li ht hp hs hdone hpc hsee
    obtain ⟨r, hE, hv⟩ := single_script_session cx tc (specCfg sc flags sv annex leaf) e
      { stack := items.reverse, weightLeft := ed.weightLeft, weightInit := ed.weightInit } flags sv ht hp hs
      (by rw [hpc]; exact hdone) (hag _ (by rw [hsee]; rfl))
      (by rw [hsee, hpc]; constructor <;> simp [setupEnv, condRel_empty, hcs]) rfl (by rw [hsee]; rfl)
      (by rw [hsee]; exact hwi)
      (by rw [hpc]; exact fun hh => hh.elim (absurd · hsv) hlen)
    rw [hpc] at hE hv
    exact ⟨r, hE, by rw [hv, ← ewsFinal_eq flags sv hsv, specOk_iff]; rfl⟩
  cases tce with
  | none =>
    simp only at hcommit
    obtain ⟨r, hE, hv⟩ := hscript (setupEnv items script flags sv [] ed none) ed.tapleafHash ed.tapleafHashInit rfl
      (by simp [setupEnv, hbase]) rfl (by simp [setupEnv]) rfl rfl
    have hfuel : continueFuel (setupEnv items script flags sv [] ed none) = script.length + 4 := by
      simp [continueFuel, setupEnv, hbase]
    rw [hE.2 n (by omega), hv, hcommit]
    simp
  | some t =>
    simp only at hcommit
    have hfuel : continueFuel (setupEnv items script flags sv [] ed (some t)) = script.length + (t.pathLen + 1) + 4 := by
      simp [continueFuel, setupEnv, hbase]
    have hcp := commit_phase cx tc (t.pathLen + 1) (setupEnv items script flags sv [] ed (some t)) t rfl (by simp [setupEnv])
    cases hr : Tce.run tc (t.pathLen + 1) t with
    | mk state t' =>
      rw [hr] at hcp hcommit
      simp only at hcommit
      cases valid with
      | false =>
        simp only [Bool.false_eq_true, if_false] at hcommit
        subst hcommit
        rw [hcp.2 n (by omega)]
        simp [sessionValid]
      | true =>
        simp only [if_true] at hcommit
        subst hcommit
        obtain ⟨e', hE, ht', hd', hpc', hp2', hs', hsee'⟩ := hcp
        obtain ⟨r, hEr, hv⟩ := hscript e' t.leaf true ht' (by rw [hp2']; simp [setupEnv, hbase]) (by rw [hs']; rfl)
          (by intro hh; rw [hd'] at hh; cases hh) (by rw [hpc']; rfl) hsee'
        rw [(hE _ _ hEr).2 n (by omega), hv]
        simp

/-- the debugger's answer for a spend agrees with validation: refusals (`configure_tx_txin` returns false, or
    `setup_environment` does) only for an input that validation rejects; otherwise the session, run to its end with
    any fuel of at least `N e0` steps, is valid exactly when validation accepts -/
def AgreesC (tc : TapCtx) (cx : Ctx) (flags : Nat) (conf : Option Configured) (N : IEnv → Nat) (spec : Spec.R Unit) : Prop :=
  match conf with
  | none => spec ≠ .ok ()
  | some c =>
    match setupEnvironment c.stack c.script flags c.sigver c.successor false c.execdata c.tce [] [] with
    | .error _ => spec ≠ .ok ()
    | .ok e0 => ∀ n, N e0 ≤ n → (sessionValid flags c.sigver (continueScript cx tc n e0) = true ↔ spec = .ok ())

def Agrees (h : HashCtx) (tc : TapCtx) (cx : Ctx) (flags : Nat) (tx txin : Tx) (idx vout : Nat) (sv0 : SigVersion)
    (N : IEnv → Nat) (spec : Spec.R Unit) : Prop :=
  AgreesC tc cx flags (configureTxTxin h tc tx txin idx vout sv0) N spec

theorem not_ok_of_specOk {r : Spec.R Unit} (h : specOk r = false) : r ≠ .ok () := by
  intro h'; rw [h'] at h; cases h

theorem agreesC_guard {tc : TapCtx} {cx : Ctx} {flags : Nat} {cf : Option Configured} {N : IEnv → Nat} {spec : Spec.R Unit}
    (b : Bool) (e : ScriptError) (h : b = false → AgreesC tc cx flags cf N spec) :
    AgreesC tc cx flags (if b = true then none else cf) N (if b = true then .error e else spec) := by
  cases b
  · exact h rfl
  · exact fun hh => nomatch hh

theorem decodes_of_hasValidOps (s : Bytes) (h : hasValidOps s = true) : (Spec.decodePrefix s.length s).2 = true :=
  (decode_iff_complete s).mp fun hn => by rw [C01.gate_is_domain, Spec.inDomain, hn] at h; cases h

/-- **a witness-script spend against `ExecuteWitnessScript`** (segwit v0, or tapscript behind its commitment).
    `configure_tx_txin` has put the items on the stack — refusing too many (tapscript: STACK_SIZE) or one above 520 bytes
    (PUSH_SIZE) — and chosen the script, refusing what fails `HasValidOps` (such a script does not evaluate);
    `setup_environment` refuses a segwit-v0 script above 10,000 bytes (SCRIPT_SIZE); the session checks the commitment
    (`valid`; WITNESS_PROGRAM_MISMATCH) and evaluates the script; exactly one true element must remain.  (`hcs`: see
    `script_session`.) -/
theorem witness_session (tc : TapCtx) (cx : Ctx) (sc : Spec.SpendCtx) (flags : Nat) (sv : SigVersion)
    (annex leaf : Option Bytes) (items : List Bytes) (script : Bytes) (amount : Int) (ed : ExecData) (tce : Option Tce)
    (pre valid : Bool)
    (hsv : sv = .WITNESS_V0 ∨ sv = .TAPSCRIPT)
    (hcs : ed.codesepPos = 0xFFFFFFFF) (hwi : ed.weightInit = (sv == .TAPSCRIPT))
    (hcommit : match tce with
      | none => valid = true
      | some t => (Tce.run tc (t.pathLen + 1) t).1 = if valid then .done else .failed)
    (hns : sv = .TAPSCRIPT → Spec.hasOpSuccess false script = false)
    (hag : CheckerAgrees cx sc flags sv annex leaf) (hdef : hasValidOps script = true ∨ NoUndefinedOpcode script) :
    AgreesC tc cx flags
      (if sv == .TAPSCRIPT && decide (items.length > Gen.MAX_STACK_SIZE) then none
       else if items.any (fun i => i.length > Gen.MAX_SCRIPT_ELEMENT_SIZE) then none
       else if !hasValidOps script then none
       else some { sigver := sv, script := script, stack := items, amount := amount, execdata := ed, tce := tce,
                   hasPreamble := pre })
      continueFuel
      (if !valid then .error .WITNESS_PROGRAM_MISMATCH
       else Spec.executeWitnessScript sc flags sv annex leaf items script ed.weightLeft) := by
  have hbase : sv ≠ .BASE := by rcases hsv with rfl | rfl <;> decide
  unfold AgreesC
  rw [ews_eq sc flags sv annex leaf items script _ hsv hns]
  have h1000 := Tables.max_stack_size
  have h520 := Tables.max_script_element_size
  have h10k := Tables.max_script_size
  rw [h1000, h520]
  -- the rejecting answers of the specification, whatever the commitment says
  have hrej : ∀ x : Spec.R Unit, specOk x = false →
      (if (!valid) = true then Except.error ScriptError.WITNESS_PROGRAM_MISMATCH else x) ≠ .ok () := by
    intro x hx
    split
    · exact fun hh => nomatch hh
    · exact not_ok_of_specOk hx
  by_cases h1 : (sv == .TAPSCRIPT && decide (items.length > Spec.maxStackSize)) = true
  · simp only [h1, if_true]
    apply hrej
    split <;> rfl
  simp only [h1, Bool.false_eq_true, if_false]
  by_cases h2 : (items.any fun i => decide (i.length > Spec.maxElementSize)) = true
  · simp only [h2, if_true]
    apply hrej
    split <;> rfl
  simp only [h2, Bool.false_eq_true, if_false]
  by_cases h3 : hasValidOps script = true
  · simp only [h3, Bool.not_true, Bool.false_eq_true, if_false, decodes_of_hasValidOps script h3, Bool.and_false]
    rw [setup_eq]
    by_cases h4 : (sv != .TAPSCRIPT && decide (script.length > Gen.MAX_SCRIPT_SIZE)) = true
    · -- a segwit-v0 script that is too long: refused, and rejected
      simp only [h4, if_true]
      apply hrej
      simp only [Bool.and_eq_true, bne_iff_ne, ne_eq, decide_eq_true_eq] at h4
      have hv0 : sv = .WITNESS_V0 := hsv.resolve_right h4.1
      subst hv0
      rw [runScript_eq, evalScript_result]
      rw [h10k] at h4
      have : ((specCfg sc flags .WITNESS_V0 annex leaf).sigversion == .BASE ||
          (specCfg sc flags .WITNESS_V0 annex leaf).sigversion == .WITNESS_V0) = true := rfl
      simp only [this, h4.2, decide_true, Bool.and_self, if_true]
      rfl
    · have hscan : (sv == .TAPSCRIPT && scanOpSuccess false script) = false := by
        rcases hsv with rfl | rfl
        · rfl
        · rw [scanOpSuccess_eq, hns rfl]; rfl
      simp only [h4, Bool.false_eq_true, if_false, List.isEmpty_nil, Bool.not_true, Bool.false_and, hscan]
      intro n hn
      rw [script_session tc cx sc flags sv annex leaf items script ed tce valid hbase hag hcs
        (fun h => by rw [hwi, h]; rfl)
        (fun h => by
          subst h
          simp only [Bool.and_eq_true, decide_eq_true_eq, not_and] at h4
          have := h4 rfl
          omega)
        hcommit n hn, hwi]
      cases valid <;> simp
  · -- `HasValidOps` fails: the script does not evaluate
    simp only [h3, Bool.not_false, if_true]
    apply hrej
    split
    · rfl
    · cases hr : Spec.runScript sc flags sv annex leaf script
          { stack := items.reverse, weightLeft := ed.weightLeft, weightInit := sv == .TAPSCRIPT } with
      | error y => rfl
      | ok st =>
        rw [runScript_eq] at hr
        exact absurd (hdef.elim id fun hd => hasValidOps_of_eval_ok _ _ _ _ hd hr) h3

theorem v0_session (tc : TapCtx) (cx : Ctx) (sc : Spec.SpendCtx) (flags : Nat) (items : List Bytes) (script : Bytes)
    (amount : Int) (pre : Bool)
    (hag : CheckerAgrees cx sc flags .WITNESS_V0 none none) (hdef : hasValidOps script = true ∨ NoUndefinedOpcode script) :
    AgreesC tc cx flags
      (if items.any (fun i => i.length > Gen.MAX_SCRIPT_ELEMENT_SIZE) then none
       else if !hasValidOps script then none
       else some { sigver := .WITNESS_V0, script := script, stack := items, amount := amount, hasPreamble := pre })
      continueFuel (Spec.executeWitnessScript sc flags .WITNESS_V0 none none items script 0) :=
  witness_session tc cx sc flags .WITNESS_V0 none none items script amount {} none pre true (Or.inl rfl) rfl rfl rfl
    (fun h => nomatch h) hag hdef

theorem agreesC_congr {tc : TapCtx} {cx : Ctx} {flags : Nat} {cf : Option Configured} {N : IEnv → Nat} {spec spec' : Spec.R Unit}
    (hs : spec = .ok () ↔ spec' = .ok ()) (h : AgreesC tc cx flags cf N spec) : AgreesC tc cx flags cf N spec' := by
  unfold AgreesC at h ⊢
  split
  · exact fun hh => h (hs.2 hh)
  · simp only at h
    split
    · rename_i e he; rw [he] at h; exact fun hh => h (hs.2 hh)
    · rename_i e0 he
      rw [he] at h
      exact fun n hn => (h n hn).trans hs

section Carrier
/-! the two scripts that can carry a witness program, for any checker and any bound on the fuel: once `configure_tx_txin`
    and `VerifyScript` have found the program, they are `configureWitness` and `VerifyWitnessProgram` on it -/
variable (h : HashCtx) (tc : TapCtx) (cx : Ctx) (sc : Spec.SpendCtx) (flags : Nat) (tx txin : Tx) (idx vout : Nat)
  (sv0 : SigVersion) (inp : TxIn) (spent : TxOut) (N : IEnv → Nat)

theorem native_agrees (b : UInt8) (ver : Nat) (prog wlast : Bytes)
    (hinp : tx.vin[idx]? = some inp) (hspent : txin.vout[vout]? = some spent)
    (hsig : inp.scriptSig = []) (hspk : spent.scriptPubKey = b :: UInt8.ofNat prog.length :: prog)
    (hb : (b = 0x00 ∧ ver = 0) ∨ (b = 0x51 ∧ ver = 1)) (hp : prog.length = 20 ∨ prog.length = 32)
    (hw : inp.witness.getLast? = some wlast) (hW : hasFlag flags Flag.WITNESS = true) (hnz : Spec.toBool prog = true)
    (H : AgreesC tc cx flags (configureWitness h tc inp.witness wlast spent.value spent.scriptPubKey) N
      (Spec.verifyWitnessProgram sc flags inp.witness ver prog false)) :
    Agrees h tc cx flags tx txin idx vout sv0 N (Spec.verifyScript sc flags inp.scriptSig spent.scriptPubKey inp.witness) := by
  unfold Agrees
  rw [configureTxTxin_native hinp hspent hsig hw, hsig, hspk, verify_native_prog sc flags b _ ver prog inp.witness hb rfl hp hW hnz,
    ← hspk]
  exact H

/-- The debugger does not execute the P2SH layer: it compares HASH160 of the redeem script with the committed hash (a
    mismatch is refused; validation's scriptPubKey run ends with a false top element). -/
theorem wrapped_agrees (prog hh wlast : Bytes)
    (hinp : tx.vin[idx]? = some inp) (hspent : txin.vout[vout]? = some spent)
    (hsig : inp.scriptSig = Spec.pushOf (0x00 :: UInt8.ofNat prog.length :: prog))
    (hspk : spent.scriptPubKey = 0xa9 :: 0x14 :: (hh ++ [0x87]))
    (hp : prog.length = 20 ∨ prog.length = 32) (hl : hh.length = 20) (hw : inp.witness.getLast? = some wlast)
    (hh160 : ∀ b, h.hash160 b = (sc.oracleFor .BASE none none).ripemd160 ((sc.oracleFor .BASE none none).sha256 b))
    (hP : hasFlag flags Flag.P2SH = true) (hW : hasFlag flags Flag.WITNESS = true) (hnz : Spec.toBool prog = true)
    (H : AgreesC tc cx flags (configureWitness h tc inp.witness wlast spent.value (0x00 :: UInt8.ofNat prog.length :: prog)) N
      (Spec.verifyWitnessProgram sc flags inp.witness 0 prog true)) :
    Agrees h tc cx flags tx txin idx vout sv0 N (Spec.verifyScript sc flags inp.scriptSig spent.scriptPubKey inp.witness) := by
  unfold Agrees
  rw [configureTxTxin_eq]
  simp only [hinp, hspent, hw, hsig, hspk]
  rw [validationScript_p2sh h _ hh (by simp) (by simp only [List.length_cons]; omega) hl,
    verify_wrapped_v0 sc flags hh prog inp.witness hP hW hl hp hnz, ← hh160]
  unfold bne
  cases h.hash160 (0x00 :: UInt8.ofNat prog.length :: prog) == hh
  · exact fun hh => nomatch hh
  · exact H

end Carrier

theorem p2wsh_program (h : HashCtx) (tc : TapCtx) (cx : Ctx) (sc : Spec.SpendCtx) (flags : Nat) (prog wlast : Bytes)
    (witness : List Bytes) (amount : Int) (b : Bool) (hp : prog.length = 32) (hw : witness.getLast? = some wlast)
    (hsha : ∀ b, h.sha256 b = sc.sha256 b)
    (hag : CheckerAgrees cx sc flags .WITNESS_V0 none none) (hdef : NoUndefinedOpcode wlast) :
    AgreesC tc cx flags (configureWitness h tc witness wlast amount (0x00 :: 0x20 :: prog)) continueFuel
      (Spec.verifyWitnessProgram sc flags witness 0 prog b) := by
  rw [configureWitness_p2wsh _ _ _ _ _ _ hp, vwp_v0_32 sc flags witness prog wlast b hp hw, hsha]
  exact agreesC_guard _ _ fun _ => v0_session tc cx sc flags witness.dropLast wlast amount false hag (Or.inr hdef)

/-- **C03 (c), native P2WSH.**  scriptSig empty, scriptPubKey `OP_0 <32 bytes>`, non-empty witness, WITNESS flag.
    `configure_tx_txin` checks the SHA-256 of the last witness item against the program (refusing = validation's
    WITNESS_PROGRAM_MISMATCH), enforces the 520-byte item limit (PUSH_SIZE), and the session runs the witness script on
    the remaining items; the verdict requires exactly one true element (the implicit CLEANSTACK of witness scripts).
    Hypotheses beyond the shape: the program is not a "false" value (an all-zero program fails validation's
    `CastToBool` on the scriptPubKey result; a SHA-256 preimage of it would be needed), and the witness script has no
    undefined opcode in a branch that is not executed (finding F-C03-undefined-opcode-refused). -/
theorem C03_p2wsh (h : HashCtx) (tc : TapCtx) (cx : Ctx) (sc : Spec.SpendCtx) (flags : Nat) (tx txin : Tx) (idx vout : Nat)
    (sv0 : SigVersion) (inp : TxIn) (spent : TxOut) (prog wlast : Bytes)
    (hinp : tx.vin[idx]? = some inp) (hspent : txin.vout[vout]? = some spent)
    (hsig : inp.scriptSig = []) (hspk : spent.scriptPubKey = 0x00 :: 0x20 :: prog) (hp : prog.length = 32)
    (hw : inp.witness.getLast? = some wlast)
    (hsha : ∀ b, h.sha256 b = sc.sha256 b)
    (hag : CheckerAgrees cx sc flags .WITNESS_V0 none none)
    (hW : hasFlag flags Flag.WITNESS = true) (hnz : Spec.toBool prog = true)
    (hdef : NoUndefinedOpcode wlast) :
    Agrees h tc cx flags tx txin idx vout sv0 continueFuel
      (Spec.verifyScript sc flags inp.scriptSig spent.scriptPubKey inp.witness) :=
  native_agrees h tc cx sc flags tx txin idx vout sv0 inp spent _ 0x00 0 prog wlast hinp hspent hsig (by rw [hspk, hp]; rfl)
    (Or.inl ⟨rfl, rfl⟩) (Or.inr hp) hw hW hnz
    (by rw [hspk]; exact p2wsh_program h tc cx sc flags prog wlast _ _ false hp hw hsha hag hdef)

/-- P2WPKH once the program is known, whichever script carried it: the debugger compares HASH160 of the last witness item
    with the program and runs the implied P2PKH script; validation insists on exactly two items and leaves the comparison to
    the script's EQUALVERIFY.  The two agree because that script succeeds only on `<sig> <key>` with the key hashing to the
    program (`p2pkh_eval_ok`). -/
theorem p2wpkh_program (h : HashCtx) (tc : TapCtx) (cx : Ctx) (sc : Spec.SpendCtx) (flags : Nat) (prog wlast : Bytes)
    (witness : List Bytes) (amount : Int) (b : Bool) (hp : prog.length = 20) (hw : witness.getLast? = some wlast)
    (hh160 : ∀ b, h.hash160 b =
      (sc.oracleFor .WITNESS_V0 none none).ripemd160 ((sc.oracleFor .WITNESS_V0 none none).sha256 b))
    (hag : CheckerAgrees cx sc flags .WITNESS_V0 none none) :
    AgreesC tc cx flags (configureWitness h tc witness wlast amount (0x00 :: 0x14 :: prog)) continueFuel
      (Spec.verifyWitnessProgram sc flags witness 0 prog b) := by
  rw [configureWitness_p2wpkh _ _ _ _ _ _ hp, vwp_v0_20 sc flags witness prog b hp]
  have hG := v0_session tc cx sc flags witness (Spec.p2pkhScript prog) amount true hag (Or.inl (hasValidOps_p2pkh prog hp))
  simp only [hasValidOps_p2pkh prog hp, Bool.not_true, Bool.false_eq_true, if_false] at hG
  -- validation accepts only a witness of two items the last of which hashes to the program
  have hews : Spec.executeWitnessScript sc flags .WITNESS_V0 none none witness (Spec.p2pkhScript prog) 0 = .ok () →
      h.hash160 wlast = prog ∧ witness.length = 2 := by
    intro hok
    rw [ews_eq _ _ _ _ _ _ _ _ (Or.inl rfl) (fun h => nomatch h)] at hok
    simp only [show (SigVersion.WITNESS_V0 == SigVersion.TAPSCRIPT) = false from rfl, Bool.false_and, Bool.false_eq_true,
      if_false] at hok
    split at hok
    · cases hok
    · obtain ⟨st, hr, hf⟩ := bind_ok hok
      rw [runScript_eq] at hr
      obtain ⟨key, sg, rest, e1, e2, e3⟩ := p2pkh_eval_ok _ prog hp _ st rfl hr
      simp only at e1
      have hk : wlast = key := by
        have : witness.reverse.head? = some wlast := by rw [List.head?_reverse]; exact hw
        rw [e1] at this
        simpa using this.symm
      have hl : witness.length = rest.length + 2 := by simpa using congrArg List.length e1
      have h1 : st.stack.length = 1 := by
        unfold ewsFinal at hf
        split at hf
        · cases hf
        · rename_i hne; simpa using hne
      exact ⟨by rw [hh160, hk]; exact e2, by omega⟩
  by_cases h1 : (h.hash160 wlast != prog) = true
  · simp only [h1, if_true]
    intro hok
    split at hok
    · cases hok
    · simp [(hews hok).1] at h1
  · simp only [h1, Bool.false_eq_true, if_false]
    by_cases h2 : (witness.length != 2) = true
    · simp only [h2, if_true]
      refine agreesC_congr ⟨fun hok => ?_, fun hh => nomatch hh⟩ hG
      simp [(hews hok).2] at h2
    · simp only [h2, Bool.false_eq_true, if_false]
      exact hG

/-- **C03 (c), native P2WPKH.**  scriptSig empty, scriptPubKey `OP_0 <20 bytes>`, non-empty witness, WITNESS flag.
    `configure_tx_txin` checks the HASH160 of the last witness item against the program (validation reaches the same
    verdict through EQUALVERIFY of the implied script, or WITNESS_PROGRAM_MISMATCH when the witness does not have
    exactly two items), enforces the item size limit, and the session runs validation's implied script
    `DUP HASH160 <program> EQUALVERIFY CHECKSIG` on the whole witness; exactly one true element must remain. -/
theorem C03_p2wpkh (h : HashCtx) (tc : TapCtx) (cx : Ctx) (sc : Spec.SpendCtx) (flags : Nat) (tx txin : Tx) (idx vout : Nat)
    (sv0 : SigVersion) (inp : TxIn) (spent : TxOut) (prog wlast : Bytes)
    (hinp : tx.vin[idx]? = some inp) (hspent : txin.vout[vout]? = some spent)
    (hsig : inp.scriptSig = []) (hspk : spent.scriptPubKey = 0x00 :: 0x14 :: prog) (hp : prog.length = 20)
    (hw : inp.witness.getLast? = some wlast)
    (hh160 : ∀ b, h.hash160 b =
      (sc.oracleFor .WITNESS_V0 none none).ripemd160 ((sc.oracleFor .WITNESS_V0 none none).sha256 b))
    (hag : CheckerAgrees cx sc flags .WITNESS_V0 none none)
    (hW : hasFlag flags Flag.WITNESS = true) (hnz : Spec.toBool prog = true) :
    Agrees h tc cx flags tx txin idx vout sv0 continueFuel
      (Spec.verifyScript sc flags inp.scriptSig spent.scriptPubKey inp.witness) :=
  native_agrees h tc cx sc flags tx txin idx vout sv0 inp spent _ 0x00 0 prog wlast hinp hspent hsig (by rw [hspk, hp]; rfl)
    (Or.inl ⟨rfl, rfl⟩) (Or.inl hp) hw hW hnz
    (by rw [hspk]; exact p2wpkh_program h tc cx sc flags prog wlast _ _ false hp hw hh160 hag)

theorem annex_eq (w : List Bytes) (wlast : Bytes) : hasAnnexM w wlast = hasAnnexS w wlast := by
  unfold hasAnnexM hasAnnexS
  cases wlast with
  | nil => simp
  | cons b r =>
    have : (byteAt (b :: r) 0 == Gen.ANNEX_TAG) = (b == 0x50) := by
      rw [Bool.eq_iff_iff]; simp [byteAt, Gen.ANNEX_TAG, ← UInt8.toNat_inj]
    simp [this]

theorem witnessSize_eq (w : List Bytes) : witnessSerializeSize w = Spec.witnessStackSize w := rfl

/-- **C03 (f), tapscript (script path).**  scriptSig empty, scriptPubKey `OP_1 <32 bytes>`, witness with at least two
    items after the optional annex: `... <leaf script> <control block>`.  `configure_tx_txin` checks the control block size
    (TAPROOT_WRONG_CONTROL_SIZE), the item limits (STACK_SIZE / PUSH_SIZE), sets the signature budget to the serialized
    witness size + 50; the session first checks the commitment (the debugger's step-by-step Merkle path and tweak check is
    BIP341's rule, C05: a failed commitment fails the session = WITNESS_PROGRAM_MISMATCH) and then runs the leaf script
    as tapscript on the remaining items; exactly one true element must remain.
    Excluded by hypothesis: leaf versions other than 0xc0 (F-C03-future-witness-version), OP_SUCCESSx in the leaf
    (F-C03-op-success-refused), an undefined opcode in a branch that is not executed; for spends with several inputs the
    hypothesis `CheckerAgrees` does not hold of the implementation's checker (F-C03-multi-input-taproot). -/
theorem C03_tapscript (h : HashCtx) (tc : TapCtx) (cx : Ctx) (sc : Spec.SpendCtx) (flags : Nat) (tx txin : Tx) (idx vout : Nat)
    (sv0 : SigVersion) (inp : TxIn) (spent : TxOut) (prog wlast control leafScript : Bytes) (stack : List Bytes)
    (hinp : tx.vin[idx]? = some inp) (hspent : txin.vout[vout]? = some spent)
    (hsig : inp.scriptSig = []) (hspk : spent.scriptPubKey = 0x51 :: 0x20 :: prog) (hp : prog.length = 32)
    (hw : inp.witness.getLast? = some wlast)
    (hstack : stack = if hasAnnexS inp.witness wlast then inp.witness.dropLast else inp.witness)
    (hctl : stack.getLast? = some control) (hleaf : stack.dropLast.getLast? = some leafScript)
    (htap : C05.Agree tc sc.tap)
    (hag : CheckerAgrees cx sc flags .TAPSCRIPT (if hasAnnexS inp.witness wlast then some wlast else none)
      (some (Spec.tapLeafHash sc.tap 0xc0 leafScript)))
    (hW : hasFlag flags Flag.WITNESS = true) (hT : hasFlag flags Flag.TAPROOT = true) (hnz : Spec.toBool prog = true)
    (hlv : (control.headD 0).toNat - (control.headD 0).toNat % 2 = 0xc0)
    (hns : Spec.hasOpSuccess false leafScript = false) (hdef : NoUndefinedOpcode leafScript) :
    Agrees h tc cx flags tx txin idx vout sv0 continueFuel
      (Spec.verifyScript sc flags inp.scriptSig spent.scriptPubKey inp.witness) :=
  native_agrees h tc cx sc flags tx txin idx vout sv0 inp spent _ 0x51 1 prog wlast hinp hspent hsig (by rw [hspk, hp]; rfl)
    (Or.inr ⟨rfl, rfl⟩) (Or.inr hp) hw hW hnz <| by
  rw [hspk, configureWitness_tapscript h tc prog wlast control leafScript _ stack _ hp (by rw [annex_eq]; exact hstack) hctl hleaf,
    vwp_tapscript sc flags prog wlast control leafScript _ stack hp hT hw hstack hctl hleaf]
  have hsz : (decide (control.length < Gen.TAPROOT_CONTROL_BASE_SIZE) || decide (control.length > Gen.TAPROOT_CONTROL_MAX_SIZE) ||
      (control.length - Gen.TAPROOT_CONTROL_BASE_SIZE) % Gen.TAPROOT_CONTROL_NODE_SIZE != 0) =
      (decide (control.length < 33) || decide (control.length > 33 + 32 * 128) || (control.length - 33) % 32 != 0) := rfl
  rw [hsz]
  refine agreesC_guard _ _ fun h1 => ?_
  have hlvM : ((byteAt control 0) &&& Gen.TAPROOT_LEAF_MASK != Gen.TAPROOT_LEAF_TAPSCRIPT) = false := by
    rw [Btcdeb.Proofs.Tce.leafVersion_eq, hlv]; rfl
  simp only [hlvM, Bool.false_eq_true, if_false, hlv, BEq.rfl, if_true]
  -- the commitment phase answers what BIP341's rule says (C05)
  have hcommit := C05.C05_run_of_gate tc sc.tap htap control prog leafScript (by rw [hsz, h1])
  have := witness_session tc cx sc flags .TAPSCRIPT (if hasAnnexS inp.witness wlast then some wlast else none)
    (some (Spec.tapLeafHash sc.tap 0xc0 leafScript)) stack.dropLast.dropLast leafScript spent.value
    { annexInit := true, annexPresent := hasAnnexM inp.witness wlast,
      annexHash := if hasAnnexM inp.witness wlast then h.sha256 (compactSize wlast.length ++ wlast) else [],
      tapleafHash := (Tce.init tc control prog leafScript).leaf, tapleafHashInit := true,
      weightLeft := (witnessSerializeSize inp.witness + Gen.VALIDATION_WEIGHT_OFFSET : Nat), weightInit := true }
    (some (Tce.init tc control prog leafScript)) false (Spec.bip341Valid sc.tap control leafScript prog)
    (Or.inr rfl) rfl rfl hcommit (fun _ => hns) hag (Or.inr hdef)
  simp only [BEq.rfl, Bool.true_and, decide_eq_true_eq] at this
  exact this

/-- **C03 (b), P2SH** (flag P2SH set, scriptPubKey `HASH160 <20 bytes> EQUAL`), empty witness, the redeem script not a
    witness program (or no WITNESS flag).  The session runs scriptSig and scriptPubKey, then — as validation does —
    requires a true result, a push-only scriptSig, takes the serialized redeem script from the top of the stack the
    scriptSig left, and runs it on the rest of that stack (fresh alt stack, conditional nesting and operation count).
    The verdict is `VerifyScript`'s for every fuel of at least `|scriptSig| + |scriptPubKey| + 523` steps
    (the redeem script has at most 520 bytes: it was pushed by a push-only scriptSig). -/
theorem C03_p2sh (cx : Ctx) (tc : TapCtx) (sc : Spec.SpendCtx) (flags : Nat) (sig spk : Bytes) (e0 : IEnv)
    (hag : CheckerAgrees cx sc flags .BASE none none)
    (hsetup : setupEnvironment [] sig flags .BASE spk false {} none [] [] = .ok e0)
    (hP : hasFlag flags Flag.P2SH = true) (hpat : Spec.isP2SH spk = true)
    (hnw : hasFlag flags Flag.WITNESS = false ∨
      ∀ s1 redeem rest, Spec.runScript sc flags .BASE none none sig {} = .ok s1 → s1.stack = redeem :: rest →
        Spec.witnessProgram redeem = none)
    (n : Nat) (hn : sig.length + spk.length + 523 ≤ n) :
    sessionValid flags .BASE (continueScript cx tc n e0) = specOk (Spec.verifyScript sc flags sig spk []) := by
  have hl23 := isP2SH_length spk hpat
  have hspk : spk ≠ [] := by intro h0; rw [h0] at hl23; simp at hl23
  have hpo : (hasFlag flags Flag.SIGPUSHONLY && !Spec.isPushOnly sig) = false := by
    have := (setup_ok hsetup).2.1
    rw [show spk.isEmpty = false by simpa using hspk, isPushOnly_eq] at this
    simpa using this
  rcases legacy_handover cx tc sc flags sig spk e0 hag hsetup hspk with
    ⟨⟨x, hE⟩, hv⟩ | ⟨e1, s1, hr1, hE1, hph, hpc1, hconf1, hd1, hp1, hps1, hsu1, hse1, hpo1, ht1, hsc1⟩
  · rw [hv, invalid_of_ends_error flags .BASE hE n (by omega)]
  rcases phase_outcome ht1 hd1 hph with ⟨x, y, hr2, hE⟩ | ⟨e2, s2, hr2, hst2, hc2, hpc2, hout2, hconf2, hE2⟩
  · rw [verify_spk_fail sc flags sig spk [] s1 y hr1 hr2,
      invalid_of_ends_error flags .BASE (hE1 _ _ hE) n (by rw [hpc1]; omega)]
  have hE : ∀ N r, Ends cx tc e2 N r → Ends cx tc e0 (N + sig.length + spk.length + 1) r := fun N r h =>
    ends_weaken (hE1 _ _ (hE2 _ _ h)) (by rw [hpc1]; omega)
  have hpp : p2shPattern flags spk = true := by rw [p2shPattern_eq, hP]; exact hpat
  have hd2 : e2.done = false := (outer_done hout2).trans hd1
  have ht2 : e2.tce = none := (outer_tce hout2).trans ht1
  -- validation from here on: `evalTrue`, the push-only rule, the redeem script (the P2SH branch of `verifyScript_nf`); the end-of-script
  -- step of the session makes the same checks in the same order
  rw [verifyScript_nf, if_neg (by simp [hpo]), hr1]
  simp only [Btcdeb.ok_bind, hr2, hP, hpat, Bool.and_self, if_true]
  have hstep := end_p2sh cx tc e2 ht2 hpc2 (by rw [hc2]; rfl) (by rw [outer_isP2sh hout2, hp1, hpp])
  rw [hst2, List.getLast?_reverse, outer_p2shStack hout2, hps1, if_pos hpp, List.getLast?_reverse, outer_script hout2, hsc1,
    isPayToScriptHash_eq, hpat, outer_sigscriptExecuted hout2, hse1, outer_sigscriptPushonly hout2, hpo1, isPushOnly_eq] at hstep
  have hfail : ∀ x, stepSession cx tc e2 = .error x → sessionValid flags .BASE (continueScript cx tc n e0) = false := fun x hx =>
    invalid_of_ends_error flags .BASE (hE _ _ (ends_step_err cx tc e2 x hd2 hx)) n (by omega)
  cases hs2s : s2.stack with
  | nil =>
    rw [hs2s] at hstep
    rw [hfail _ hstep, show Spec.evalTrue s2 = .error .EVAL_FALSE by simp [Spec.evalTrue, hs2s]; rfl]
    rfl
  | cons t trest =>
    rw [hs2s] at hstep
    simp only [List.head?_cons, castToBool_eq_toBool] at hstep
    cases htb : Spec.toBool t with
    | false =>
      simp only [htb, Bool.not_false, if_true] at hstep
      rw [hfail _ hstep, show Spec.evalTrue s2 = .error .EVAL_FALSE by simp [Spec.evalTrue, hs2s, htb]; rfl]
      rfl
    | true =>
      simp only [htb, Bool.not_true, Bool.false_eq_true, if_false, if_true, Bool.true_and] at hstep
      have h3 : Spec.evalTrue s2 = .ok () := by simp [Spec.evalTrue, hs2s, htb]; rfl
      rw [h3]
      cases hpush : Spec.isPushOnly sig with
      | false =>
        simp only [hpush, Bool.not_false, if_true] at hstep
        rw [hfail _ hstep]
        simp only [Btcdeb.ok_bind, Bool.not_false, if_true]
        rfl
      | true =>
        simp only [hpush, Bool.not_true, Bool.false_eq_true, if_false] at hstep
        cases hs1s : s1.stack with
        | nil =>
          rw [hs1s] at hstep
          rw [hfail _ hstep]
          simp only [Btcdeb.ok_bind, Bool.not_true, Bool.false_eq_true, if_false]
          rfl
        | cons redeem rest =>
          rw [hs1s] at hstep
          simp only [List.head?_cons, List.reverse_cons, List.dropLast_concat] at hstep
          have hwp : (if hasFlag flags Flag.WITNESS = true then Spec.witnessProgram redeem else none) = none := by
            rcases hnw with h | h
            · simp [h]
            · simp [h s1 redeem rest hr1 hs1s]
          -- the redeem script was pushed by the push-only scriptSig: at most 520 bytes
          have hred : redeem.length ≤ 520 :=
            pushonly_stack_bound _ sig s1 hpush hr1 redeem (by rw [hs1s]; exact List.mem_cons_self ..)
          obtain ⟨e3, hstep3, ht3, hd3, hpc3, hconf3, hstk3, halt3, hcond3, hops3, hpb3, hp3, hsu3⟩ :
              ∃ e3, stepSession cx tc e2 = .ok e3 ∧ e3.tce = none ∧ e3.done = false ∧ e3.pc = redeem ∧
                conf e3.see = (flags, .BASE, hasFlag flags Flag.MINIMALDATA, false, [], []) ∧
                e3.see.stack = rest.reverse ∧ e3.see.altstack = [] ∧ e3.see.cond = {} ∧ e3.see.nOpCount = 0 ∧
                e3.see.pbegincodehash = e3.pc ∧ e3.isP2sh = false ∧ e3.successor = [] :=
            ⟨_, hstep, ht2, hd2, rfl, hconf2.trans hconf1, rfl, rfl, hc2, rfl, rfl, rfl, (outer_successor hout2).trans hsu1⟩
          obtain ⟨res, hEr, hval⟩ := last_phase flags .BASE ht3 hd3 hp3 hsu3
            (phase_base cx tc (specCfg sc flags .BASE none none) e3 rest (Or.inl rfl) ht3 (hag _ hconf3)
              hstk3 halt3 hcond3 hops3 hpb3 (by rw [hpc3]; unfold Spec.maxScriptSize; omega))
          rw [hpc3] at hEr hval
          rw [(hE _ _ (ends_step hd2 hstep3 hEr)).2 n (by omega), hval]
          simp only [Btcdeb.ok_bind, witnessOrClean, hwp, Bool.not_true, Bool.false_eq_true, if_false, List.isEmpty_nil, Bool.and_false]
          rfl

/-- **C03 (e), taproot key path.**  scriptSig empty, scriptPubKey `OP_1 <32 bytes>`, and the witness holds exactly one
    item once the optional annex (last item starting with 0x50, when there are at least two) is removed.
    `configure_tx_txin` generates the script `<program> OP_CHECKSIG` with signature version TAPROOT and puts the
    signature on the stack (the annex is not a stack item); the session is valid exactly when the specification's
    BIP340 check of the signature against the program (key-path digest, with the annex) succeeds. -/
theorem C03_keypath (h : HashCtx) (tc : TapCtx) (cx : Ctx) (sc : Spec.SpendCtx) (flags : Nat) (tx txin : Tx) (idx vout : Nat)
    (sv0 : SigVersion) (inp : TxIn) (spent : TxOut) (prog wlast sg : Bytes)
    (hinp : tx.vin[idx]? = some inp) (hspent : txin.vout[vout]? = some spent)
    (hsig : inp.scriptSig = []) (hspk : spent.scriptPubKey = 0x51 :: 0x20 :: prog) (hp : prog.length = 32)
    (hw : inp.witness.getLast? = some wlast)
    (hstack : (if hasAnnexS inp.witness wlast then inp.witness.dropLast else inp.witness) = [sg])
    (hag : CheckerAgrees cx sc flags .TAPROOT (if hasAnnexS inp.witness wlast then some wlast else none) none)
    (hW : hasFlag flags Flag.WITNESS = true) (hT : hasFlag flags Flag.TAPROOT = true) (hnz : Spec.toBool prog = true) :
    Agrees h tc cx flags tx txin idx vout sv0 continueFuel
      (Spec.verifyScript sc flags inp.scriptSig spent.scriptPubKey inp.witness) :=
  native_agrees h tc cx sc flags tx txin idx vout sv0 inp spent _ 0x51 1 prog wlast hinp hspent hsig (by rw [hspk, hp]; rfl)
    (Or.inr ⟨rfl, rfl⟩) (Or.inr hp) hw hW hnz <| by
  unfold AgreesC
  rw [hspk, configureWitness_keypath h tc prog wlast sg _ _ hp (by rw [annex_eq]; exact hstack),
    vwp_keypath sc flags prog wlast sg _ hp hT hw hstack]
  simp only
  rw [setup_eq]
  have hlen : (0x20 :: (prog ++ [0xac]) : Bytes).length = 34 := by simp [hp]
  have hnsz : ¬ (0x20 :: (prog ++ [0xac]) : Bytes).length > Gen.MAX_SCRIPT_SIZE := by rw [hlen]; decide
  simp only [hnsz, decide_false, Bool.and_false, Bool.false_eq_true, if_false, List.isEmpty_nil, Bool.not_true, Bool.false_and,
    show (SigVersion.TAPROOT == SigVersion.TAPSCRIPT) = false from rfl]
  intro n hn
  rw [script_session tc cx sc flags .TAPROOT _ none [sg] _ _ none true (by decide) hag rfl (fun hh => nomatch hh)
    (fun hh => nomatch hh) rfl n hn]
  show true = true ∧ ((Spec.evalScript (specCfg sc flags .TAPROOT _ none) (0x20 :: (prog ++ [0xac])) { stack := [sg] }).result
    >>= ewsFinal) = .ok () ↔ _
  rw [keypath_eval _ rfl rfl prog sg hp]
  show true = true ∧ ((match (sc.oracleFor .TAPROOT (if hasAnnexS inp.witness wlast then some wlast else none) none).schnorr sg prog .TAPROOT 0xFFFFFFFF with
      | .ok () => .ok { ({ stack := [[1]] } : Spec.St) with codeFrom := 0x20 :: (prog ++ [0xac]) }
      | .error x => .error x) >>= ewsFinal) = .ok () ↔ _
  cases (sc.oracleFor .TAPROOT (if hasAnnexS inp.witness wlast then some wlast else none) none).schnorr sg prog .TAPROOT 0xFFFFFFFF with
  | error e => simp
  | ok u =>
    cases u
    simp [ewsFinal, Spec.toBool]

/-- **C03 (d), P2SH-wrapped P2WSH.**  Flags P2SH and WITNESS; scriptPubKey `HASH160 <20 bytes> EQUAL`; scriptSig exactly the
    push of the redeem script `OP_0 <32 bytes>`.  The debugger does not execute the P2SH layer: it compares the HASH160
    of the redeem script with the committed hash (a mismatch is refused; validation's scriptPubKey run ends with a false
    top element), and then proceeds as for native P2WSH. -/
theorem C03_p2sh_p2wsh (h : HashCtx) (tc : TapCtx) (cx : Ctx) (sc : Spec.SpendCtx) (flags : Nat) (tx txin : Tx) (idx vout : Nat)
    (sv0 : SigVersion) (inp : TxIn) (spent : TxOut) (prog hh wlast : Bytes)
    (hinp : tx.vin[idx]? = some inp) (hspent : txin.vout[vout]? = some spent)
    (hsig : inp.scriptSig = Spec.pushOf (0x00 :: 0x20 :: prog)) (hspk : spent.scriptPubKey = 0xa9 :: 0x14 :: (hh ++ [0x87]))
    (hp : prog.length = 32) (hl : hh.length = 20) (hw : inp.witness.getLast? = some wlast)
    (hsha : ∀ b, h.sha256 b = sc.sha256 b)
    (hh160 : ∀ b, h.hash160 b = (sc.oracleFor .BASE none none).ripemd160 ((sc.oracleFor .BASE none none).sha256 b))
    (hag : CheckerAgrees cx sc flags .WITNESS_V0 none none)
    (hP : hasFlag flags Flag.P2SH = true) (hW : hasFlag flags Flag.WITNESS = true) (hnz : Spec.toBool prog = true)
    (hdef : NoUndefinedOpcode wlast) :
    Agrees h tc cx flags tx txin idx vout sv0 continueFuel
      (Spec.verifyScript sc flags inp.scriptSig spent.scriptPubKey inp.witness) :=
  wrapped_agrees h tc cx sc flags tx txin idx vout sv0 inp spent _ prog hh wlast hinp hspent (by rw [hsig, hp]; rfl) hspk
    (Or.inr hp) hl hw hh160 hP hW hnz
    (by rw [hp]; exact p2wsh_program h tc cx sc flags prog wlast _ _ true hp hw hsha hag hdef)

/-- **C03 (d), P2SH-wrapped P2WPKH.**  As `C03_p2sh_p2wsh`, with the redeem script `OP_0 <20 bytes>`. -/
theorem C03_p2sh_p2wpkh (h : HashCtx) (tc : TapCtx) (cx : Ctx) (sc : Spec.SpendCtx) (flags : Nat) (tx txin : Tx) (idx vout : Nat)
    (sv0 : SigVersion) (inp : TxIn) (spent : TxOut) (prog hh wlast : Bytes)
    (hinp : tx.vin[idx]? = some inp) (hspent : txin.vout[vout]? = some spent)
    (hsig : inp.scriptSig = Spec.pushOf (0x00 :: 0x14 :: prog)) (hspk : spent.scriptPubKey = 0xa9 :: 0x14 :: (hh ++ [0x87]))
    (hp : prog.length = 20) (hl : hh.length = 20) (hw : inp.witness.getLast? = some wlast)
    (hh160 : ∀ b, h.hash160 b = (sc.oracleFor .BASE none none).ripemd160 ((sc.oracleFor .BASE none none).sha256 b))
    (hh160w : ∀ b, h.hash160 b =
      (sc.oracleFor .WITNESS_V0 none none).ripemd160 ((sc.oracleFor .WITNESS_V0 none none).sha256 b))
    (hag : CheckerAgrees cx sc flags .WITNESS_V0 none none)
    (hP : hasFlag flags Flag.P2SH = true) (hW : hasFlag flags Flag.WITNESS = true) (hnz : Spec.toBool prog = true) :
    Agrees h tc cx flags tx txin idx vout sv0 continueFuel
      (Spec.verifyScript sc flags inp.scriptSig spent.scriptPubKey inp.witness) :=
  wrapped_agrees h tc cx sc flags tx txin idx vout sv0 inp spent _ prog hh wlast hinp hspent (by rw [hsig, hp]; rfl) hspk
    (Or.inl hp) hl hw hh160 hP hW hnz
    (by rw [hp]; exact p2wpkh_program h tc cx sc flags prog wlast _ _ true hp hw hh160w hag)

/-- how `--select` reaches `parse_input_transaction`: `-1` (the default) = not given -/
def selectOpt (select : Int) : Option Nat := if select > -1 then some select.toNat else none

/-- **C03, input selection.**  `Instance::parse_input_transaction` picks the input the specification names: the selected
    one if a selection is given — refusing when it does not reference the funding transaction or is out of range —, the
    first input referencing the funding transaction otherwise; and the referenced output must exist. -/
theorem C03_select (h : HashCtx) (tx txin : Tx) (select : Int) :
    parseInputTransaction h tx txin select = Spec.spendingInput (txHash h.hash256) tx txin (selectOpt select) := by
  unfold parseInputTransaction Spec.spendingInput selectOpt
  by_cases hs : select > -1
  · simp only [hs, if_true]
    cases hv : tx.vin[select.toNat]? with
    | none => simp
    | some i =>
      simp only [Option.bind_some]
      by_cases hh : i.prevout.hash = txHash h.hash256 txin
      · simp only [hh, bne_self_eq_false, Bool.false_eq_true, if_false, BEq.rfl, if_true, Option.bind_some]
        by_cases hn : i.prevout.n ≥ txin.vout.length
        · have : ¬ i.prevout.n < txin.vout.length := by omega
          simp [hn, this]
        · have : i.prevout.n < txin.vout.length := by omega
          simp [hn, this]
      · have h1 : (i.prevout.hash != txHash h.hash256 txin) = true := by simpa using hh
        have h2 : (i.prevout.hash == txHash h.hash256 txin) = false := by simpa using hh
        simp [h1, h2]
  · simp only [hs, if_false]
    cases hf : tx.vin.findIdx? (fun i => i.prevout.hash == txHash h.hash256 txin) with
    | none => simp
    | some k =>
      simp only [Option.bind_some]
      cases hv : tx.vin[k]? with
      | none => simp
      | some i =>
        simp only [Option.map_some, Option.bind_some]
        by_cases hn : i.prevout.n ≥ txin.vout.length
        · have : ¬ i.prevout.n < txin.vout.length := by omega
          simp [hn, this]
        · have : i.prevout.n < txin.vout.length := by omega
          simp [hn, this]

/-- a selection that does not reference the funding transaction is refused -/
theorem C03_select_refused (h : HashCtx) (tx txin : Tx) (select : Int) (i : TxIn) (hs : select > -1)
    (hv : tx.vin[select.toNat]? = some i) (hne : i.prevout.hash ≠ txHash h.hash256 txin) :
    parseInputTransaction h tx txin select = none := by
  unfold parseInputTransaction
  have h1 : (i.prevout.hash != txHash h.hash256 txin) = true := by simpa using hne
  simp [hs, hv, h1]

/-- what is selected references the funding transaction, and amount and locking script are those of the referenced
    output: the indices `configure_tx_txin` is called with are in range -/
theorem C03_select_sound (h : HashCtx) (tx txin : Tx) (select : Int) (k n : Nat)
    (hp : parseInputTransaction h tx txin select = some (k, n)) :
    ∃ inp spent, tx.vin[k]? = some inp ∧ txin.vout[n]? = some spent ∧ inp.prevout.hash = txHash h.hash256 txin ∧
      inp.prevout.n = n :=
  parseInputTransaction_some hp

/-- where `configure_tx_txin` takes the witness program from -/
def ProgramSource (h : HashCtx) (sig spk validation : Bytes) : Prop :=
  (sig = [] ∧ validation = spk) ∨
  (sig ≠ [] ∧ sig = Spec.pushOf validation ∧ validation ≠ [] ∧
    ∃ hh, spk = 0xa9 :: 0x14 :: (hh ++ [0x87]) ∧ hh.length = 20 ∧ h.hash160 validation = hh)

/-- **C03, completeness of the case list.**  Whenever `configure_tx_txin` accepts a spend (a session is started at all),
    the input either has no witness (cases (a), (b)) or its witness program — the scriptPubKey for an empty scriptSig,
    else the single push of the scriptSig whose HASH160 the pay-to-script-hash scriptPubKey commits to — is one of
    `OP_0 <20 bytes>`, `OP_0 <32 bytes>`, `OP_1 <32 bytes>` (cases (c)–(f)). -/
theorem C03_shape_complete (h : HashCtx) (tc : TapCtx) (tx txin : Tx) (idx vout : Nat) (sv0 : SigVersion) (c : Configured)
    (hc : configureTxTxin h tc tx txin idx vout sv0 = some c) :
    ∃ inp spent, tx.vin[idx]? = some inp ∧ txin.vout[vout]? = some spent ∧
      (inp.witness = [] ∨
       ∃ wlast validation prog, inp.witness.getLast? = some wlast ∧
         ProgramSource h inp.scriptSig spent.scriptPubKey validation ∧
         ((validation = 0x00 :: 0x14 :: prog ∧ prog.length = 20) ∨ (validation = 0x00 :: 0x20 :: prog ∧ prog.length = 32) ∨
          (validation = 0x51 :: 0x20 :: prog ∧ prog.length = 32))) := by
  obtain ⟨inp, spent, hinp, hspent, hcases⟩ := configureTxTxin_some hc
  refine ⟨inp, spent, hinp, hspent, ?_⟩
  rcases hcases with ⟨hw, _, _⟩ | ⟨wlast, v, prog, hwl, hv, _, hform⟩
  · exact Or.inl hw
  · exact Or.inr ⟨wlast, v, prog, hwl, validationScript_some hv, hform⟩

theorem configure_not_p2sh (h : HashCtx) (tc : TapCtx) (tx txin : Tx) (idx vout : Nat) (sv0 : SigVersion)
    (inp : TxIn) (spent : TxOut) (hinp : tx.vin[idx]? = some inp) (hspent : txin.vout[vout]? = some spent)
    (hsig : inp.scriptSig ≠ []) (hw : inp.witness ≠ []) (hnp : Spec.isP2SH spent.scriptPubKey = false) :
    configureTxTxin h tc tx txin idx vout sv0 = none := by
  cases hc : configureTxTxin h tc tx txin idx vout sv0 with
  | none => rfl
  | some c =>
    exfalso
    obtain ⟨inp', spent', h1, h2, hcases⟩ := C03_shape_complete h tc tx txin idx vout sv0 c hc
    rw [hinp] at h1; rw [hspent] at h2
    cases h1; cases h2
    rcases hcases with h0 | ⟨wlast, validation, prog, _, hsrc, _⟩
    · exact hw h0
    · rcases hsrc with ⟨h0, _⟩ | ⟨_, _, _, hh, hform, hhl, _⟩
      · exact hsig h0
      · rw [hform, isP2SH_of_bytes hh hhl] at hnp
        cases hnp

/-- **C03 (d'), a witness behind a scriptSig on an output that is not pay-to-script-hash.**  The debugger refuses the
    spend, and validation rejects it (WITNESS_MALLEATED / WITNESS_UNEXPECTED, or an earlier script failure). -/
theorem C03_witness_not_p2sh (h : HashCtx) (tc : TapCtx) (cx : Ctx) (sc : Spec.SpendCtx) (flags : Nat) (tx txin : Tx)
    (idx vout : Nat) (sv0 : SigVersion) (inp : TxIn) (spent : TxOut) (N : IEnv → Nat)
    (hinp : tx.vin[idx]? = some inp) (hspent : txin.vout[vout]? = some spent)
    (hsig : inp.scriptSig ≠ []) (hw : inp.witness ≠ []) (hnp : Spec.isP2SH spent.scriptPubKey = false)
    (hW : hasFlag flags Flag.WITNESS = true) :
    Agrees h tc cx flags tx txin idx vout sv0 N
      (Spec.verifyScript sc flags inp.scriptSig spent.scriptPubKey inp.witness) := by
  unfold Agrees AgreesC
  rw [configure_not_p2sh h tc tx txin idx vout sv0 inp spent hinp hspent hsig hw hnp]
  exact not_ok_of_specOk (verify_witness_needs_p2sh sc flags _ _ _ hW hsig hw (by rw [hnp]; simp))

theorem agreesC_mono {tc : TapCtx} {cx : Ctx} {flags : Nat} {cf : Option Configured} {N N' : IEnv → Nat} {spec : Spec.R Unit}
    (hN : ∀ e, N e ≤ N' e) (h : AgreesC tc cx flags cf N spec) : AgreesC tc cx flags cf N' spec := by
  unfold AgreesC at h ⊢
  split
  · simpa using h
  · rename_i c
    simp only at h
    split
    · rename_i e he; rw [he] at h; exact h
    · rename_i e0 he
      rw [he] at h
      intro n hn
      exact h n (Nat.le_trans (hN e0) hn)

/-- the fuel that suffices for every case: `continueFuel` of the start state, plus the largest redeem script a
    push-only scriptSig can leave (the start state of a legacy session does not know the redeem script yet): 520 bytes,
    of which `continueFuel`'s margin of 4 covers one beside the two hand-overs and the final step -/
def sessionFuel (e0 : IEnv) : Nat := continueFuel e0 + 519

theorem base_agrees (h : HashCtx) (tc : TapCtx) (cx : Ctx) (sc : Spec.SpendCtx) (flags : Nat) (tx txin : Tx) (idx vout : Nat)
    (sv0 : SigVersion) (inp : TxIn) (spent : TxOut)
    (hinp : tx.vin[idx]? = some inp) (hspent : txin.vout[vout]? = some spent) (hw : inp.witness = [])
    (hdef : NoUndefinedOpcode inp.scriptSig)
    (hsess : ∀ e0 n, setupEnvironment [] inp.scriptSig flags .BASE spent.scriptPubKey false {} none [] [] = .ok e0 →
      inp.scriptSig.length + spent.scriptPubKey.length + 523 ≤ n →
      sessionValid flags .BASE (continueScript cx tc n e0) =
        specOk (Spec.verifyScript sc flags inp.scriptSig spent.scriptPubKey [])) :
    Agrees h tc cx flags tx txin idx vout sv0 sessionFuel
      (Spec.verifyScript sc flags inp.scriptSig spent.scriptPubKey inp.witness) := by
  unfold Agrees AgreesC
  cases hc : configureTxTxin h tc tx txin idx vout sv0 with
  | none =>
    exact not_ok_of_specOk (C03_legacy_refused_configure h tc tx txin idx vout sv0 inp spent hinp hspent hw hdef hc sc flags)
  | some c =>
    rw [configureTxTxin_legacy hinp hspent hw] at hc
    split at hc
    · cases hc
      simp only
      cases hs : setupEnvironment [] inp.scriptSig flags .BASE spent.scriptPubKey false {} none [] [] with
      | error e => exact not_ok_of_specOk (C03_legacy_refused_setup sc flags _ _ _ e hs)
      | ok e0 =>
        simp only
        intro n hn
        rw [hw, ← specOk_iff, hsess e0 n hs]
        obtain ⟨_, _, _, rfl⟩ := setup_ok hs
        simp only [sessionFuel, continueFuel, setupEnv] at hn
        omega
    · cases hc

theorem legacy_agrees (h : HashCtx) (tc : TapCtx) (cx : Ctx) (sc : Spec.SpendCtx) (flags : Nat) (tx txin : Tx) (idx vout : Nat)
    (sv0 : SigVersion) (inp : TxIn) (spent : TxOut)
    (hinp : tx.vin[idx]? = some inp) (hspent : txin.vout[vout]? = some spent) (hw : inp.witness = [])
    (hag : CheckerAgrees cx sc flags .BASE none none)
    (hspk : spent.scriptPubKey ≠ [])
    (hnw : Spec.witnessProgram spent.scriptPubKey = none ∨ hasFlag flags Flag.WITNESS = false)
    (hnp : (hasFlag flags Flag.P2SH && Spec.isP2SH spent.scriptPubKey) = false)
    (hdef : NoUndefinedOpcode inp.scriptSig) :
    Agrees h tc cx flags tx txin idx vout sv0 sessionFuel
      (Spec.verifyScript sc flags inp.scriptSig spent.scriptPubKey inp.witness) :=
  base_agrees h tc cx sc flags tx txin idx vout sv0 inp spent hinp hspent hw hdef fun e0 n hs hn =>
    C03_legacy cx tc sc flags _ _ e0 hag hs hspk hnw hnp n (by omega)

theorem p2sh_agrees (h : HashCtx) (tc : TapCtx) (cx : Ctx) (sc : Spec.SpendCtx) (flags : Nat) (tx txin : Tx) (idx vout : Nat)
    (sv0 : SigVersion) (inp : TxIn) (spent : TxOut)
    (hinp : tx.vin[idx]? = some inp) (hspent : txin.vout[vout]? = some spent) (hw : inp.witness = [])
    (hag : CheckerAgrees cx sc flags .BASE none none)
    (hP : hasFlag flags Flag.P2SH = true) (hpat : Spec.isP2SH spent.scriptPubKey = true)
    (hnw : hasFlag flags Flag.WITNESS = false ∨
      ∀ s1 redeem rest, Spec.runScript sc flags .BASE none none inp.scriptSig {} = .ok s1 → s1.stack = redeem :: rest →
        Spec.witnessProgram redeem = none)
    (hdef : NoUndefinedOpcode inp.scriptSig) :
    Agrees h tc cx flags tx txin idx vout sv0 sessionFuel
      (Spec.verifyScript sc flags inp.scriptSig spent.scriptPubKey inp.witness) :=
  base_agrees h tc cx sc flags tx txin idx vout sv0 inp spent hinp hspent hw hdef fun e0 n hs hn =>
    C03_p2sh cx tc sc flags _ _ e0 hag hs hP hpat hnw n hn

/-- the output types of the property as shapes of (scriptSig, scriptPubKey, witness); the side conditions are the
    regions where the debugger is known to differ from validation (see the findings listed in the header) -/
inductive Shape (sc : Spec.SpendCtx) (flags : Nat) (sig spk : Bytes) (witness : List Bytes) : Prop
  | legacy : witness = [] → spk ≠ [] → Spec.witnessProgram spk = none →
      (hasFlag flags Flag.P2SH && Spec.isP2SH spk) = false → NoUndefinedOpcode sig → Shape sc flags sig spk witness
  | p2sh : witness = [] → Spec.isP2SH spk = true →
      (∀ s1 redeem rest, Spec.runScript sc flags .BASE none none sig {} = .ok s1 → s1.stack = redeem :: rest →
        Spec.witnessProgram redeem = none) → NoUndefinedOpcode sig → Shape sc flags sig spk witness
  | witness_not_p2sh : sig ≠ [] → witness ≠ [] → Spec.isP2SH spk = false → Shape sc flags sig spk witness
  | p2wpkh (prog wlast : Bytes) : sig = [] → spk = 0x00 :: 0x14 :: prog → prog.length = 20 →
      witness.getLast? = some wlast → Spec.toBool prog = true → Shape sc flags sig spk witness
  | p2wsh (prog wlast : Bytes) : sig = [] → spk = 0x00 :: 0x20 :: prog → prog.length = 32 →
      witness.getLast? = some wlast → Spec.toBool prog = true → NoUndefinedOpcode wlast → Shape sc flags sig spk witness
  | p2sh_p2wpkh (prog hh wlast : Bytes) : sig = Spec.pushOf (0x00 :: 0x14 :: prog) → spk = 0xa9 :: 0x14 :: (hh ++ [0x87]) →
      prog.length = 20 → hh.length = 20 → witness.getLast? = some wlast → Spec.toBool prog = true →
      Shape sc flags sig spk witness
  | p2sh_p2wsh (prog hh wlast : Bytes) : sig = Spec.pushOf (0x00 :: 0x20 :: prog) → spk = 0xa9 :: 0x14 :: (hh ++ [0x87]) →
      prog.length = 32 → hh.length = 20 → witness.getLast? = some wlast → Spec.toBool prog = true →
      NoUndefinedOpcode wlast → Shape sc flags sig spk witness
  | keypath (prog wlast sg : Bytes) : sig = [] → spk = 0x51 :: 0x20 :: prog → prog.length = 32 →
      witness.getLast? = some wlast → (if hasAnnexS witness wlast then witness.dropLast else witness) = [sg] →
      Spec.toBool prog = true → Shape sc flags sig spk witness
  | tapscript (prog wlast control leafScript : Bytes) (stack : List Bytes) : sig = [] → spk = 0x51 :: 0x20 :: prog →
      prog.length = 32 → witness.getLast? = some wlast →
      stack = (if hasAnnexS witness wlast then witness.dropLast else witness) →
      stack.getLast? = some control → stack.dropLast.getLast? = some leafScript → Spec.toBool prog = true →
      (control.headD 0).toNat - (control.headD 0).toNat % 2 = 0xc0 → Spec.hasOpSuccess false leafScript = false →
      NoUndefinedOpcode leafScript → Shape sc flags sig spk witness

/-- **C03, verdict.**  For every spend of one of the output types of the property (`Shape`), under the standard segwit /
    taproot flags, with hash functions and signature checker that agree with the specification's: the debugger refuses
    the spend (`configure_tx_txin` or `setup_environment` returns false) only if validation rejects the input, and
    otherwise the session run to its end (`sessionFuel` steps suffice) finishes without error with exactly the final
    stack validation requires iff `VerifyScript` accepts the input. -/
theorem C03_verdict (h : HashCtx) (tc : TapCtx) (cx : Ctx) (sc : Spec.SpendCtx) (flags : Nat) (tx txin : Tx) (idx vout : Nat)
    (sv0 : SigVersion) (inp : TxIn) (spent : TxOut)
    (hinp : tx.vin[idx]? = some inp) (hspent : txin.vout[vout]? = some spent)
    (hshape : Shape sc flags inp.scriptSig spent.scriptPubKey inp.witness)
    (hP : hasFlag flags Flag.P2SH = true) (hW : hasFlag flags Flag.WITNESS = true) (hT : hasFlag flags Flag.TAPROOT = true)
    (hsha : ∀ b, h.sha256 b = sc.sha256 b)
    (hh160 : ∀ sv b, h.hash160 b = (sc.oracleFor sv none none).ripemd160 ((sc.oracleFor sv none none).sha256 b))
    (htap : C05.Agree tc sc.tap)
    (hag : ∀ sv annex leaf, CheckerAgrees cx sc flags sv annex leaf) :
    Agrees h tc cx flags tx txin idx vout sv0 sessionFuel
      (Spec.verifyScript sc flags inp.scriptSig spent.scriptPubKey inp.witness) := by
  have hmono : ∀ e, continueFuel e ≤ sessionFuel e := fun e => by unfold sessionFuel; omega
  cases hshape with
  | legacy a1 a2 a4 a5 a6 =>
    exact legacy_agrees h tc cx sc flags tx txin idx vout sv0 inp spent hinp hspent a1 (hag _ _ _) a2 (Or.inl a4) a5 a6
  | p2sh a1 a2 a3 a4 =>
    exact p2sh_agrees h tc cx sc flags tx txin idx vout sv0 inp spent hinp hspent a1 (hag _ _ _) hP a2 (Or.inr a3) a4
  | witness_not_p2sh a1 a2 a3 =>
    exact C03_witness_not_p2sh h tc cx sc flags tx txin idx vout sv0 inp spent sessionFuel hinp hspent a1 a2 a3 hW
  | p2wpkh prog wlast a1 a2 a3 a4 a5 =>
    exact agreesC_mono hmono (C03_p2wpkh h tc cx sc flags tx txin idx vout sv0 inp spent prog wlast hinp hspent a1 a2 a3 a4
      (hh160 _) (hag _ _ _) hW a5)
  | p2wsh prog wlast a1 a2 a3 a4 a5 a6 =>
    exact agreesC_mono hmono (C03_p2wsh h tc cx sc flags tx txin idx vout sv0 inp spent prog wlast hinp hspent a1 a2 a3 a4
      hsha (hag _ _ _) hW a5 a6)
  | p2sh_p2wpkh prog hh wlast a1 a2 a3 a4 a5 a6 =>
    exact agreesC_mono hmono (C03_p2sh_p2wpkh h tc cx sc flags tx txin idx vout sv0 inp spent prog hh wlast hinp hspent
      a1 a2 a3 a4 a5 (hh160 _) (hh160 _) (hag _ _ _) hP hW a6)
  | p2sh_p2wsh prog hh wlast a1 a2 a3 a4 a5 a6 a7 =>
    exact agreesC_mono hmono (C03_p2sh_p2wsh h tc cx sc flags tx txin idx vout sv0 inp spent prog hh wlast hinp hspent
      a1 a2 a3 a4 a5 hsha (hh160 _) (hag _ _ _) hP hW a6 a7)
  | keypath prog wlast sg a1 a2 a3 a4 a5 a6 =>
    exact agreesC_mono hmono (C03_keypath h tc cx sc flags tx txin idx vout sv0 inp spent prog wlast sg hinp hspent
      a1 a2 a3 a4 a5 (hag _ _ _) hW hT a6)
  | tapscript prog wlast control leafScript stack a1 a2 a3 a4 a5 a6 a7 a8 a9 a10 a11 =>
    exact agreesC_mono hmono (C03_tapscript h tc cx sc flags tx txin idx vout sv0 inp spent prog wlast control leafScript stack
      hinp hspent a1 a2 a3 a4 a5 a6 a7 htap (hag _ _ _) hW hT a8 a9 a10 a11)

section Examples

/-- toy hash: pad / cut to the digest length (cheap enough for the kernel) -/
def toyHash (n : Nat) (b : Bytes) : Bytes := (b ++ List.replicate n 0).take n

/-- a checker that accepts no signature -/
def toyCx : Ctx where
  sha256 := toyHash 32
  ripemd160 := toyHash 20
  sha1 := toyHash 20
  checkLowS := fun _ => true
  checkLockTime := fun _ => false
  checkSequence := fun _ => false
  checkECDSA := fun _ _ _ _ => false
  checkSchnorr := fun _ _ _ _ => .error (.script .SCHNORR_SIG)

def toyOracle : Spec.SigOracle where
  checkLowS := fun _ => true
  checkLockTime := fun _ => false
  checkSequence := fun _ => false
  ecdsa := fun _ _ _ _ => false
  schnorr := fun _ _ _ _ => .error .SCHNORR_SIG
  sha256 := toyHash 32
  ripemd160 := toyHash 20
  sha1 := toyHash 20

def toySc : Spec.SpendCtx where
  oracleFor := fun _ _ _ => toyOracle
  sha256 := toyHash 32
  hash160 := fun b => toyHash 20 (toyHash 32 b)
  tap := { taggedHash := fun _ m => m, tweakCheck := fun _ _ _ _ => false }

theorem toy_agrees (flags : Nat) (sv : SigVersion) (annex leaf : Option Bytes) :
    CheckerAgrees toyCx toySc flags sv annex leaf := by
  intro e he
  simp only [conf, Prod.mk.injEq] at he
  obtain ⟨h1, h2, h3, h4, h5, h6⟩ := he
  exact { flags := h1.symm, sv := h2.symm, z := h4.symm, rm := by rw [h3, h1], sha256 := rfl, ripemd160 := rfl, sha1 := rfl,
          checkLowS := rfl, checkLockTime := rfl, checkSequence := rfl, ecdsa := rfl,
          schnorr := fun _ _ _ _ => ⟨rfl, rfl⟩,
          pretendKeys := fun key => by rw [h6]; rfl,
          pretendPair := fun sig key hk => by rw [h6] at hk; cases hk }

example : specOk (Spec.verifyScript toySc 0 [0x01, 0x07] [0x01, 0x07, 0x87] []) = true := by decide

def toyTc : TapCtx := { taggedHash := fun _ m => m, checkTapTweak := fun _ _ _ _ => false }

/-- (a): scriptSig `<07>`, scriptPubKey `<07> OP_EQUAL`: validation accepts, so the session is valid -/
example : sessionValid 0 .BASE (continueScript toyCx toyTc
      (continueFuel (setupEnv [] [0x01, 0x07] 0 .BASE [0x01, 0x07, 0x87] {} none))
      (setupEnv [] [0x01, 0x07] 0 .BASE [0x01, 0x07, 0x87] {} none)) = true := by
  have hs : setupEnvironment [] [0x01, 0x07] 0 .BASE [0x01, 0x07, 0x87] false {} none [] [] =
      .ok (setupEnv [] [0x01, 0x07] 0 .BASE [0x01, 0x07, 0x87] {} none) := by
    rw [setup_eq]; rfl
  exact (C03_legacy_iff toyCx toyTc toySc 0 _ _ _ (toy_agrees _ _ _ _) hs (by decide) (Or.inl (by decide))
    (by decide)).2 ((specOk_iff _).1 (by decide))

/-- the same by evaluating the model -/
example : sessionValid 0 .BASE (continueScript toyCx toyTc 9
      (setupEnv [] [0x01, 0x07] 0 .BASE [0x01, 0x07, 0x87] {} none)) = true := by decide

/-- (a): a wrong satisfaction: scriptSig `<08>` -/
example : sessionValid 0 .BASE (continueScript toyCx toyTc
      (continueFuel (setupEnv [] [0x01, 0x08] 0 .BASE [0x01, 0x07, 0x87] {} none))
      (setupEnv [] [0x01, 0x08] 0 .BASE [0x01, 0x07, 0x87] {} none)) = false := by
  have hs : setupEnvironment [] [0x01, 0x08] 0 .BASE [0x01, 0x07, 0x87] false {} none [] [] =
      .ok (setupEnv [] [0x01, 0x08] 0 .BASE [0x01, 0x07, 0x87] {} none) := by
    rw [setup_eq]; rfl
  exact Bool.eq_false_iff.2 fun hv => absurd ((specOk_iff _).2 ((C03_legacy_iff toyCx toyTc toySc 0 _ _ _ (toy_agrees _ _ _ _)
    hs (by decide) (Or.inl (by decide)) (by decide)).1 hv)) (by decide)

def toyH : HashCtx := { sha256 := toyHash 32, hash160 := fun b => toyHash 20 (toyHash 32 b), hash256 := toyHash 32 }

/-- the funding transaction of the examples: one output with the given locking script -/
def fundTx (spk : Bytes) : Tx := { version := 2, lockTime := 0, vin := [], vout := [{ value := 1000, scriptPubKey := spk }] }
def spendIn (fund : Tx) (sig : Bytes) (wit : List Bytes) : TxIn :=
  { prevout := { hash := txHash toyH.hash256 fund, n := 0 }, scriptSig := sig, sequence := 0, witness := wit }
/-- the spending transaction: one input -/
def spendTx (fund : Tx) (sig : Bytes) (wit : List Bytes) : Tx :=
  { version := 2, lockTime := 0, vout := [], vin := [spendIn fund sig wit] }

/-- input selection on a concrete pair: the only input references the funding transaction -/
example : parseInputTransaction toyH (spendTx (fundTx [0x51]) [] []) (fundTx [0x51]) (-1) = some (0, 0) := by
  rw [C03_select]; decide
/-- a selection that is out of range is refused -/
example : parseInputTransaction toyH (spendTx (fundTx [0x51]) [] []) (fundTx [0x51]) 3 = none := by
  rw [C03_select]; decide

/-- (c): the hypotheses of `C03_p2wsh` hold for a concrete spend: witness script `<07> OP_EQUAL`, witness `[07, script]` -/
example : Agrees toyH toyTc toyCx 2048
    (spendTx (fundTx (0x00 :: 0x20 :: toyHash 32 [0x01, 0x07, 0x87])) [] [[0x07], [0x01, 0x07, 0x87]])
    (fundTx (0x00 :: 0x20 :: toyHash 32 [0x01, 0x07, 0x87])) 0 0 .WITNESS_V0 continueFuel
    (Spec.verifyScript toySc 2048 [] (0x00 :: 0x20 :: toyHash 32 [0x01, 0x07, 0x87]) [[0x07], [0x01, 0x07, 0x87]]) :=
  C03_p2wsh toyH toyTc toyCx toySc 2048 _ _ 0 0 .WITNESS_V0
    (spendIn (fundTx (0x00 :: 0x20 :: toyHash 32 [0x01, 0x07, 0x87])) [] [[0x07], [0x01, 0x07, 0x87]])
    { value := 1000, scriptPubKey := 0x00 :: 0x20 :: toyHash 32 [0x01, 0x07, 0x87] }
    (toyHash 32 [0x01, 0x07, 0x87]) [0x01, 0x07, 0x87]
    rfl rfl rfl rfl (by decide) rfl (fun _ => rfl) (toy_agrees _ _ _ _) (by decide) (by decide)
    (by unfold NoUndefinedOpcode; decide)
/-- ... and validation accepts that spend -/
example : specOk (Spec.verifyScript toySc 2048 [] (0x00 :: 0x20 :: toyHash 32 [0x01, 0x07, 0x87]) [[0x07], [0x01, 0x07, 0x87]]) = true := by
  decide

/-- (f): the hypotheses of `C03_tapscript` hold for a concrete spend (33-byte control block, leaf script `<07> OP_EQUAL`) -/
example : Agrees toyH toyTc toyCx (2048 + 131072)
    (spendTx (fundTx (0x51 :: 0x20 :: List.replicate 32 9)) [] [[0x07], [0x01, 0x07, 0x87], 0xc0 :: List.replicate 32 1])
    (fundTx (0x51 :: 0x20 :: List.replicate 32 9)) 0 0 .WITNESS_V0 continueFuel
    (Spec.verifyScript toySc (2048 + 131072) [] (0x51 :: 0x20 :: List.replicate 32 9)
      [[0x07], [0x01, 0x07, 0x87], 0xc0 :: List.replicate 32 1]) :=
  C03_tapscript toyH toyTc toyCx toySc (2048 + 131072) _ _ 0 0 .WITNESS_V0
    (spendIn (fundTx (0x51 :: 0x20 :: List.replicate 32 9)) [] [[0x07], [0x01, 0x07, 0x87], 0xc0 :: List.replicate 32 1])
    { value := 1000, scriptPubKey := 0x51 :: 0x20 :: List.replicate 32 9 }
    (List.replicate 32 9) (0xc0 :: List.replicate 32 1)
    (0xc0 :: List.replicate 32 1) [0x01, 0x07, 0x87] [[0x07], [0x01, 0x07, 0x87], 0xc0 :: List.replicate 32 1]
    rfl rfl rfl rfl (by decide) rfl (by decide) rfl rfl ⟨fun _ _ => rfl, fun _ _ _ _ => rfl⟩ (toy_agrees _ _ _ _)
    (by decide) (by decide) (by decide) (by decide) (by decide) (by unfold NoUndefinedOpcode; decide)

end Examples

end Btcdeb.Proofs.C03
