/-
  Phases of a debugger session (`ContinueScript` = repeated `StepScript(InterpreterEnv&)`):
  the operations of one script (`runOps`, related to the specification by `runOps_refines`), then the
  end-of-script branch.  Fuel bookkeeping for `continueScript`, the frame of a phase, and the phase
  lemma: one script phase of the session = `Spec.evalScript` of that script.  The phase lemma comes in three
  forms: `phase_refines` from any opcode position and related state; `phase_aligned` for a script that starts at
  opcode position 0 (the session "aligned" with a fresh `Spec.evalScript`); `phase_base` for legacy scripts in any
  position.  `PhaseRel` relates the outcomes by the full state relation `Rel`; `PhaseRelS` (and the lemmas with the
  suffix `S`) by the main stack only, which is all the next phase or the verdict reads.
-/
import Btcdeb
import BtcdebProofs.Refine.Run
import BtcdebProofs.Lemmas.SpecCore
namespace Btcdeb.Proofs.Phases
open Btcdeb Btcdeb.Model Btcdeb.Refine Btcdeb.Proofs.SpecCore

def Final (r : M IEnv) : Prop :=
  match r with
  | .ok e => e.done = true
  | .error _ => True

theorem continue_mono (cx : Ctx) (tc : TapCtx) : ∀ (n m : Nat) (e : IEnv) (r : M IEnv),
    continueScript cx tc n e = r → Final r → continueScript cx tc (n + m) e = r
  | 0, m, e, r, h, hf => by
    have : r = .ok e := h.symm
    subst this
    exact continue_done cx tc _ e hf
  | n + 1, m, e, r, h, hf => by
    by_cases hd : e.done = true
    · rw [continue_done cx tc _ e hd] at h ⊢; exact h
    · have hd' : e.done = false := by simpa using hd
      have : n + 1 + m = (n + m) + 1 := by omega
      rw [this, continue_succ cx tc _ e hd']
      rw [continue_succ cx tc _ e hd'] at h
      cases hs : stepSession cx tc e with
      | error x => rw [hs] at h; exact h
      | ok e' =>
        rw [hs] at h
        exact continue_mono cx tc n m e' r h hf

/-- the session started at `e` stops with `r` after at most `N` steps -/
def Ends (cx : Ctx) (tc : TapCtx) (e : IEnv) (N : Nat) (r : M IEnv) : Prop :=
  Final r ∧ ∀ n, N ≤ n → continueScript cx tc n e = r

theorem ends_of (cx : Ctx) (tc : TapCtx) (e : IEnv) (N : Nat) (r : M IEnv) (hf : Final r)
    (h : continueScript cx tc N e = r) : Ends cx tc e N r := by
  refine ⟨hf, fun n hn => ?_⟩
  obtain ⟨m, rfl⟩ : ∃ m, n = N + m := ⟨n - N, by omega⟩
  exact continue_mono cx tc N m e r h hf

theorem ends_done (cx : Ctx) (tc : TapCtx) (e : IEnv) (h : e.done = true) : Ends cx tc e 0 (.ok e) :=
  ⟨h, fun n _ => continue_done cx tc n e h⟩

theorem ends_weaken {cx : Ctx} {tc : TapCtx} {e : IEnv} {N N' : Nat} {r : M IEnv} (h : Ends cx tc e N r) (hle : N ≤ N') :
    Ends cx tc e N' r :=
  ⟨h.1, fun n hn => h.2 n (by omega)⟩

theorem ends_step_err (cx : Ctx) (tc : TapCtx) (e : IEnv) (x : StepErr) (hd : e.done = false)
    (hs : stepSession cx tc e = .error x) : Ends cx tc e 1 (.error x) := by
  apply ends_of cx tc e 1 (.error x) (by simp [Final])
  rw [continue_succ cx tc 0 e hd, hs]; rfl

theorem ends_step {cx : Ctx} {tc : TapCtx} {e e' : IEnv} {N : Nat} {r : M IEnv} (hd : e.done = false)
    (hs : stepSession cx tc e = .ok e') (h : Ends cx tc e' N r) : Ends cx tc e (N + 1) r := by
  apply ends_of _ _ _ _ _ h.1
  rw [continue_succ cx tc N e hd, hs]
  exact h.2 N (Nat.le_refl _)

theorem ends_unique {cx : Ctx} {tc : TapCtx} {e : IEnv} {N N' : Nat} {r r' : M IEnv} (h : Ends cx tc e N r)
    (h' : Ends cx tc e N' r') : r = r' := by
  rw [← h.2 (N + N') (by omega), ← h'.2 (N + N') (by omega)]

/-- the configuration part of the script environment: everything `CfgRel` looks at (the script itself is in `outer`) -/
def conf (e : SEE) := (e.flags, e.sigversion, e.requireMinimal, e.allowDisabled, e.pretendMap, e.pretendKeys)

/-- the script, and the session fields outside the script environment that the end-of-script branch reads: operations
    leave them alone -/
def outer (e : IEnv) :=
  (e.done, e.isP2sh, e.p2shStack, e.successor, e.sigscriptExecuted, e.sigscriptPushonly, e.tce, e.see.script)

section
variable {e' e : IEnv} (h : outer e' = outer e)
include h
theorem outer_done : e'.done = e.done := congrArg (·.1) h
theorem outer_isP2sh : e'.isP2sh = e.isP2sh := congrArg (·.2.1) h
theorem outer_p2shStack : e'.p2shStack = e.p2shStack := congrArg (·.2.2.1) h
theorem outer_successor : e'.successor = e.successor := congrArg (·.2.2.2.1) h
theorem outer_sigscriptExecuted : e'.sigscriptExecuted = e.sigscriptExecuted := congrArg (·.2.2.2.2.1) h
theorem outer_sigscriptPushonly : e'.sigscriptPushonly = e.sigscriptPushonly := congrArg (·.2.2.2.2.2.1) h
theorem outer_tce : e'.tce = e.tce := congrArg (·.2.2.2.2.2.2.1) h
theorem outer_script : e'.see.script = e.see.script := congrArg (·.2.2.2.2.2.2.2) h
end

theorem cfgRel_of_conf {cx : Ctx} {e e' : SEE} {cfg : Spec.Cfg} (hc : CfgRel cx e cfg) (hf : conf e' = conf e) :
    CfgRel cx e' cfg := by
  simp only [conf, Prod.mk.injEq] at hf
  obtain ⟨h2, h3, h4, h5, h6, h7⟩ := hf
  exact cfgRel_of_frame hc h2 h3 h4 h5 h6 h7

theorem step_conf {cx : Ctx} {e e' : SEE} {pc pc' : Bytes} (h : step cx e pc = .ok (e', pc')) :
    conf e' = conf e ∧ e'.script = e.script := by
  have hfr := step_frame h
  simp only [SEE.frame, Prod.mk.injEq] at hfr
  obtain ⟨h1, h2, h3, h4, h5, h6, h7, _⟩ := hfr
  simp [conf, h1, h2, h3, h4, h5, h6, h7]

/-- The operations `runOps` carries out are steps of the session, one per entry of the list it returns: a run that ends
    well has consumed that many steps of `continueScript`'s fuel, a run that fails one more (the failing step). -/
theorem runOps_in_continue (cx : Ctx) (tc : TapCtx) : ∀ (fuel : Nat) (e : IEnv), e.tce = none → e.done = false →
    (runOps cx tc fuel e).1.length ≤ e.pc.length ∧
    (match (runOps cx tc fuel e).2 with
     | .ok e' => outer e' = outer e ∧ conf e'.see = conf e.see ∧
         ∀ n, continueScript cx tc (n + (runOps cx tc fuel e).1.length) e = continueScript cx tc n e'
     | .error x => ∀ n, continueScript cx tc (n + (runOps cx tc fuel e).1.length + 1) e = .error x) := by
  refine runOps_induct cx tc (motive := fun _ e r => e.done = false → r.1.length ≤ e.pc.length ∧
    (match r.2 with
     | .ok e' => outer e' = outer e ∧ conf e'.see = conf e.see ∧
         ∀ n, continueScript cx tc (n + r.1.length) e = continueScript cx tc n e'
     | .error x => ∀ n, continueScript cx tc (n + r.1.length + 1) e = .error x)) ?_ ?_ ?_
  · intro n e _ _ _
    simp
  · intro n e x ht hpc hm hd
    refine ⟨Nat.zero_le _, fun k => ?_⟩
    rw [continue_succ cx tc _ e hd, stepSession_op cx tc e ht (by simpa using hpc), hm]; rfl
  · intro n e r ht hpc hm hlt ih hd
    have hs : stepSession cx tc e = .ok (afterOp e r) := by
      rw [stepSession_op cx tc e ht (by simpa using hpc), hm]; rfl
    obtain ⟨hc1, hs1⟩ := step_conf hm
    obtain ⟨ihl, ihr⟩ := ih hd
    refine ⟨by show _ + 1 ≤ _; change _ ≤ r.2.length at ihl; omega, ?_⟩
    simp only [List.length_cons, ← Nat.add_assoc]
    cases hr : (runOps cx tc n (afterOp e r)).2 with
    | ok e' =>
      rw [hr] at ihr
      obtain ⟨i1, i2, i3⟩ := ihr
      refine ⟨i1.trans (by simp [outer, afterOp, hs1]), i2.trans hc1, fun k => ?_⟩
      rw [continue_succ cx tc _ e hd, hs]
      exact i3 k
    | error x =>
      rw [hr] at ihr
      intro k
      rw [Nat.add_right_comm _ 1, continue_succ cx tc _ e hd, hs]
      exact ihr k

theorem ends_ops_err {cx : Ctx} {tc : TapCtx} {e : IEnv} {fuel : Nat} {x : StepErr} (ht : e.tce = none) (hd : e.done = false)
    (hr : (runOps cx tc fuel e).2 = .error x) : Ends cx tc e (e.pc.length + 1) (.error x) := by
  obtain ⟨hl, h2⟩ := runOps_in_continue cx tc fuel e ht hd
  rw [hr] at h2
  simp only at h2
  exact ends_weaken (ends_of cx tc e _ (.error x) (by simp [Final]) (by simpa using h2 0)) (by omega)

theorem ends_ops_ok {cx : Ctx} {tc : TapCtx} {e e' : IEnv} {fuel N : Nat} {r : M IEnv} (ht : e.tce = none) (hd : e.done = false)
    (hr : (runOps cx tc fuel e).2 = .ok e') (h : Ends cx tc e' N r) : Ends cx tc e (N + e.pc.length) r := by
  obtain ⟨hl, h2⟩ := runOps_in_continue cx tc fuel e ht hd
  rw [hr] at h2
  simp only at h2
  refine ends_weaken (ends_of cx tc e (N + (runOps cx tc fuel e).1.length) r h.1 ?_) (by omega)
  rw [h2.2.2 N]
  exact h.2 N (Nat.le_refl _)

theorem end_unbalanced (cx : Ctx) (tc : TapCtx) (e : IEnv) (ht : e.tce = none) (hpc : e.pc = [])
    (hce : e.see.cond.empty = false) : stepSession cx tc e = fail .UNBALANCED_CONDITIONAL := by
  unfold stepSession
  simp only [ht, hpc, List.isEmpty_nil, Bool.not_true, Bool.false_eq_true, if_false, hce, Bool.not_false, if_true]

theorem end_finish (cx : Ctx) (tc : TapCtx) (e : IEnv) (ht : e.tce = none) (hpc : e.pc = [])
    (hce : e.see.cond.empty = true) (hp : e.isP2sh = false) (hs : e.successor = []) :
    stepSession cx tc e = .ok { e with done := true } := by
  rw [stepSession_end cx tc e ht hpc hp hs, if_pos hce]

/-- end of the scriptSig: hand-over to the scriptPubKey -/
theorem end_succ (cx : Ctx) (tc : TapCtx) (e : IEnv) (ht : e.tce = none) (hpc : e.pc = [])
    (hce : e.see.cond.empty = true) (hp : e.isP2sh = false) (hs : e.successor ≠ [])
    (hsz : e.successor.length ≤ Gen.MAX_SCRIPT_SIZE) :
    stepSession cx tc e =
      .ok { e with sigscriptExecuted := true, sigscriptPushonly := isPushOnly e.see.script,
                   see := { e.see with script := e.successor, pbegincodehash := e.successor, nOpCount := 0, altstack := [] },
                   successor := [], pc := e.successor, currOpSeq := e.currOpSeq + 1,
                   isP2sh := p2shPattern e.see.flags e.successor,
                   p2shStack := if p2shPattern e.see.flags e.successor then e.see.stack else e.p2shStack } := by
  unfold stepSession
  have : e.successor.isEmpty = false := by simpa using hs
  have hsz' : ¬ e.successor.length > Gen.MAX_SCRIPT_SIZE := by omega
  simp only [ht, hpc, List.isEmpty_nil, Bool.not_true, Bool.false_eq_true, if_false, hce, hp, this, Bool.not_false,
    if_true, hsz']
  rfl

theorem end_succ_size (cx : Ctx) (tc : TapCtx) (e : IEnv) (ht : e.tce = none) (hpc : e.pc = [])
    (hce : e.see.cond.empty = true) (hp : e.isP2sh = false)
    (hsz : e.successor.length > Gen.MAX_SCRIPT_SIZE) :
    stepSession cx tc e = fail .SCRIPT_SIZE := by
  unfold stepSession
  have : e.successor.isEmpty = false := by
    cases hs : e.successor with
    | nil => rw [hs] at hsz; simp at hsz
    | cons _ _ => rfl
  simp only [ht, hpc, List.isEmpty_nil, Bool.not_true, Bool.false_eq_true, if_false, hce, hp, this, Bool.not_false,
    if_true, hsz]

/-- end of a script recognised as P2SH: the checks, then hand-over to the redeem script -/
theorem end_p2sh (cx : Ctx) (tc : TapCtx) (e : IEnv) (ht : e.tce = none) (hpc : e.pc = [])
    (hce : e.see.cond.empty = true) (hp : e.isP2sh = true) :
    stepSession cx tc e =
      match e.see.stack.getLast? with
      | none => fail .EVAL_FALSE
      | some t =>
        if !castToBool t then fail .EVAL_FALSE
        else if isPayToScriptHash e.see.script then
          if e.sigscriptExecuted && !e.sigscriptPushonly then fail .SIG_PUSHONLY
          else
          match e.p2shStack.getLast? with
          | none => fail .INVALID_STACK_OPERATION
          | some redeem =>
            pure { e with isP2sh := false,
                          see := { e.see with stack := e.p2shStack.dropLast, script := redeem, pbegincodehash := redeem, nOpCount := 0,
                                              altstack := [] },
                          pc := redeem, currOpSeq := e.currOpSeq + 1 }
        else fail .BAD_OPCODE := by
  unfold stepSession
  simp only [ht, hpc, List.isEmpty_nil, Bool.not_true, Bool.false_eq_true, if_false, hce, hp, if_true]
  rfl

/-- the script phase of a session as a whole: the operations of the current script, then the
    conditional-nesting check of the end-of-script branch -/
def phaseResult (cx : Ctx) (tc : TapCtx) (e : IEnv) : M IEnv :=
  match (runOps cx tc e.pc.length e).2 with
  | .error x => .error x
  | .ok e' => if !e'.see.cond.empty then fail .UNBALANCED_CONDITIONAL else .ok e'

def PhaseRel (m : M IEnv) (s : Spec.R Spec.St) : Prop :=
  match m, s with
  | .ok e', .ok st' => Rel e'.see st'
  | .error x, .error y => errAbs x = y ∧ isAbnormal x = false
  | _, _ => False

theorem phase_refines (cx : Ctx) (tc : TapCtx) (cfg : Spec.Cfg) (e : IEnv) (st : Spec.St)
    (ht : e.tce = none) (hc : CfgRel cx e.see cfg) (hrel : Rel e.see st)
    (hw : e.see.sigversion = .TAPSCRIPT → e.see.execdata.weightInit = true) :
    PhaseRel (phaseResult cx tc e) (evalFrom cfg e.pc e.see.opcodePos st) := by
  have h := runOps_refines cx tc cfg e.pc.length e st ht (Nat.le_refl _) hc hrel hw
  obtain ⟨_, hout⟩ := h
  unfold phaseResult evalFrom
  simp only
  cases hm : (runOps cx tc e.pc.length e).2 with
  | error x =>
    cases hs : (Spec.evalInstrs cfg (Spec.decodePrefix e.pc.length e.pc).1 e.see.opcodePos st).2 with
    | error y =>
      rw [hm, hs] at hout
      simpa [PhaseRel] using hout
    | ok st' =>
      rw [hm, hs] at hout
      obtain ⟨h1, h2⟩ := hout
      simp [PhaseRel, h1, h2, errAbs, isAbnormal]
  | ok e' =>
    cases hs : (Spec.evalInstrs cfg (Spec.decodePrefix e.pc.length e.pc).1 e.see.opcodePos st).2 with
    | error y =>
      rw [hm, hs] at hout
      exact hout.elim
    | ok st' =>
      rw [hm, hs] at hout
      obtain ⟨h1, h2, h3, h4⟩ := hout
      have hce := condRel_isEmpty h2.cond
      simp only [h1, Bool.not_true, Bool.false_eq_true, if_false]
      rw [hce]
      cases hcond : st'.cond.isEmpty
      · simp [PhaseRel, fail, errAbs, isAbnormal]
      · simpa [PhaseRel] using h2

theorem runOps_ok_pc (cx : Ctx) (tc : TapCtx) : ∀ (fuel : Nat) (e0 : IEnv), e0.tce = none → e0.pc.length ≤ fuel →
    ∀ e2, (runOps cx tc fuel e0).2 = .ok e2 → e2.pc = [] := by
  refine runOps_induct cx tc (motive := fun fuel e0 r => e0.pc.length ≤ fuel → ∀ e2, r.2 = .ok e2 → e2.pc = []) ?_ ?_ ?_
  · intro n e _ h0 hl e2 hr
    cases hr
    exact h0.elim (fun hn => List.length_eq_zero_iff.mp (by omega)) id
  · intro n e x _ _ _ _ e2 hr; cases hr
  · intro n e r _ _ _ hlt ih hl e2 hr
    exact ih (by show r.2.length ≤ n; omega) e2 hr

/-- a script phase inside `continueScript`: its error is the session's; after its success whatever ends the rest of the
    session ends the session -/
theorem phase_ends {cx : Ctx} {tc : TapCtx} {e : IEnv} (ht : e.tce = none) (hd : e.done = false) :
    match phaseResult cx tc e with
    | .ok e' => outer e' = outer e ∧ conf e'.see = conf e.see ∧ e'.pc = [] ∧ e'.see.cond.empty = true ∧
        ∀ N r, Ends cx tc e' N r → Ends cx tc e (N + e.pc.length) r
    | .error x => Ends cx tc e (e.pc.length + 1) (.error x) := by
  unfold phaseResult
  cases hm : (runOps cx tc e.pc.length e).2 with
  | error y => exact ends_ops_err ht hd hm
  | ok e1 =>
    obtain ⟨_, h2⟩ := runOps_in_continue cx tc e.pc.length e ht hd
    rw [hm] at h2
    have hpc : e1.pc = [] := runOps_ok_pc cx tc e.pc.length e ht (Nat.le_refl _) e1 hm
    simp only
    cases hce : e1.see.cond.empty with
    | true => exact ⟨h2.1, h2.2.1, hpc, hce, fun N r hE => ends_ops_ok ht hd hm hE⟩
    | false =>
      -- the operations ran through with a conditional left open: it is the end-of-script step, one later, that fails
      exact ends_weaken (ends_ops_ok ht hd hm (ends_step_err cx tc e1 _ ((outer_done h2.1).trans hd)
        (end_unbalanced cx tc e1 ((outer_tce h2.1).trans ht) hpc hce))) (by omega)

/-- outcomes of a phase correspond, as far as the next phase can tell: the main stack -/
def PhaseRelS (m : M IEnv) (s : Spec.R Spec.St) : Prop :=
  match m, s with
  | .ok e', .ok st' => e'.see.stack = st'.stack.reverse ∧ e'.see.cond = {}
  | .error x, .error y => errAbs x = y ∧ isAbnormal x = false
  | _, _ => False

/-- **Phase lemma.** A script phase of the session that starts at the beginning of the script `e.pc` (within the
    size limit, if legacy or v0) with the opcode counter at 0 and a state related to `st0` is `Spec.evalScript` of that
    script on `st0`: the same error (C++ exceptions being UNKNOWN_ERROR, never an abnormal termination), or related
    final states.  The unbalanced-conditional check of the end-of-script branch is the specification's. -/
theorem phase_aligned (cx : Ctx) (tc : TapCtx) (cfg : Spec.Cfg) (e : IEnv) (st0 : Spec.St)
    (ht : e.tce = none) (hc : CfgRel cx e.see cfg) (hrel : Rel e.see { st0 with codeFrom := e.pc })
    (hpos : e.see.opcodePos = 0)
    (hw : e.see.sigversion = .TAPSCRIPT → e.see.execdata.weightInit = true)
    (hlen : (cfg.sigversion = .BASE ∨ cfg.sigversion = .WITNESS_V0) → e.pc.length ≤ Spec.maxScriptSize) :
    PhaseRel (phaseResult cx tc e) (Spec.evalScript cfg e.pc st0).result := by
  have h := phase_refines cx tc cfg e _ ht hc hrel hw
  rw [hpos] at h
  rw [evalScript_result]
  by_cases hsz : ((cfg.sigversion == .BASE || cfg.sigversion == .WITNESS_V0) && decide (e.pc.length > Spec.maxScriptSize)) = true
  · exfalso
    simp only [Bool.and_eq_true, Bool.or_eq_true, beq_iff_eq, decide_eq_true_eq] at hsz
    have := hlen hsz.1
    omega
  · simp only [hsz, Bool.false_eq_true, if_false]
    exact h

theorem phaseRelS_of {m : M IEnv} {r r' : Spec.R Spec.St} (h : PhaseRel m r) (hc : ResCore r r')
    (hcond : ∀ st, r = .ok st → st.cond = []) : PhaseRelS m r' := by
  cases m <;> cases r <;> cases r' <;> first | exact h.elim | exact hc.elim | skip
  · exact (show _ = _ from hc) ▸ h
  · rename_i e' s1 s2
    have hcore : Core s1 = Core s2 := hc
    simp only [Core, Prod.mk.injEq] at hcore
    refine ⟨by rw [← hcore.1]; exact h.stack, condRel_nil ?_⟩
    rw [← hcond s1 rfl]; exact h.cond

/-- **Phase lemma, legacy scripts in any position of the session.**  For a BASE (or WITNESS_V0) script phase (the
    script within the size limit and its own script code) that starts with the given main stack, an empty alt stack,
    no open conditional and operation count 0 — whatever the opcode counter and the code-separator bookkeeping left by
    earlier scripts — the phase is `Spec.evalScript` of the script on that stack: same error, or the specification's
    final stack.  Proof: `phase_refines` at the position the session really has, then `resCore_evalFrom` (position
    independence) carries the evaluation to position 0. -/
theorem phase_base (cx : Ctx) (tc : TapCtx) (cfg : Spec.Cfg) (e : IEnv) (S : List Bytes)
    (hsv : cfg.sigversion = .BASE ∨ cfg.sigversion = .WITNESS_V0)
    (ht : e.tce = none) (hc : CfgRel cx e.see cfg)
    (hstack : e.see.stack = S.reverse) (halt : e.see.altstack = []) (hcond : e.see.cond = {})
    (hops : e.see.nOpCount = 0) (hpb : e.see.pbegincodehash = e.pc)
    (hlen : e.pc.length ≤ Spec.maxScriptSize) :
    PhaseRelS (phaseResult cx tc e) (Spec.evalScript cfg e.pc { stack := S }).result := by
  let st : Spec.St := { stack := S, codeFrom := e.pc, codesepPos := e.see.execdata.codesepPos,
                        weightLeft := e.see.execdata.weightLeft, weightInit := e.see.execdata.weightInit }
  have hrel : Rel e.see st := by
    constructor <;> simp [st, hstack, halt, hcond, hops, hpb, condRel_empty]
  have hw : e.see.sigversion = .TAPSCRIPT → e.see.execdata.weightInit = true := by
    intro h
    rw [← hc.sv] at h
    rcases hsv with h' | h' <;> rw [h'] at h <;> cases h
  rw [evalScript_result, if_neg (by simp only [Bool.and_eq_true, decide_eq_true_eq, not_and]; omega)]
  exact phaseRelS_of (phase_refines cx tc cfg e st ht hc hrel hw)
    (resCore_evalFrom cfg hsv e.pc e.see.opcodePos 0 st { ({ stack := S } : Spec.St) with codeFrom := e.pc } rfl)
    fun _ h => (evalFrom_ok h).2.2

theorem phase_outcome {cx : Ctx} {tc : TapCtx} {e : IEnv} {r : Spec.R Spec.St} (ht : e.tce = none) (hd : e.done = false)
    (h : PhaseRelS (phaseResult cx tc e) r) :
    (∃ x y, r = .error y ∧ Ends cx tc e (e.pc.length + 1) (.error x)) ∨
    (∃ e' st', r = .ok st' ∧ e'.see.stack = st'.stack.reverse ∧ e'.see.cond = {} ∧ e'.pc = [] ∧
      outer e' = outer e ∧ conf e'.see = conf e.see ∧
      ∀ N r', Ends cx tc e' N r' → Ends cx tc e (N + e.pc.length) r') := by
  have hE := phase_ends (cx := cx) (tc := tc) ht hd
  cases hm : phaseResult cx tc e with
  | error x =>
    rw [hm] at h hE
    cases r with
    | ok _ => exact h.elim
    | error y => exact Or.inl ⟨x, y, rfl, hE⟩
  | ok e' =>
    rw [hm] at h hE
    cases r with
    | error _ => exact h.elim
    | ok st' => exact Or.inr ⟨e', st', rfl, h.1, h.2, hE.2.2.1, hE.1, hE.2.1, hE.2.2.2.2⟩

theorem phase_alignedS (cx : Ctx) (tc : TapCtx) (cfg : Spec.Cfg) (e : IEnv) (st0 : Spec.St)
    (ht : e.tce = none) (hc : CfgRel cx e.see cfg) (hrel : Rel e.see { st0 with codeFrom := e.pc })
    (hpos : e.see.opcodePos = 0)
    (hw : e.see.sigversion = .TAPSCRIPT → e.see.execdata.weightInit = true)
    (hlen : (cfg.sigversion = .BASE ∨ cfg.sigversion = .WITNESS_V0) → e.pc.length ≤ Spec.maxScriptSize) :
    PhaseRelS (phaseResult cx tc e) (Spec.evalScript cfg e.pc st0).result :=
  phaseRelS_of (phase_aligned cx tc cfg e st0 ht hc hrel hpos hw hlen) (resCore_refl _) fun _ h => (evalScript_ok h).2.2.2

end Btcdeb.Proofs.Phases
