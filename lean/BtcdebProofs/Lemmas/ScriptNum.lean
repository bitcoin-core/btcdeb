/- `set_vch`, the specification's value and the minimality test on a string split at its last byte (`exists_snoc_of_ne_nil`), the
   one that carries the sign bit. -/
import Btcdeb.Model.ScriptNum
import Btcdeb.Spec.ScriptNum
import BtcdebProofs.Lemmas.LE
namespace Btcdeb
open Model

theorem exists_snoc_of_ne_nil {α} (l : List α) (h : l ≠ []) : ∃ ys a, l = ys ++ [a] := by
  refine ⟨l.dropLast, l.getLast h, ?_⟩
  exact (List.dropLast_concat_getLast h).symm

theorem hi_iff (b : UInt8) : hi b = true ↔ 128 ≤ b.toNat := by simp [hi]
theorem hi_false_iff (b : UInt8) : hi b = false ↔ b.toNat < 128 := by simp [hi]

theorem lo7_of_hi {b : UInt8} (h : hi b = true) : lo7 b = b.toNat - 128 := by
  have := u8_lt b; have := (hi_iff b).mp h; unfold lo7; omega
theorem lo7_of_not_hi {b : UInt8} (h : hi b = false) : lo7 b = b.toNat := by
  have := (hi_false_iff b).mp h; unfold lo7; omega

theorem toNat_ofNat_add128 {a : UInt8} (h : a.toNat < 128) : (UInt8.ofNat (a.toNat + 128)).toNat = a.toNat + 128 := by
  rw [UInt8.toNat_ofNat']; omega

theorem setVch_snoc (ys : Bytes) (a : UInt8) :
    setVch (ys ++ [a]) =
      if hi a then -(((leValue ys + 256 ^ ys.length * (a.toNat - 128) : Nat)) : Int)
      else ((leValue ys + 256 ^ ys.length * a.toNat : Nat) : Int) := by
  unfold setVch
  simp only [List.getLast?_concat, List.length_append, List.length_cons, List.length_nil, Nat.add_sub_cancel, leValue_snoc]
  generalize 256 ^ ys.length = P
  split
  · rename_i h
    have h128 := (hi_iff a).mp h
    have : P * a.toNat = P * (a.toNat - 128) + 128 * P := by
      rw [Nat.mul_comm 128, ← Nat.mul_add]; congr 1; omega
    rw [this]
    generalize P * (a.toNat - 128) = Q
    have h2 : leValue ys + (Q + 128 * P) - 128 * P = leValue ys + Q := by omega
    rw [h2]
  · rfl

theorem numValue_snoc (ys : Bytes) (a : UInt8) :
    Spec.numValue (ys ++ [a]) =
      if hi a then -(((leValue ys + 256 ^ ys.length * lo7 a : Nat)) : Int)
      else ((leValue ys + 256 ^ ys.length * lo7 a : Nat) : Int) := by
  unfold Spec.numValue
  simp

theorem minimalOk_snoc (ys : Bytes) (a : UInt8) :
    minimalOk (ys ++ [a]) =
      if lo7 a == 0 then (match ys.getLast? with | none => false | some p => hi p) else true := by
  unfold minimalOk
  cases h : ys.getLast? <;> simp [h]

end Btcdeb
