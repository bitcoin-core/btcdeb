/-
  Strings as bytes and characters, and tables keyed by strings.
  `bytes s` are the UTF-8 bytes of `s` as a list; of an ASCII string the characters are the bytes (`toList_of_ascii`).  The
  files that compare texts with byte lists go through these.
  Tables keyed by strings are compared through an injective numeric key (`strKey`): each name is turned into a number
  once, and a sweep that looks every name of one table up in another then compares numbers, not UTF-8 byte arrays.
-/
namespace Btcdeb.Proofs.TableEval

def bytes (s : String) : List UInt8 := s.toByteArray.data.toList

theorem bytes_inj {s t : String} (h : bytes s = bytes t) : s = t :=
  String.toByteArray_inj.1 (ByteArray.ext (Array.ext' h))

theorem bytes_ofList (l : List Char) : bytes (String.ofList l) = l.flatMap String.utf8EncodeChar := by
  simp [bytes, List.utf8Encode]

theorem byteArray_toList_loop (bs : ByteArray) (i : Nat) (r : List UInt8) :
    ByteArray.toList.loop bs i r = r.reverse ++ bs.data.toList.drop i := by
  induction h : bs.size - i generalizing i r with
  | zero =>
    unfold ByteArray.toList.loop
    have : ¬ i < bs.size := by omega
    rw [if_neg this]
    have : bs.data.toList.length ≤ i := by
      have : bs.size = bs.data.toList.length := by simp [← ByteArray.size_data]
      omega
    rw [List.drop_of_length_le this]; simp
  | succ k ih =>
    unfold ByteArray.toList.loop
    have hlt : i < bs.size := by omega
    rw [if_pos hlt, ih (i + 1) _ (by omega)]
    have hlen : i < bs.data.toList.length := by simpa [← ByteArray.size_data] using hlt
    have hget : bs.get! i = bs.data.toList[i] := by
      cases bs with
      | mk d =>
        have : i < d.size := by simpa [← ByteArray.size_data] using hlt
        simp [ByteArray.get!, this]
    rw [List.reverse_cons, List.append_assoc, hget]
    congr 1
    rw [List.singleton_append, List.getElem_cons_drop]

theorem byteArray_toList (bs : ByteArray) : bs.toList = bs.data.toList := by
  unfold ByteArray.toList
  rw [byteArray_toList_loop]; simp

theorem toUTF8_ofList_ascii (l : List Char) (h : ∀ c ∈ l, c.utf8Size = 1) :
    (String.ofList l).toUTF8.toList = l.map (fun c => c.val.toUInt8) := by
  rw [byteArray_toList, String.toUTF8_eq_toByteArray]
  show bytes _ = _
  rw [bytes_ofList]
  induction l with
  | nil => rfl
  | cons c t ih =>
    rw [List.flatMap_cons, ih (fun c hc => h c (List.mem_cons_of_mem _ hc)),
      String.utf8EncodeChar_eq_singleton (h c List.mem_cons_self)]
    rfl

/-- the bytes as base-256 digits, least significant first, under a leading 1 that keeps the length -/
def keyOf : List UInt8 → Nat
  | [] => 1
  | b :: bs => keyOf bs * 256 + b.toNat

theorem keyOf_pos : ∀ bs, 0 < keyOf bs
  | [] => Nat.one_pos
  | b :: bs => by have := keyOf_pos bs; simp only [keyOf]; omega

theorem keyOf_inj : ∀ {as bs : List UInt8}, keyOf as = keyOf bs → as = bs
  | [], [], _ => rfl
  | [], b :: bs, h => by have := keyOf_pos bs; simp only [keyOf] at h; omega
  | a :: as, [], h => by have := keyOf_pos as; simp only [keyOf] at h; omega
  | a :: as, b :: bs, h => by
    have ha := a.toNat_lt; have hb := b.toNat_lt
    simp only [keyOf] at h
    rw [keyOf_inj (show keyOf as = keyOf bs by omega), UInt8.toNat_inj.1 (show a.toNat = b.toNat by omega)]

def strKey (s : String) : Nat := keyOf (bytes s)

theorem strKey_inj {s t : String} : strKey s = strKey t ↔ s = t :=
  ⟨fun h => bytes_inj (keyOf_inj h), congrArg _⟩

theorem beq_strKey (s t : String) : (s == t) = (strKey s == strKey t) := by
  rw [Bool.eq_iff_iff]; simp [strKey_inj]

theorem bne_strKey (s t : String) : (s != t) = (strKey s != strKey t) := by
  simp only [bne, beq_strKey]

def keyed {β} (p : String × β) : Nat × β := (strKey p.1, p.2)

theorem keyed_inj {β} (p q : String × β) (h : keyed p = keyed q) : p = q := by
  simp only [keyed, Prod.mk.injEq, strKey_inj] at h; exact Prod.ext h.1 h.2

theorem lookup_strKey {β} (k : String) : ∀ l : List (String × β), l.lookup k = (l.map keyed).lookup (strKey k)
  | [] => rfl
  | (a, b) :: l => by simp only [List.lookup, List.map, keyed, beq_strKey k a, lookup_strKey k l]

/-! A long table is searched by bucket: the rows are sorted once, by the residue of the key, into `m + 1` lists, and a lookup
    only walks the list of its key.  (The kernel evaluates each bucket once: it is a closed term.) -/

def buckets {β} (m : Nat) (g : List (Nat × β)) : List (List (Nat × β)) :=
  (List.range (m + 1)).map fun r => g.filter fun q => q.1 % (m + 1) == r

theorem lookup_filter {β} (k : Nat) (f : Nat → Nat) : ∀ g : List (Nat × β), (g.filter fun q => f q.1 == f k).lookup k = g.lookup k
  | [] => rfl
  | (a, b) :: g => by
    by_cases h : k = a
    · subst h; simp [List.filter, List.lookup]
    · have hb : (k == a) = false := by simpa using h
      cases hf : f a == f k <;> simp only [List.filter, hf, List.lookup, hb, lookup_filter k f g]

theorem lookup_buckets {β} (m : Nat) (l : List (String × β)) (k : String) :
    l.lookup k = ((buckets m (l.map keyed)).getD (strKey k % (m + 1)) []).lookup (strKey k) := by
  have hk : strKey k % (m + 1) < m + 1 := Nat.mod_lt _ (Nat.succ_pos m)
  rw [lookup_strKey, buckets, List.getD_eq_getElem?_getD, List.getElem?_map, List.getElem?_range hk]
  exact (lookup_filter _ (· % (m + 1)) _).symm

/-! Names with a prefix cut off (`String.ofList (s.toList.drop n)`) are keyed without decoding UTF-8: every name in the
    tables is ASCII, and of an ASCII string the characters are the bytes. -/

theorem toNat_ofNat_byte (b : UInt8) : (Char.ofNat b.toNat).toNat = b.toNat := by
  have := b.toNat_lt
  rw [Char.ofNat, dif_pos (Or.inl (by omega))]; simp [Char.ofNatAux, Char.toNat]

theorem ofNat_byte_inj {a b : UInt8} (h : Char.ofNat a.toNat = Char.ofNat b.toNat) : a = b := by
  have := congrArg Char.toNat h
  rwa [toNat_ofNat_byte, toNat_ofNat_byte, UInt8.toNat_inj] at this

theorem utf8EncodeChar_ascii (b : UInt8) (h : b < 128) : String.utf8EncodeChar (Char.ofNat b.toNat) = [b] := by
  have hb : b.toNat < 128 := h
  simp only [String.utf8EncodeChar, Char.toNat_val, toNat_ofNat_byte]
  rw [if_pos (by omega)]; simp

theorem flatMap_utf8EncodeChar_ascii : ∀ bs : List UInt8, (∀ b ∈ bs, b < 128) →
    (bs.map fun b => Char.ofNat b.toNat).flatMap String.utf8EncodeChar = bs
  | [], _ => rfl
  | b :: bs, h => by
    simp only [List.map, List.flatMap_cons, utf8EncodeChar_ascii b (h b (.head _)),
      flatMap_utf8EncodeChar_ascii bs fun c hc => h c (.tail _ hc), List.singleton_append]

theorem toList_of_ascii (s : String) (h : ∀ b ∈ bytes s, b < 128) :
    s.toList = (bytes s).map fun b => Char.ofNat b.toNat := by
  have : String.ofList ((bytes s).map fun b => Char.ofNat b.toNat) = s :=
    bytes_inj (by rw [bytes_ofList, flatMap_utf8EncodeChar_ascii _ h])
  rw [← String.toList_ofList (l := (bytes s).map _), this]

theorem bytes_ofList_drop (s : String) (h : ∀ b ∈ bytes s, b < 128) (n : Nat) :
    bytes (String.ofList (s.toList.drop n)) = (bytes s).drop n := by
  rw [toList_of_ascii s h, ← List.map_drop, bytes_ofList,
    flatMap_utf8EncodeChar_ascii _ fun b hb => h b (List.mem_of_mem_drop hb)]

/-- The key of `s` without its first `n` characters.  The second branch is never taken on the tables; it is there to
    keep `strKey_ofList_drop` free of a side condition, so that it rewrites under the binder of a sweep. -/
def dropKey (n : Nat) (s : String) : Nat :=
  if (bytes s).all (· < 128) then keyOf ((bytes s).drop n) else strKey (String.ofList (s.toList.drop n))

theorem strKey_ofList_drop (s : String) (n : Nat) : strKey (String.ofList (s.toList.drop n)) = dropKey n s := by
  unfold dropKey; split
  · next h => rw [strKey, bytes_ofList_drop s (by simpa using h)]
  · rfl

theorem all_getD_tabulate {α} [BEq α] [LawfulBEq α] (f : Nat → α) (n : Nat) (d : α) :
    (List.range n).all (fun i => ((List.range n).map f).getD i d == f i) = true := by
  simp +contextual [List.getD_eq_getElem?_getD]

end Btcdeb.Proofs.TableEval
