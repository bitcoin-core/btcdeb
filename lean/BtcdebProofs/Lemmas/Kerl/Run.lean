/-
  `kerl_run`: what is kept between the lines of a session (`Inv B`), and that every line keeps it.  A lemma `f_safe` says:
  from a state with `Inv B`, on C strings of at most `B` bytes (`Fits B`), `f` has no abnormal outcome and leaves a state
  with `Inv B`; where `f` may read continuation lines, the lines it leaves are a final piece of those it was offered.  Sizes
  are counted in `weight` (Argv.lean).  Safety only: what a session computes (events, history text) is stated nowhere.
  kerl's own line reader (`fgets` into `char buf[10240]`) makes lines that meet these hypotheses of any bytes on stdin.
-/
import BtcdebProofs.Lemmas.Kerl.Argv
import BtcdebProofs.Lemmas.Kerl.Line
import BtcdebProofs.Lemmas.Kerl.History
namespace Btcdeb.Proofs.Kerl
open Btcdeb Btcdeb.Model.Kerl

/-- what `kerl_run` keeps between lines: `more_final` is unused so far or holds a terminated text, the remembered line is
    a C string of at most `B` bytes -/
structure Inv (B : Nat) (st : RunSt) : Prop where
  mf : (st.mf.mem = none ∧ st.mf.lines = 0) ∨ ∃ t, MfText t st.mf ∧ Fits B t
  prev : ∀ p, st.prev = some p → Fits B p

theorem Inv.wf {B : Nat} {st : RunSt} (h : Inv B st) : MfWf st.mf := by
  rcases h.mf with ⟨h, _⟩ | ⟨_, h, _⟩
  · unfold MfWf; rw [h]; trivial
  · exact h.wf

theorem Inv.congr {B : Nat} {st st' : RunSt} (h : Inv B st) (hmf : st'.mf = st.mf) (hprev : st'.prev = st.prev) : Inv B st' :=
  ⟨hmf ▸ h.mf, hprev ▸ h.prev⟩

theorem addHistory_safe {B : Nat} (cfg : Config) {st : RunSt} {s : Bytes} (hinv : Inv B st) (hs : Fits B s) (hB : B ≤ intMax) :
    ∃ st', addHistory cfg st s = .ok st' ∧ Inv B st' := by
  unfold addHistory
  have h1 : Inv B (if cfg.rl = true then { st with events := .addHistory s :: st.events } else st) :=
    hinv.congr (by split <;> rfl) (by split <;> rfl)
  generalize (if cfg.rl = true then ({ st with events := .addHistory s :: st.events } : RunSt) else st) = st1 at h1
  simp only []
  split
  · rw [escape_spec s hs.1 (Nat.le_trans hs.2 hB)]
    simp only [bind, Except.bind]
    split
    · exact ⟨_, rfl, h1⟩
    · exact ⟨_, rfl, h1.congr rfl rfl⟩
  · exact ⟨_, rfl, h1⟩

variable (B : Nat) (cfg : Config)

theorem runExecute_safe (st : RunSt) (cur tail : Bytes) (more : List Bytes) (hinv : Inv B st)
    (hcur : Fits B cur) (hint : 2 * B + 1 + weight more + 1 ≤ intMax) :
    ∃ st' more', runExecute cfg st (cur ++ 0 :: tail) more = .ok (st', more') ∧ Inv B st' ∧ more' <:+ more := by
  obtain ⟨mem', he⟩ := executeLine_spec cfg cur tail hcur.1 (by have := hcur.2; omega)
  unfold runExecute
  rw [he]
  simp only [bind, Except.bind]
  cases hf : findCommand cfg.commands (Spec.Kerl.commandWord cur) with
  | none =>
    simp only []
    by_cases hfb : cfg.hasFallback = true
    · rw [if_pos hfb]; exact ⟨_, _, rfl, hinv.congr rfl rfl, List.suffix_refl _⟩
    · rw [if_neg hfb]; exact ⟨_, _, rfl, hinv, List.suffix_refl _⟩
  | some p =>
    obtain ⟨idx, kind⟩ := p
    simp only []
    cases kind with
    | silent => exact ⟨_, _, rfl, hinv, List.suffix_refl _⟩
    | plain => exact ⟨_, _, rfl, hinv.congr rfl rfl, List.suffix_refl _⟩
    | splitting =>
      simp only []
      have harg := hcur.sub (argText_sub cur)
      generalize Spec.Kerl.argText cur = arg at harg ⊢
      obtain ⟨o, eo, _, go, hk⟩ := makeArgcvEscape_rep cfg.rl 0 st.mf arg more hinv.wf
        (by have := harg.2; rw [weight_cons]; omega)
      rw [show makeArgcv cfg.rl st.mf arg more = _ from eo]
      exact ⟨_, _, rfl, ⟨Or.inr ⟨_, go, harg⟩, hinv.prev⟩, hk⟩

theorem rememberLine_safe (st : RunSt) (txt tail : Bytes) (hinv : Inv B st) (htxt : Fits B txt) :
    ∃ st', rememberLine cfg st (txt ++ 0 :: tail) = .ok st' ∧ Inv B st' := by
  unfold rememberLine
  split
  · rw [cstr_at_nulfree txt tail htxt.1]
    simp only [bind, Except.bind]
    obtain ⟨tail', hs⟩ := stripwhite_spec txt [] htxt.1
    unfold ofStr
    rw [hs]
    simp only []
    have hp := htxt.sub (trim_sub txt)
    rw [List.append_assoc, ← trim_eq, cstrAt_at_nulfree _ _ _ hp.1]
    exact ⟨_, rfl, hinv.mf, fun p h => by cases h; exact hp⟩
  · exact ⟨st, rfl, hinv⟩

theorem historyAfter_safe (st : RunSt) (cur : Bytes) (hinv : Inv B st) (hcur : Fits B cur)
    (hB : B ≤ intMax) : ∃ st', historyAfter cfg st cur = .ok st' ∧ Inv B st' := by
  unfold historyAfter
  split
  · split
    · next hl =>
      rcases hinv.mf with ⟨_, h0⟩ | ⟨t, hg, hfit⟩
      · rw [h0] at hl; exact absurd hl (by decide)
      · rw [hg.text hfit.1]
        exact addHistory_safe cfg hinv hfit hB
    · exact addHistory_safe cfg hinv hcur hB
  · exact ⟨st, rfl, hinv⟩

theorem runNonEmpty_safe (st : RunSt) (lead core tail : Bytes) (more : List Bytes)
    (hinv : Inv B st) (hline : Fits B (lead ++ core)) (hint : 2 * B + 1 + weight more + 1 ≤ intMax) :
    ∃ st' more', runNonEmpty cfg st lead.length (lead ++ core ++ 0 :: tail) core more = .ok (st', more') ∧ Inv B st' ∧
      more' <:+ more := by
  have hcore := hline.sub (List.sublist_append_right lead core)
  unfold runNonEmpty
  obtain ⟨st1, e1, i1⟩ := rememberLine_safe B cfg st (lead ++ core) tail hinv hline
  rw [e1]
  simp only [bind, Except.bind]
  rw [List.append_assoc, List.drop_left]
  split
  · obtain ⟨st2, more2, e2, i2, k2⟩ := runExecute_safe B cfg st1 core tail more i1 hcore hint
    rw [e2]
    simp only []
    obtain ⟨st3, e3, i3⟩ := historyAfter_safe B cfg st2 core i2 hcore (by omega)
    rw [e3]
    exact ⟨_, _, rfl, i3.congr rfl rfl, k2⟩
  · obtain ⟨st2, e2, i2⟩ := addHistory_safe cfg i1 hcore (by omega)
    rw [e2]
    exact runExecute_safe B cfg st2 core tail more i2 hcore hint

theorem runLine_safe (st : RunSt) (line : Bytes) (more : List Bytes)
    (hinv : Inv B st) (hline : Fits B line) (hint : 2 * B + 1 + weight more + 1 ≤ intMax) :
    ∃ st' more', runLine cfg st line more = .ok (st', more') ∧ Inv B st' ∧ more' <:+ more := by
  unfold runLine
  obtain ⟨tail0, hcut⟩ := cutCommentMem_spec cfg line
  have hc := hline.sub (cutComment_sub cfg.commentChar line)
  generalize Spec.Kerl.cutComment cfg.commentChar line = cut at hcut hc
  rw [hcut]
  simp only [bind, Except.bind]
  obtain ⟨tail', hs⟩ := stripwhite_spec cut tail0 hc.1
  rw [hs]
  simp only []
  -- the stripped line: the leading blanks stay in the buffer in front of it
  have hstrip : Fits B (cut.takeWhile isWs ++ rtrim (cut.dropWhile isWs)) :=
    hc.sub (by
      have := (List.Sublist.refl (cut.takeWhile isWs)).append (rtrim_sub (cut.dropWhile isWs))
      rwa [List.takeWhile_append_dropWhile] at this)
  have hcore := hstrip.sub (List.sublist_append_right _ _)
  rw [List.append_assoc, cstrAt_at_nulfree _ _ _ hcore.1, ← List.append_assoc]
  simp only []
  -- the sensitivity flag does not touch what the invariant speaks about
  have hinv2 : Inv B (if ((cut.takeWhile isWs).length > 0 && cfg.wsSkipHistory) = true then { st with skipHistory := true }
      else st) := hinv.congr (by split <;> rfl) (by split <;> rfl)
  generalize (if ((cut.takeWhile isWs).length > 0 && cfg.wsSkipHistory) = true then { st with skipHistory := true } else st)
    = st2 at hinv2
  split
  · exact runNonEmpty_safe B cfg st2 _ _ tail' more hinv2 hstrip hint
  · split
    · cases hp : st2.prev with
      | none => exact ⟨_, _, rfl, hinv2, List.suffix_refl _⟩
      | some p => exact runExecute_safe B cfg st2 p [] more hinv2 (hinv2.prev p hp) hint
    · exact ⟨_, _, rfl, hinv2, List.suffix_refl _⟩

theorem runLoop_safe : ∀ (fuel : Nat) (st : RunSt) (lines : List Bytes),
    Inv B st → (∀ l ∈ lines, Fits B l) → 2 * B + 1 + weight lines + 1 ≤ intMax →
    ∃ st', runLoop cfg fuel st lines = .ok st'
  | 0, st, _, _, _, _ => ⟨st, rfl⟩
  | fuel + 1, st, [], _, _, _ => ⟨st, rfl⟩
  | fuel + 1, st, line :: more, hinv, hl, hint => by
    rw [weight_cons] at hint
    obtain ⟨st1, more1, e1, i1, hk⟩ := runLine_safe B cfg st line more hinv (hl line List.mem_cons_self) (by omega)
    unfold runLoop
    simp only [bind, Except.bind]
    rw [e1]
    have := weight_le_of_suffix hk
    exact runLoop_safe fuel st1 more1 i1 (fun l hl' => hl l (List.mem_cons_of_mem _ (hk.subset hl'))) (by omega)

theorem fallbackReadline_spec {stream l rest : Bytes} (h : fallbackReadline stream = some (l, rest)) :
    Fits 10239 l ∧ l.length + rest.length ≤ stream.length ∧ rest.length < stream.length := by
  unfold fallbackReadline at h
  split at h
  · cases h
  · next chunk rest' hf =>
    cases h
    obtain ⟨hs, hc⟩ := fgets_chunk hf
    have hsub := (chompEol_sub (chunk.takeWhile (· != 0))).trans (List.takeWhile_sublist _)
    refine ⟨⟨fun h0 => ?_, Nat.le_trans hsub.length_le hc⟩, ?_, fgets_rest_lt (by decide) hf⟩
    · exact absurd (List.all_eq_true.mp List.all_takeWhile _ ((chompEol_sub _).subset h0)) (by decide)
    · have := hsub.length_le
      rw [hs, List.length_append]; omega

/-- the factor 3: a line is not longer than the bytes its `fgets` consumed, and these are at least one, so
    `2 * l.length + 1 ≤ 3 * consumed` -/
theorem fallbackLines_fits_weight (stream : Bytes) :
    (∀ l ∈ fallbackLines stream, Fits 10239 l) ∧ weight (fallbackLines stream) ≤ 3 * stream.length := by
  induction h : stream.length using Nat.strongRecOn generalizing stream with
  | _ n ih =>
    unfold fallbackLines
    split
    · exact ⟨nofun, Nat.zero_le _⟩
    · next l rest hfr =>
      obtain ⟨hfit, hlen, hlt⟩ := fallbackReadline_spec hfr
      obtain ⟨ih1, ih2⟩ := ih rest.length (by omega) rest rfl
      refine ⟨fun x hx => ?_, by rw [weight_cons]; omega⟩
      rcases List.mem_cons.mp hx with rfl | hx
      · exact hfit
      · exact ih1 x hx

end Btcdeb.Proofs.Kerl
