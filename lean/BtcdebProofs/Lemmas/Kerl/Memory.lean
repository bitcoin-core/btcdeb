/-
  C memory as the model keeps it: an allocation is the list of its bytes.  A buffer is written `pre ++ x :: rest`:
  the cell behind the known prefix `pre` has index `pre.length`; reads, writes and C strings are stated on that form.
-/
import Btcdeb.Model.Kerl
import Btcdeb.Spec.Kerl
import BtcdebProofs.Lemmas.ListAux

namespace Btcdeb.Proofs.Kerl
open Btcdeb Btcdeb.Model.Kerl

theorem chkInt_ok {n : Nat} (h : n ≤ intMax) : chkInt n = .ok () := by
  unfold chkInt; rw [if_pos h]; rfl

/-- a size hypothesis of the form `n + 1 ≤ INT_MAX` handed on as `n ≤ INT_MAX` -/
theorem mem_length_le_intMax_of {n : Nat} (h : n + 1 ≤ intMax) : n ≤ intMax := by omega

theorem wr_ok {mem : List UInt8} {i : Nat} (v : UInt8) (what : String) (h : i < mem.length) :
    wr mem i v what = .ok (mem.set i v) := by
  unfold wr; rw [if_pos h]; rfl

theorem rd_eq {mem : List UInt8} {i : Nat} {v : UInt8} (what : String) (h : mem[i]? = some v) : rd mem i what = .ok v := by
  obtain ⟨hlt, hv⟩ := List.getElem?_eq_some_iff.mp h
  unfold rd
  rw [dif_pos hlt, hv]
  rfl

theorem rd_at (pre : List UInt8) (x : UInt8) (rest : List UInt8) (what : String) :
    rd (pre ++ x :: rest) pre.length what = .ok x :=
  rd_eq what (by rw [List.getElem?_append_right (Nat.le_refl _), Nat.sub_self]; rfl)

theorem wr_at (pre : List UInt8) (x : UInt8) (rest : List UInt8) (v : UInt8) (what : String) :
    wr (pre ++ x :: rest) pre.length v what = .ok (pre ++ v :: rest) := by
  rw [wr_ok v what (by rw [List.length_append, List.length_cons]; omega),
    List.set_append_right _ _ (Nat.le_refl _), Nat.sub_self, List.set_cons_zero]

theorem malloc_length (n : Nat) : (malloc n).length = n := List.length_replicate

theorem realloc_length (mem : List UInt8) (n : Nat) : (realloc mem n).length = n := by
  unfold realloc
  rw [List.length_append, List.length_take, List.length_replicate]
  omega

theorem realloc_grow {mem : List UInt8} {n : Nat} (h : mem.length ≤ n) :
    realloc mem n = mem ++ List.replicate (n - mem.length) poison := by
  unfold realloc
  rw [List.take_of_length_le h]

theorem nulfree_iff {s : List UInt8} : (0 : UInt8) ∉ s ↔ ∀ c ∈ s, (c != 0) = true := by
  simp only [bne_iff_ne, ne_eq]
  exact ⟨fun h c hc h0 => h (h0 ▸ hc), fun h h0 => h 0 h0 rfl⟩

/-- `s` is the text of a C string (no NUL) of at most `B` bytes: what a line, and every piece cut out of one, is -/
def Fits (B : Nat) (s : Bytes) : Prop := (0 : UInt8) ∉ s ∧ s.length ≤ B

theorem Fits.sub {B : Nat} {s t : Bytes} (hs : Fits B s) (h : List.Sublist t s) : Fits B t :=
  ⟨fun h0 => hs.1 (h.subset h0), Nat.le_trans h.length_le hs.2⟩

/-- the C string that `b` begins with (`strlen`, `strdup`) -/
def cstrOf (b : Bytes) : Bytes := b.takeWhile (· != 0)

theorem cstrOf_of_nulfree {s : Bytes} (h : (0 : UInt8) ∉ s) : cstrOf s = s :=
  ListAux.takeWhile_all _ _ (nulfree_iff.mp h)

theorem cstrAt_at (pre s tail : List UInt8) :
    cstrAt (pre ++ (s ++ 0 :: tail)) pre.length = .ok (cstrOf s) := by
  unfold cstrAt
  rw [List.drop_left, if_pos ⟨by rw [List.length_append]; omega, by rw [List.contains_iff_mem]; simp⟩,
    ListAux.takeWhile_append_cons_of_neg s tail (by decide)]
  rfl

theorem cstrAt_at_nulfree (pre s tail : List UInt8) (h : (0 : UInt8) ∉ s) :
    cstrAt (pre ++ (s ++ 0 :: tail)) pre.length = .ok s := by
  rw [cstrAt_at, cstrOf_of_nulfree h]

theorem cstr_at (s tail : List UInt8) : cstr (s ++ 0 :: tail) = .ok (cstrOf s) :=
  cstrAt_at [] s tail

theorem cstr_at_nulfree (s tail : List UInt8) (h : (0 : UInt8) ∉ s) : cstr (s ++ 0 :: tail) = .ok s :=
  cstrAt_at_nulfree [] s tail h

theorem cstr_ofStr (s : Bytes) (h : (0 : UInt8) ∉ s) : cstr (ofStr s) = .ok s :=
  cstr_at_nulfree s [] h

theorem cstring_decomp (l tail : List UInt8) : ∃ T, l ++ 0 :: tail = cstrOf l ++ 0 :: T ∧
    (0 : UInt8) ∉ cstrOf l ∧ (cstrOf l).length ≤ l.length := by
  unfold cstrOf
  refine ⟨?_, ?_, nulfree_iff.mpr (List.all_eq_true.mp List.all_takeWhile), (List.takeWhile_sublist _).length_le⟩
  · exact match l.dropWhile (· != 0) with | [] => tail | _ :: xs => xs ++ 0 :: tail
  · obtain h | ⟨x, xs, h, hx⟩ := ListAux.dropWhile_head_not (· != 0) l
    · rw [h]; conv => lhs; rw [← List.takeWhile_append_dropWhile (p := (· != 0)) (l := l), h, List.append_nil]
    · have : x = 0 := by simpa using hx
      rw [h]; conv => lhs; rw [← List.takeWhile_append_dropWhile (p := (· != 0)) (l := l), h, this, List.append_assoc]
      rfl

end Btcdeb.Proofs.Kerl
