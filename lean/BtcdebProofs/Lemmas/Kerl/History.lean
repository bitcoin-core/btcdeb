/-
  The history file: `escape` and `unescape` (the rule's functions, then the C loops over their buffers), `fgets` and the
  removal of line ends behind it, `kerl_set_history_file`.  The model's names for the escape table are the rule's
  (`needsEscape_eq`, `escLetter_eq`, `unescLetter_eq`).  `unescape(buf, 1)` reads and writes the same memory: `Copying` keeps
  the write position not ahead of the read position, so that every read still sees the original text.
-/
import BtcdebProofs.Lemmas.Kerl.Memory
namespace Btcdeb.Proofs.Kerl
open Btcdeb Btcdeb.Model.Kerl
open Btcdeb.Spec.Kerl (special letterOf codeOf)

theorem needsEscape_eq : needsEscape = special := rfl
theorem escLetter_eq : escLetter = letterOf := rfl
theorem unescLetter_eq : unescLetter = codeOf := rfl

theorem escape_cons (c : UInt8) (cs : Bytes) :
    Spec.Kerl.escape (c :: cs) = (if special c then [92, letterOf c] else [c]) ++ Spec.Kerl.escape cs := by
  simp [Spec.Kerl.escape]

theorem escape_length (s : Bytes) : (Spec.Kerl.escape s).length = s.length + (s.filter special).length := by
  induction s with
  | nil => rfl
  | cons c cs ih =>
    rw [escape_cons, List.length_append, ih, List.filter_cons]
    split <;> simp only [List.length_cons, List.length_nil] <;> omega

theorem special_cases {c : UInt8} (h : special c = true) : c = 10 ∨ c = 9 ∨ c = 13 ∨ c = 8 ∨ c = 92 ∨ c = 34 := by
  unfold special at h
  simp only [Bool.or_eq_true, beq_iff_eq] at h
  rcases h with ((((h | h) | h) | h) | h) | h <;> simp [h]

theorem codeOf_letterOf {c : UInt8} (h : special c = true) : codeOf (letterOf c) = some c := by
  rcases special_cases h with h | h | h | h | h | h <;> subst h <;> decide

theorem letterOf_safe {c : UInt8} (h : special c = true) :
    letterOf c ≠ 0 ∧ letterOf c ≠ 10 ∧ letterOf c ≠ 9 ∧ letterOf c ≠ 13 ∧ letterOf c ≠ 8 := by
  rcases special_cases h with h | h | h | h | h | h <;> subst h <;> decide

theorem mem_escape {x : UInt8} {s : Bytes} (h : x ∈ Spec.Kerl.escape s) :
    x = 92 ∨ (∃ c, special c = true ∧ x = letterOf c) ∨ (x ∈ s ∧ special x = false) := by
  obtain ⟨c, hc, hx⟩ := List.mem_flatMap.mp h
  split at hx
  · next hs =>
    simp only [List.mem_cons, List.not_mem_nil, or_false] at hx
    exact hx.imp id fun h => Or.inl ⟨c, hs, h⟩
  · next hs =>
    rw [List.mem_singleton] at hx
    exact Or.inr (Or.inr ⟨hx ▸ hc, by simpa [hx] using hs⟩)

theorem escape_nulfree (s : Bytes) (hn : (0 : UInt8) ∉ s) : (0 : UInt8) ∉ Spec.Kerl.escape s := by
  intro h
  rcases mem_escape h with h | ⟨c, hc, h⟩ | ⟨h, _⟩
  · exact absurd h (by decide)
  · exact (letterOf_safe hc).1 h.symm
  · exact hn h

theorem unescape_esc_some {d v : UInt8} (r : Bytes) (h : codeOf d = some v) :
    Spec.Kerl.unescape (92 :: d :: r) = v :: Spec.Kerl.unescape r := by
  simp [Spec.Kerl.unescape, h]

theorem unescape_esc_none {d : UInt8} (r : Bytes) (h : codeOf d = none) :
    Spec.Kerl.unescape (92 :: d :: r) = 92 :: d :: Spec.Kerl.unescape r := by
  simp [Spec.Kerl.unescape, h]

theorem unescape_cons_plain {c : UInt8} (hc : c ≠ 92) (l : Bytes) : Spec.Kerl.unescape (c :: l) = c :: Spec.Kerl.unescape l := by
  have hb : (c == 92) = false := by simpa using hc
  cases l with
  | nil => simp [Spec.Kerl.unescape]
  | cons d r => simp [Spec.Kerl.unescape, hb]

theorem unescape_escape : ∀ (s : Bytes), Spec.Kerl.unescape (Spec.Kerl.escape s) = s
  | [] => rfl
  | c :: cs => by
    rw [escape_cons]
    split
    · next h => exact (unescape_esc_some _ (codeOf_letterOf h)).trans (congrArg _ (unescape_escape cs))
    · next h =>
      have hc : c ≠ 92 := fun hc => h (hc ▸ by decide)
      exact (unescape_cons_plain hc _).trans (congrArg _ (unescape_escape cs))

theorem codeOf_ne_zero {d v : UInt8} (h : codeOf d = some v) : v ≠ 0 := by
  have : codeOf d = none ∨ ∃ w, codeOf d = some w ∧ w ≠ 0 := by
    unfold codeOf
    by_cases h1 : (d == 110) = true; · rw [if_pos h1]; exact .inr ⟨_, rfl, by decide⟩
    rw [if_neg h1]
    by_cases h2 : (d == 116) = true; · rw [if_pos h2]; exact .inr ⟨_, rfl, by decide⟩
    rw [if_neg h2]
    by_cases h3 : (d == 114) = true; · rw [if_pos h3]; exact .inr ⟨_, rfl, by decide⟩
    rw [if_neg h3]
    by_cases h4 : (d == 98) = true; · rw [if_pos h4]; exact .inr ⟨_, rfl, by decide⟩
    rw [if_neg h4]
    by_cases h5 : (d == 92) = true; · rw [if_pos h5]; exact .inr ⟨_, rfl, by decide⟩
    rw [if_neg h5]
    by_cases h6 : (d == 34) = true; · rw [if_pos h6]; exact .inr ⟨_, rfl, by decide⟩
    rw [if_neg h6]
    exact .inl rfl
  rcases this with h0 | ⟨w, hw, hw0⟩
  · rw [h0] at h; cases h
  · rw [hw] at h; cases h; exact hw0

theorem mem_unescape {x : UInt8} : ∀ {l : Bytes}, x ∈ Spec.Kerl.unescape l → x ∈ l ∨ ∃ d, codeOf d = some x := by
  intro l
  induction l using Spec.Kerl.unescape.induct with
  | case1 => exact Or.inl
  | case2 c => exact Or.inl
  | case3 c d rest hc q hq ih =>
    rw [eq_of_beq hc, unescape_esc_some _ hq, List.mem_cons]
    rintro (rfl | h)
    · exact Or.inr ⟨d, hq⟩
    · exact (ih h).imp (fun h => List.mem_cons_of_mem _ (List.mem_cons_of_mem _ h)) id
  | case4 c d rest hc hq ih =>
    rw [eq_of_beq hc, unescape_esc_none _ hq, List.mem_cons, List.mem_cons]
    rintro (rfl | rfl | h)
    · exact Or.inl List.mem_cons_self
    · exact Or.inl (List.mem_cons_of_mem _ List.mem_cons_self)
    · exact (ih h).imp (fun h => List.mem_cons_of_mem _ (List.mem_cons_of_mem _ h)) id
  | case5 c d rest hc ih =>
    rw [unescape_cons_plain (by simpa using hc), List.mem_cons]
    rintro (rfl | h)
    · exact Or.inl List.mem_cons_self
    · exact (ih h).imp (List.mem_cons_of_mem _) id

theorem unescape_no_backslash : ∀ (l : Bytes), (92 : UInt8) ∉ l → Spec.Kerl.unescape l = l
  | [], _ => rfl
  | c :: rest, h => by
    rw [List.mem_cons, not_or] at h
    rw [unescape_cons_plain (Ne.symm h.1), unescape_no_backslash rest h.2]

theorem escapeLoop_spec : ∀ (input : Bytes) (pre rest : List UInt8), (Spec.Kerl.escape input).length ≤ rest.length →
    escapeLoop input (pre ++ rest) pre.length =
      .ok (pre ++ Spec.Kerl.escape input ++ rest.drop (Spec.Kerl.escape input).length, pre.length + (Spec.Kerl.escape input).length)
  | [], pre, rest, _ => by simp [escapeLoop, Spec.Kerl.escape, pure, Except.pure]
  | c :: cs, pre, rest, h => by
    unfold escapeLoop
    rw [needsEscape_eq, escLetter_eq]
    rw [escape_cons] at h ⊢
    by_cases hs : special c = true
    · rw [if_pos hs] at h ⊢
      rw [if_pos hs]
      obtain _ | ⟨x, _ | ⟨y, rest⟩⟩ := rest
      · simp at h
      · simp at h
      have ih := escapeLoop_spec cs (pre ++ [92, letterOf c]) rest (by simpa using h)
      rw [wr_at]
      simp only [bind, Except.bind]
      rw [show pre ++ 92 :: y :: rest = (pre ++ [92]) ++ y :: rest by simp, show pre.length + 1 = (pre ++ [92]).length by simp,
        wr_at]
      simpa [Nat.add_assoc, Nat.add_comm 2] using ih
    · rw [if_neg hs] at h ⊢
      rw [if_neg hs]
      obtain _ | ⟨x, rest⟩ := rest
      · simp at h
      have ih := escapeLoop_spec cs (pre ++ [c]) rest (by simpa using h)
      rw [wr_at]
      simpa [bind, Except.bind, Nat.add_assoc, Nat.add_comm 1] using ih

theorem escape_spec (s : Bytes) (hn : (0 : UInt8) ∉ s) (hint : s.length ≤ intMax) :
    escape s = .ok (if s.any special then some (Spec.Kerl.escape s) else none) := by
  unfold escape
  rw [needsEscape_eq]
  have hle : (s.filter special).length ≤ s.length := List.length_filter_le _ _
  simp only []
  rw [chkInt_ok (by omega)]
  simp only [bind, Except.bind]
  rw [ListAux.length_filter_beq_zero]
  by_cases ha : s.any special = true
  · rw [ha]
    simp only [Bool.not_true, Bool.false_eq_true, if_false, if_true]
    have hL := escape_length s
    have hloop := escapeLoop_spec s [] (malloc (s.length + (s.filter special).length + 1)) (by rw [malloc_length, hL]; omega)
    rw [List.nil_append, List.nil_append, List.length_nil, Nat.zero_add] at hloop
    rw [hloop]
    -- one cell is left for the terminator
    obtain ⟨x, rest, hrest⟩ : ∃ x rest, (malloc (s.length + (s.filter special).length + 1)).drop (Spec.Kerl.escape s).length = x :: rest :=
      List.exists_cons_of_length_pos (by rw [List.length_drop, malloc_length, hL]; omega)
    simp only [hrest]
    rw [wr_at]
    simp only []
    rw [cstr_at_nulfree _ _ (escape_nulfree s hn)]
    rfl
  · rw [Bool.not_eq_true] at ha
    rw [ha]
    rfl

theorem unescCount_ge : ∀ (l : Bytes) (k : Nat) (e : Bool), k ≤ unescCount l k e
  | [], k, e => Nat.le_refl _
  | c :: rest, k, e => by
    unfold unescCount
    exact Nat.le_trans (Nat.le_add_right _ _) (unescCount_ge rest _ _)

theorem unescCount_le : ∀ (l : Bytes) (k : Nat) (e : Bool), unescCount l k e ≤ k + l.length
  | [], k, e => Nat.le_refl _
  | c :: cs, k, e => by
    unfold unescCount
    have := unescCount_le cs (k + (if (c == 92 && !e) = true then 1 else 0)) (!e && c == 92)
    have h2 : (if (c == 92 && !e) = true then 1 else 0) ≤ 1 := by split <;> omega
    rw [List.length_cons]; omega

theorem unescCount_pos : ∀ (l : Bytes) (k : Nat), (92 : UInt8) ∈ l → k < unescCount l k false
  | [], k, h => by simp at h
  | c :: rest, k, h => by
    unfold unescCount
    by_cases hc : c = 92
    · subst hc
      exact Nat.lt_of_lt_of_le (Nat.lt_succ_self k) (unescCount_ge rest _ _)
    · have hb : (c == 92) = false := by simpa using hc
      simp only [hb, Bool.false_and, Bool.and_false, Bool.false_eq_true, if_false, Nat.add_zero]
      exact unescCount_pos rest k ((List.mem_cons.mp h).resolve_left (Ne.symm hc))

/-- the copying loop of `unescape` in place, between two rounds: `rem` (and behind it `z`) is still to be read from index
    `i`; `out` has been written, up to `ptr`, which is not ahead of the reads; `n` bytes are allocated -/
structure Copying (len n : Nat) (z : List UInt8) (out : Bytes) (dst : List UInt8) (i ptr : Nat) (rem : Bytes) : Prop where
  drop : dst.drop i = rem ++ z
  take : dst.take ptr = out
  le : ptr ≤ i
  len : i + rem.length = len
  size : dst.length = n

namespace Copying
variable {len n : Nat} {z : List UInt8} {out : Bytes} {dst : List UInt8} {i ptr : Nat} {c : UInt8} {rem : Bytes}

theorem lt (h : Copying len n z out dst i ptr (c :: rem)) : i < dst.length :=
  Nat.lt_of_not_le fun hle => by have := h.drop; rw [List.drop_of_length_le hle] at this; cases this

theorem read (h : Copying len n z out dst i ptr rem) (j : Nat) {x : UInt8} (hx : (rem ++ z)[j]? = some x) (what : String) :
    rd dst (i + j) what = .ok x :=
  rd_eq what (by rw [← List.getElem?_drop, h.drop]; exact hx)

theorem skip (h : Copying len n z out dst i ptr (c :: rem)) : Copying len n z out dst (i + 1) ptr rem :=
  { h with drop := by rw [← List.drop_drop, h.drop]; rfl, le := Nat.le_succ_of_le h.le,
           len := by have := h.len; rw [List.length_cons] at this; omega }

theorem write (h : Copying len n z out dst i ptr (c :: rem)) (v : UInt8) :
    Copying len n z (out ++ [v]) (dst.set ptr v) (i + 1) (ptr + 1) rem :=
  have hp : ptr < dst.length := Nat.lt_of_le_of_lt h.le h.lt
  { h.skip with drop := by rw [List.drop_set_of_lt (Nat.lt_succ_of_le h.le)]; exact h.skip.drop,
                take := by rw [ListAux.take_set_succ dst ptr v hp, h.take], le := Nat.succ_le_succ h.le,
                size := by rw [List.length_set]; exact h.size }

end Copying

theorem unescLoop_inplace (len n : Nat) (src z : List UInt8) : ∀ (fuel : Nat) (rem out : Bytes) (dst : List UInt8) (i ptr : Nat),
    rem.length ≤ fuel → Copying len n z out dst i ptr rem →
    ∃ dst' ptr', unescLoop true len fuel src dst i ptr = .ok (dst', ptr') ∧
      dst'.take ptr' = out ++ Spec.Kerl.unescape rem ∧ dst'.length = n ∧ ptr' ≤ len
  | 0, rem, out, dst, i, ptr, hf, h => by
    have : rem = [] := List.eq_nil_of_length_eq_zero (Nat.le_zero.mp hf)
    subst this
    exact ⟨dst, ptr, rfl, by rw [h.take]; simp [Spec.Kerl.unescape], h.size, by have := h.len; have := h.le; simp at *; omega⟩
  | fuel + 1, [], out, dst, i, ptr, _, h => by
    have hl := h.len; have := h.le
    rw [List.length_nil] at hl
    refine ⟨dst, ptr, ?_, by rw [h.take]; simp [Spec.Kerl.unescape], h.size, by omega⟩
    unfold unescLoop
    rw [if_neg (by omega)]; rfl
  | fuel + 1, c :: rem', out, dst, i, ptr, hf, h => by
    have hl := h.len
    rw [List.length_cons] at hf hl
    have hptr : ptr < dst.length := Nat.lt_of_le_of_lt h.le h.lt
    unfold unescLoop
    rw [if_pos (by omega)]
    simp only [if_true, bind, Except.bind]
    rw [show rd dst i _ = _ from h.read 0 rfl _]
    simp only []
    by_cases hesc : (decide (i + 1 < len) && c == 92) = true
    · rw [if_pos hesc]
      obtain ⟨h1, hc⟩ := (Bool.and_eq_true _ _).mp hesc
      have hc : c = 92 := by simpa using hc
      obtain _ | ⟨d, rem''⟩ := rem'
      · have := of_decide_eq_true h1; simp at hl; omega
      rw [List.length_cons] at hf
      rw [h.read 1 rfl, unescLetter_eq]
      subst hc
      simp only []
      cases hcode : codeOf d with
      | some v =>
        simp only []
        rw [wr_ok v _ hptr]
        obtain ⟨dst', ptr', e, t, r⟩ := unescLoop_inplace len n src z fuel rem'' _ _ _ _ (by omega) (h.skip.write v)
        exact ⟨dst', ptr', e, by rw [t, unescape_esc_some _ hcode, List.append_assoc]; rfl, r⟩
      | none =>
        -- `input[i+1]` is read again after the write at `ptr`: `ptr ≤ i` leaves it intact
        have h2 := h.write 92
        simp only []
        rw [wr_ok 92 _ hptr]
        simp only []
        rw [show rd (dst.set ptr 92) (i + 1) _ = _ from h2.read 0 rfl _]
        simp only []
        rw [wr_ok d _ (by rw [List.length_set]; have := h.skip.lt; have := h.le; omega)]
        obtain ⟨dst', ptr', e, t, r⟩ := unescLoop_inplace len n src z fuel rem'' _ _ _ _ (by omega) (h2.write d)
        exact ⟨dst', ptr', e, by rw [t, unescape_esc_none _ hcode]; simp, r⟩
    · rw [if_neg hesc, wr_ok c _ hptr]
      obtain ⟨dst', ptr', e, t, r⟩ := unescLoop_inplace len n src z fuel rem' _ _ _ _ (by omega) (h.write c)
      refine ⟨dst', ptr', e, ?_, r⟩
      -- `c` is no backslash, or it is the last character
      have hspec : Spec.Kerl.unescape (c :: rem') = c :: Spec.Kerl.unescape rem' := by
        obtain _ | ⟨d, rem''⟩ := rem'
        · rfl
        · refine unescape_cons_plain (fun hc => hesc ?_) _
          rw [hc, decide_eq_true (by simp at hl; omega)]
          rfl
      rw [t, hspec, List.append_assoc]
      rfl

theorem unescape_inplace_spec (input tail : Bytes) (hn : (0 : UInt8) ∉ input) (hint : input.length ≤ intMax) :
    ∃ mem', unescape (input ++ 0 :: tail) true = .ok (some (Spec.Kerl.unescape input), mem') := by
  unfold unescape
  rw [cstr_at_nulfree input tail hn]
  simp only [bind, Except.bind]
  have := unescCount_le input 0 false
  rw [chkInt_ok (by omega)]
  simp only []
  by_cases h0 : (unescCount input 0 false == 0) = true
  · rw [if_pos h0]
    have hnb : (92 : UInt8) ∉ input := fun hm => by
      have := unescCount_pos input 0 hm
      rw [eq_of_beq h0] at this
      exact Nat.lt_irrefl _ this
    rw [unescape_no_backslash input hnb]
    exact ⟨_, rfl⟩
  · rw [if_neg h0]
    simp only [if_true]
    obtain ⟨dst', ptr', e, t, l, p⟩ := unescLoop_inplace input.length _ (input ++ 0 :: tail) (0 :: tail) input.length input []
      (input ++ 0 :: tail) 0 0 (Nat.le_refl _) ⟨rfl, rfl, Nat.le_refl _, Nat.zero_add _, rfl⟩
    rw [e]
    simp only []
    have hptr : ptr' < dst'.length := by rw [l, List.length_append, List.length_cons]; omega
    rw [wr_ok 0 _ hptr]
    simp only []
    rw [List.set_eq_take_append_cons_drop, if_pos hptr, t, List.nil_append,
      cstr_at_nulfree _ _ fun h => (mem_unescape h).elim hn fun ⟨_, hd⟩ => codeOf_ne_zero hd rfl]
    exact ⟨_, rfl⟩

theorem chompEol_sub (s : Bytes) : List.Sublist (chompEol s) s := ListAux.reverse_dropWhile_sublist _ s

theorem fgets_chunk {n : Nat} {stream chunk rest : Bytes} (h : fgets n stream = some (chunk, rest)) :
    stream = chunk ++ rest ∧ chunk.length ≤ n - 1 := by
  unfold fgets at h
  split at h
  · cases h
  · simp only [Option.some.injEq, Prod.mk.injEq] at h
    obtain ⟨h1, h2⟩ := h
    refine ⟨by rw [← h1, ← h2, List.take_append_drop], ?_⟩
    rw [← h1, List.length_take]
    split
    · next p hp =>
      have := (List.idxOf?_eq_some_iff.mp hp).1
      rw [List.length_take] at this
      exact Nat.le_trans (Nat.min_le_left _ _) (Nat.succ_le_of_lt (Nat.lt_of_lt_of_le this (Nat.min_le_left _ _)))
    · rw [List.length_take]; omega

theorem fgets_nonempty {n : Nat} {stream chunk rest : Bytes} (hn : 2 ≤ n) (h : fgets n stream = some (chunk, rest)) :
    chunk ≠ [] := by
  intro h0
  have hlt := fgets_rest_lt hn h
  rw [(fgets_chunk h).1, h0] at hlt
  exact Nat.lt_irrefl _ hlt

theorem chopNewline_spec (s T : List UInt8) (hn : (0 : UInt8) ∉ s) :
    ∃ s' T', chopNewline (s ++ 0 :: T) = .ok (s' ++ 0 :: T') ∧ (0 : UInt8) ∉ s' ∧ s'.length ≤ s.length := by
  unfold chopNewline
  rw [cstr_at_nulfree s T hn]
  simp only [bind, Except.bind]
  rcases List.eq_nil_or_concat s with rfl | ⟨s', b, rfl⟩
  · exact ⟨[], T, rfl, hn, Nat.le_refl _⟩
  · rw [List.concat_eq_append] at hn ⊢
    rw [if_pos (by simp), show (s' ++ [b]).length - 1 = s'.length by simp,
      show (s' ++ [b]) ++ 0 :: T = s' ++ b :: 0 :: T by simp, rd_at]
    simp only []
    split
    · exact ⟨s', 0 :: T, wr_at _ _ _ _ _, fun h => hn (List.mem_append_left _ h), by simp⟩
    · exact ⟨s' ++ [b], T, by rw [List.append_assoc]; rfl, hn, Nat.le_refl _⟩

theorem historyLoadAux_ok : ∀ (fuel : Nat) (file : Bytes) (acc : List Bytes), ∃ r, historyLoadAux fuel file acc = .ok r
  | 0, _, acc => ⟨_, rfl⟩
  | fuel + 1, file, acc => by
    unfold historyLoadAux
    cases hf : fgets 1024 file with
    | none => exact ⟨_, rfl⟩
    | some p =>
      obtain ⟨chunk, rest⟩ := p
      simp only []
      have hlen : chunk.length ≤ 1023 := (fgets_chunk hf).2
      -- the chunk may hold NUL bytes: the string in `buf` ends at the first of them
      obtain ⟨T, hd, hsn, hsl⟩ := cstring_decomp chunk (malloc (1024 - (chunk.length + 1)))
      rw [List.append_assoc, List.singleton_append, hd]
      obtain ⟨s', T', hc, hn', hl'⟩ := chopNewline_spec _ T hsn
      simp only [bind, Except.bind]
      rw [hc]
      simp only []
      obtain ⟨mem', hu⟩ := unescape_inplace_spec s' T' hn' (by unfold intMax; omega)
      rw [hu]
      exact historyLoadAux_ok fuel rest _

end Btcdeb.Proofs.Kerl
