/-
  The word machine computes the rule of `Spec/Kerl.lean`: its arguments and collected characters are the groups of the
  roles read so far (`Abs`), for NUL-free text.  Then the rule on plain text, for the statements about `exec a b c`:
  `joinWords ws`, words of `plainChar`s with single spaces between them, ends complete and has the words `ws`.
-/
import BtcdebProofs.Lemmas.Kerl.Argv
namespace Btcdeb.Proofs.Kerl
open Btcdeb Btcdeb.Model.Kerl
open Btcdeb.Spec.Kerl (Role Lex classify groups wordsOfRoles protect complete logical)

theorem stepRole_lit {lx : Lex} {ch c : UInt8} (h : (stepRole lx ch).1 = .lit c) : c = ch := by
  unfold stepRole at h
  (repeat' split at h) <;> cases h <;> rfl

/-- the groups read from the left: the finished ones, and the one being collected -/
def scan : List Bytes × Bytes → Role → List Bytes × Bytes
  | (pre, g), .lit c => (pre, g ++ [c])
  | (pre, g), .sep => (pre ++ [g], [])
  | (pre, g), .mark => (pre, g)

/-- `groups` reads from the right; started in the middle, the left-to-right reading continues the open group -/
theorem groups_scan (r : List Role) : ∀ (pre : List Bytes) (g : Bytes), ∃ h t, groups r = h :: t ∧
    (r.foldl scan (pre, g)).1 ++ [(r.foldl scan (pre, g)).2] = pre ++ (g ++ h) :: t := by
  induction r with
  | nil => exact fun pre g => ⟨[], [], rfl, by simp⟩
  | cons x r ih =>
    intro pre g
    cases x with
    | lit c =>
      obtain ⟨h, t, hg, hs⟩ := ih pre (g ++ [c])
      exact ⟨c :: h, t, by simp [groups, hg], by rw [List.foldl_cons, scan, hs]; simp⟩
    | sep =>
      obtain ⟨h, t, hg, hs⟩ := ih (pre ++ [g]) []
      exact ⟨[], h :: t, by simp [groups, hg], by rw [List.foldl_cons, scan, hs]; simp⟩
    | mark =>
      obtain ⟨h, t, hg, hs⟩ := ih pre g
      exact ⟨h, t, by simp [groups, hg], hs⟩

theorem groups_eq_scan (r : List Role) : groups r = (r.foldl scan ([], [])).1 ++ [(r.foldl scan ([], [])).2] := by
  obtain ⟨h, t, hg, hs⟩ := groups_scan r [] []
  rw [hg, hs]; rfl

theorem piece_eq_protect (e c : UInt8) : piece e c = protect e [c] := by
  simp [piece, protect]

theorem protect_append (e : UInt8) (x y : Bytes) : protect e (x ++ y) = protect e x ++ protect e y := by
  simp [protect, List.flatMap_append]

theorem piece_ne_nil (e c : UInt8) : piece e c ≠ [] := by
  unfold piece; split <;> simp

theorem piece_getLast (e c : UInt8) : (piece e c).getLast? = some c := by
  unfold piece; split <;> simp

theorem protect_eq_nil (e : UInt8) (g : Bytes) : protect e g = [] ↔ g = [] := by
  cases g with
  | nil => simp [protect]
  | cons c cs =>
    rw [show c :: cs = [c] ++ cs from rfl, protect_append, ← piece_eq_protect]
    simp [piece_ne_nil]

theorem protect_of_not_mem {e : UInt8} {w : Bytes} (h : e ∉ w) : protect e w = w := by
  induction w with
  | nil => rfl
  | cons c cs ih =>
    rw [List.mem_cons, not_or] at h
    rw [show c :: cs = [c] ++ cs from rfl, protect_append, ih h.2]
    simp [protect, Ne.symm h.1]

/-- the machine state `a` stands for the roles `acc` read so far: `a.cur` is the group being collected and `a.args` are the
    finished non-empty groups, each with the escape character `e` protected; `nul`: `strdup` will keep all of `a.cur` -/
structure Abs (e : UInt8) (acc : List Role) (a : AState) : Prop where
  ex : ∃ pre g, acc.foldl scan ([], []) = (pre, g) ∧ a.cur = protect e g ∧
    a.args = (pre.filter (fun g => !g.isEmpty)).map (protect e)
  nul : (0 : UInt8) ∉ a.cur

theorem abs_empty (e : UInt8) : Abs e [] {} :=
  ⟨⟨[], [], rfl, rfl, rfl⟩, by simp⟩

theorem abs_step {e : UInt8} {acc : List Role} {a : AState} (r : Role) (hr : ∀ c, r = .lit c → c ≠ 0) (ha : Abs e acc a) :
    Abs e (acc ++ [r]) (aStep e a r) := by
  obtain ⟨pre, g, hs, hcur, hargs⟩ := ha.ex
  have hscan : (acc ++ [r]).foldl scan ([], []) = scan (pre, g) r := by rw [List.foldl_append, hs]; rfl
  cases r with
  | lit c =>
    refine ⟨⟨pre, g ++ [c], hscan, by show a.cur ++ piece e c = _; rw [protect_append, hcur, piece_eq_protect], hargs⟩, ?_⟩
    show (0 : UInt8) ∉ a.cur ++ piece e c
    have := hr c rfl
    unfold piece
    split <;> simp [ha.nul, Ne.symm this]
  | mark => exact ⟨⟨pre, g, hscan, hcur, hargs⟩, ha.nul⟩
  | sep =>
    have hcs := cstrOf_of_nulfree ha.nul
    show Abs e _ (aFlush a)
    unfold aFlush
    split
    · next h =>
      have hg : g ≠ [] := fun h0 => by rw [hcur, h0] at h; exact absurd h (by simp [protect])
      refine ⟨⟨pre ++ [g], [], hscan, rfl, ?_⟩, by simp⟩
      show a.args ++ [cstrOf a.cur] = _
      rw [hcs, hargs, hcur, List.filter_append, List.map_append]
      simp [hg]
    · next h =>
      have hg : g = [] := (protect_eq_nil e g).mp (by rw [← hcur]; exact List.eq_nil_of_length_eq_zero (by omega))
      exact ⟨⟨pre ++ [g], [], hscan, by rw [hcur, hg], by rw [hargs, hg]; simp⟩, ha.nul⟩

theorem foldl_aStep_abs (e : UInt8) : ∀ (t : Bytes) (lx : Lex) (acc : List Role) (a : AState), (0 : UInt8) ∉ t → Abs e acc a →
    Abs e (acc ++ (classify lx t).1) ((classify lx t).1.foldl (aStep e) a)
  | [], _, acc, a, _, ha => by simpa [classify] using ha
  | c :: rest, lx, acc, a, hn, ha => by
    rw [List.mem_cons, not_or] at hn
    have := foldl_aStep_abs e rest (stepRole lx c).2 _ _ hn.2
      (abs_step (stepRole lx c).1 (fun d hd => stepRole_lit hd ▸ Ne.symm hn.1) ha)
    rwa [List.append_assoc] at this

/-- finishing is one more separator -/
theorem aFinish_abs {e : UInt8} {acc : List Role} {a : AState} (ha : Abs e acc a) :
    aFinish a = (wordsOfRoles acc).map (protect e) := by
  obtain ⟨pre, g, hs, _, hargs⟩ := (abs_step .sep nofun ha).ex
  rw [List.foldl_append] at hs
  unfold wordsOfRoles
  rw [groups_eq_scan]
  generalize acc.foldl scan ([], []) = p at hs
  obtain ⟨p1, p2⟩ := p
  cases hs
  exact hargs

theorem aLoop_single (e : UInt8) (lx : Lex) (acc : List Role) (a : AState) (line : Bytes) (more : List Bytes)
    (hn : (0 : UInt8) ∉ line) (ha : Abs e acc a) :
    aLoop false e lx a line more = (.ok ((wordsOfRoles (acc ++ (classify lx line).1)).map (protect e)), more) := by
  unfold aLoop
  simp only [Bool.false_and]
  rw [aFinish_abs (foldl_aStep_abs e line lx acc a hn ha)]
  rfl

theorem aLoop_complete (rl : Bool) (e : UInt8) (lx : Lex) (a : AState) (line : Bytes) (more : List Bytes)
    (hc : complete (classify lx line).2 = true) : aLoop rl e lx a line more = aLoop false e lx a line more := by
  unfold aLoop
  simp only [hc, Bool.not_true, Bool.and_false, Bool.false_eq_true, if_false]

theorem aLoop_continued (e : UInt8) (he : e ≠ 10) (more : List Bytes) (line : Bytes) (lx : Lex) (acc : List Role) (a : AState)
    (hn : (0 : UInt8) ∉ line) (hm : ∀ l ∈ more, (0 : UInt8) ∉ l) (ha : Abs e acc a) :
    aLoop true e lx a line more = match logical lx acc line more with
      | none => (.abort, [])
      | some (r, rest) => (.ok ((wordsOfRoles r).map (protect e)), rest) := by
  have h1 := foldl_aStep_abs e line lx acc a hn ha
  unfold aLoop logical
  simp only [Bool.true_and]
  by_cases hc : complete (classify lx line).2 = true
  · simp only [hc, Bool.not_true, Bool.false_eq_true, if_false, if_true]
    rw [aFinish_abs h1]
  · simp only [hc, Bool.not_false, if_true, Bool.false_eq_true, if_false]
    cases more with
    | nil => rfl
    | cons l rest =>
      simp only []
      refine aLoop_continued e he rest l _ _ _ (hm l List.mem_cons_self) (fun x hx => hm x (List.mem_cons_of_mem _ hx)) ?_
      -- the line break: a literal newline when a quoted stretch is open
      split
      · have := abs_step (e := e) (.lit 10) (fun c hc => by cases hc; decide) h1
        have hp : piece e 10 = [10] := if_neg (by simpa using he.symm)
        rwa [aStep, hp] at this
      · exact h1

open Btcdeb.Spec.Kerl (words)

/-- a character that is neither the separator (space; a tab is plain), a quote nor the backslash -/
def plainChar (c : UInt8) : Bool := c != 32 && c != 39 && c != 34 && c != 92

theorem classify_plain : ∀ (w : Bytes), (∀ c ∈ w, plainChar c = true) → classify {} w = (w.map .lit, {})
  | [], _ => rfl
  | c :: rest, h => by
    have hc := h c List.mem_cons_self
    simp only [plainChar, Bool.and_eq_true, bne_iff_ne, ne_eq] at hc
    have hs : stepRole {} c = (.lit c, {}) := by simp [stepRole, hc]
    rw [classify_cons, hs, classify_plain rest (fun x hx => h x (List.mem_cons_of_mem _ hx))]
    rfl

theorem classify_append (t2 : Bytes) : ∀ (t1 : Bytes) (lx : Lex),
    classify lx (t1 ++ t2) = ((classify lx t1).1 ++ (classify (classify lx t1).2 t2).1, (classify (classify lx t1).2 t2).2)
  | [], lx => by simp [classify]
  | c :: rest, lx => by
    rw [List.cons_append, classify_cons, classify_append t2 rest, classify_cons]
    simp

theorem groups_lits (w : Bytes) {r : List Role} {h : Bytes} {t : List Bytes} (hr : groups r = h :: t) :
    groups (w.map .lit ++ r) = (w ++ h) :: t := by
  induction w with
  | nil => exact hr
  | cons c cs ih => simp only [List.map_cons, List.cons_append, groups, ih]

/-- words separated by single spaces -/
def joinWords : List Bytes → Bytes
  | [] => []
  | [w] => w
  | w :: rest => w ++ 32 :: joinWords rest

theorem joinWords_nulfree : ∀ (ws : List Bytes), (∀ w ∈ ws, (0 : UInt8) ∉ w) → (0 : UInt8) ∉ joinWords ws
  | [], _ => by simp [joinWords]
  | [w], h => by simpa [joinWords] using h w List.mem_cons_self
  | w :: w2 :: rest, h => by
    have ih := joinWords_nulfree (w2 :: rest) (fun x hx => h x (List.mem_cons_of_mem _ hx))
    simp only [joinWords]
    intro hm
    rcases List.mem_append.mp hm with hm | hm
    · exact h w List.mem_cons_self hm
    · rcases List.mem_cons.mp hm with hm | hm
      · exact absurd hm (by decide)
      · exact ih hm

theorem classify_plain_sep (w t : Bytes) (hp : ∀ c ∈ w, plainChar c = true) :
    classify {} (w ++ 32 :: t) = (w.map .lit ++ .sep :: (classify {} t).1, (classify {} t).2) := by
  have hsep : stepRole {} 32 = (.sep, {}) := by decide
  rw [classify_append, classify_plain w hp, classify_cons, hsep]

theorem classify_joinWords : ∀ (ws : List Bytes), (∀ w ∈ ws, ∀ c ∈ w, plainChar c = true) →
    (classify {} (joinWords ws)).2 = {}
  | [], _ => rfl
  | [w], h => by rw [joinWords, classify_plain w (h w List.mem_cons_self)]
  | w :: w2 :: rest, h => by
    rw [show joinWords (w :: w2 :: rest) = w ++ 32 :: joinWords (w2 :: rest) from rfl,
      classify_plain_sep w _ (h w List.mem_cons_self)]
    exact classify_joinWords (w2 :: rest) (fun x hx => h x (List.mem_cons_of_mem _ hx))

theorem words_joinWords : ∀ (ws : List Bytes), (∀ w ∈ ws, w ≠ [] ∧ ∀ c ∈ w, plainChar c = true) →
    words (joinWords ws) = ws
  | [], _ => rfl
  | [w], h => by
    obtain ⟨hne, hp⟩ := h w List.mem_cons_self
    unfold words wordsOfRoles
    have hg := groups_lits w (r := []) rfl
    rw [List.append_nil, List.append_nil] at hg
    rw [joinWords, classify_plain w hp, hg]
    cases w with
    | nil => exact absurd rfl hne
    | cons c cs => rfl
  | w :: w2 :: rest, h => by
    obtain ⟨hne, hp⟩ := h w List.mem_cons_self
    have ih := words_joinWords (w2 :: rest) (fun x hx => h x (List.mem_cons_of_mem _ hx))
    unfold words wordsOfRoles at ih ⊢
    have hg := groups_lits w (r := .sep :: (classify {} (joinWords (w2 :: rest))).1) rfl
    rw [List.append_nil] at hg
    rw [show joinWords (w :: w2 :: rest) = w ++ 32 :: joinWords (w2 :: rest) from rfl, classify_plain_sep w _ hp, hg,
      List.filter_cons, ih]
    cases w with
    | nil => exact absurd rfl hne
    | cons c cs => rfl

end Btcdeb.Proofs.Kerl
