/-
  `kerl_make_argcv_escape` and the word machine it refines.  The machine has the data of the C function without their
  memory (`AState`: the arguments so far and the characters of the argument being collected, as lists) and no control of
  its own: it folds `aStep` over the roles that the rule of `Spec/Kerl.lean` gives the characters.  `Rep s lx a` says that
  the memory of `s` holds the machine state `a`, inside its allocations, and that the C flags `quot`, `esc` are the lexical
  state `lx`; every step of the C function keeps it (`argChar_rep` … `argLoop_rep`), for any bytes, NUL included.
-/
import BtcdebProofs.Lemmas.Kerl.MoreFinal
namespace Btcdeb.Proofs.Kerl
open Btcdeb Btcdeb.Model.Kerl
open Btcdeb.Spec.Kerl (Role Lex classify complete)

/-- what `bufiter()` appends for a character -/
def piece (escape ch : UInt8) : Bytes := if ch == escape then [92, ch] else [ch]

/-- the role of one character (the body of `classify`) -/
def stepRole (lx : Lex) (c : UInt8) : Role × Lex :=
  if lx.escaped then (.lit c, { lx with escaped := false })
  else if c == 92 then (.mark, { lx with escaped := true })
  else match lx.quote with
    | some q => if c == q then (.mark, { lx with quote := none }) else (.lit c, lx)
    | none =>
      if c == 39 || c == 34 then (.mark, { lx with quote := some c })
      else if c == 32 then (.sep, lx)
      else (.lit c, lx)

theorem classify_cons (lx : Lex) (c : UInt8) (rest : Bytes) :
    classify lx (c :: rest) = ((stepRole lx c).1 :: (classify (stepRole lx c).2 rest).1, (classify (stepRole lx c).2 rest).2) := by
  rfl

/-- the data of `kerl_make_argcv_escape`: `argv[0..argc)` as strings and `buf[0..j)`, the argument being collected -/
structure AState where
  args : List Bytes := []
  cur : Bytes := []

/-- `if (j > 0) { buf[j] = 0; argv[argc++] = strdup(buf); j = 0; }` -/
def aFlush (a : AState) : AState :=
  if a.cur.length > 0 then { args := a.args ++ [cstrOf a.cur], cur := [] } else a

/-- one character by its role: a literal goes to `buf` through `bufiter()`, a separator ends the argument, a mark (quote,
    backslash) only moves the lexical state, which the machine does not hold -/
def aStep (escape : UInt8) (a : AState) : Role → AState
  | .lit c => { a with cur := a.cur ++ piece escape c }
  | .sep => aFlush a
  | .mark => a

/-- the argv at the end of the text: an argument still being collected is the last one -/
def aFinish (a : AState) : List Bytes := (aFlush a).args

/-- the `while (1)` loop on the machine: result and unread lines.  The line break of a continuation is a newline inside a
    quoted stretch (`add_newline`), written without `bufiter()`. -/
def aLoop (rl : Bool) (escape : UInt8) (lx : Lex) (a : AState) (line : Bytes) (more : List Bytes) : ArgRes × List Bytes :=
  let c := classify lx line
  let a := c.1.foldl (aStep escape) a
  if rl && !complete c.2 then
    match more with
    | [] => (.abort, [])
    | l :: rest => aLoop rl escape c.2 (if c.2.quote.isSome then { a with cur := a.cur ++ [10] } else a) l rest
  else (.ok (aFinish a), more)

theorem aStep_cur_le (e : UInt8) (a : AState) (r : Role) : (aStep e a r).cur.length ≤ a.cur.length + 2 := by
  cases r with
  | lit c => show (a.cur ++ piece e c).length ≤ _; unfold piece; split <;> simp
  | sep => show (aFlush a).cur.length ≤ _; unfold aFlush; split <;> simp
  | mark => exact Nat.le_add_right _ _

theorem foldl_aStep_cur_le (e : UInt8) : ∀ (line : Bytes) (lx : Lex) (a : AState),
    ((classify lx line).1.foldl (aStep e) a).cur.length ≤ a.cur.length + 2 * line.length
  | [], _, _ => Nat.le_refl _
  | ch :: rest, lx, a => by
    have := foldl_aStep_cur_le e rest (stepRole lx ch).2 (aStep e a (stepRole lx ch).1)
    have := aStep_cur_le e a (stepRole lx ch).1
    rw [classify_cons, List.foldl_cons, List.length_cons]; omega

/-- two buffer bytes per character and one newline per line -/
def weight (lines : List Bytes) : Nat := (lines.map (fun l => 2 * l.length + 1)).sum

theorem weight_cons (l : Bytes) (ls : List Bytes) : weight (l :: ls) = 2 * l.length + 1 + weight ls := rfl

theorem weight_le_of_suffix {l₁ l₂ : List Bytes} (h : l₁ <:+ l₂) : weight l₁ ≤ weight l₂ := by
  obtain ⟨t, rfl⟩ := h
  unfold weight
  rw [List.map_append, List.sum_append]
  exact Nat.le_add_left _ _

/-- the memory of `s` holds the machine state `a`, its flags are the lexical state `lx`.  The fill level is strictly inside
    `buf` (`room`), also between two lines of a continued command: the newline of a continuation is written behind its own
    capacity check.  `open0`: the C code keeps "no quote open" as `quot == 0`. -/
structure Rep (s : ArgSt) (lx : Lex) (a : AState) : Prop where
  buf : ∃ rest, s.buf = a.cur ++ rest
  j : s.j = a.cur.length
  argv : s.argv = a.args
  quot : s.quot = lx.quote.getD 0
  esc : s.esc = lx.escaped
  open0 : lx.quote ≠ some 0
  alloc : s.buf.length = s.bufcap
  room : s.j < s.bufcap
  big : 2 ≤ s.bufcap
  argc : s.argv.length ≤ s.cap
  cap : 1 ≤ s.cap

variable {s : ArgSt} {lx : Lex} {a : AState}

theorem Rep.quoted (hr : Rep s lx a) : (s.quot != 0) = lx.quote.isSome := by
  rw [hr.quot]
  cases h : lx.quote with
  | none => rfl
  | some q => exact bne_iff_ne.mpr fun h0 : q = 0 => hr.open0 (h0 ▸ h)

theorem Rep.pending (hr : Rep s lx a) : (s.quot != 0 || s.esc) = !complete lx := by
  rw [hr.quoted, hr.esc]
  unfold complete
  cases lx.quote <;> cases lx.escaped <;> rfl

theorem Rep.cell (hr : Rep s lx a) : ∃ x rest, s.buf = a.cur ++ x :: rest := by
  obtain ⟨rest, hb⟩ := hr.buf
  cases rest with
  | nil =>
    have := hr.room
    rw [← hr.alloc, hr.j, hb, List.append_nil] at this
    exact absurd this (Nat.lt_irrefl _)
  | cons x rest => exact ⟨x, rest, hb⟩

theorem bufPut_rep (v : UInt8) (hr : Rep s lx a) (hj : s.j + 1 < s.bufcap) :
    ∃ s', bufPut s v = .ok s' ∧ Rep s' lx { a with cur := a.cur ++ [v] } ∧ s'.bufcap = s.bufcap := by
  obtain ⟨x, rest, hb⟩ := hr.cell
  refine ⟨{ s with buf := a.cur ++ v :: rest, j := s.j + 1 }, ?_,
    { hr with buf := ⟨rest, by simp⟩, j := by simp [hr.j], alloc := ?_, room := hj }, rfl⟩
  · unfold bufPut
    rw [hb, hr.j, wr_at]
    rfl
  · show (a.cur ++ v :: rest).length = s.bufcap
    rw [← hr.alloc, hb, List.length_append, List.length_append]
    rfl

theorem bufiter_rep (escape ch : UInt8) (hr : Rep s lx a) (hj : s.j + 2 < s.bufcap) :
    ∃ s', bufiter escape s ch = .ok s' ∧ Rep s' lx { a with cur := a.cur ++ piece escape ch } := by
  unfold bufiter piece
  split
  · obtain ⟨s1, h1, r1, b1⟩ := bufPut_rep 92 hr (by omega)
    have j1 : s1.j = a.cur.length + 1 := by rw [r1.j]; simp
    obtain ⟨s2, h2, r2, _⟩ := bufPut_rep ch r1 (by rw [j1, b1, ← hr.j]; omega)
    exact ⟨s2, by rw [h1]; exact h2, by simpa using r2⟩
  · obtain ⟨s1, h1, r1, _⟩ := bufPut_rep ch hr (by omega)
    exact ⟨s1, h1, r1⟩

/-- `if (argc == cap) { cap = k; argv = realloc(argv, sizeof(char*) * cap); }` makes room for one more pointer -/
theorem Rep.growArgv (hr : Rep s lx a) {k : Nat} (hk : s.cap < k) :
    ∃ g, (if s.argv.length == s.cap then { s with cap := k } else s) = g ∧ Rep g lx a ∧ g.argv.length < g.cap := by
  have := hr.argc
  by_cases h : s.argv.length = s.cap
  · exact ⟨_, if_pos (by simpa using h), { hr with argc := by show s.argv.length ≤ k; omega, cap := by show 1 ≤ k; omega },
      by show s.argv.length < k; omega⟩
  · exact ⟨s, if_neg (by simpa using h), hr, by omega⟩

theorem storeArg_rep (hr : Rep s lx a) (hk : s.argv.length < s.cap) :
    ∃ s', storeArg s = .ok s' ∧ s'.argv = a.args ++ [cstrOf a.cur] ∧
      Rep { s' with j := 0 } lx { args := a.args ++ [cstrOf a.cur], cur := [] } := by
  obtain ⟨x, rest, hb⟩ := hr.cell
  have hlen : (a.cur ++ 0 :: rest).length = s.bufcap := by
    rw [← hr.alloc, hb, List.length_append, List.length_append]; rfl
  refine ⟨{ s with buf := a.cur ++ 0 :: rest, argv := s.argv ++ [cstrOf a.cur] }, ?_, by rw [← hr.argv],
    { hr with buf := ⟨_, rfl⟩, j := rfl, argv := by rw [← hr.argv], alloc := hlen,
              room := by have := hr.big; show 0 < s.bufcap; omega, argc := ?_ }⟩
  · unfold storeArg
    rw [hb, hr.j, wr_at]
    simp only [bind, Except.bind, cstr_at, if_pos hk]
    rfl
  · show (s.argv ++ [cstrOf a.cur]).length ≤ s.cap
    rw [List.length_append]; exact hk

/-- the growth step at the top of the loop body -/
def grown (s : ArgSt) : ArgSt :=
  if s.bufcap ≤ s.j + 2 then { s with bufcap := s.bufcap * 2, buf := realloc s.buf (s.bufcap * 2) } else s

theorem grown_rep (hr : Rep s lx a) : Rep (grown s) lx a ∧ (grown s).j + 2 < (grown s).bufcap := by
  have := hr.room; have := hr.big
  unfold grown
  split
  · obtain ⟨rest, hb⟩ := hr.buf
    refine ⟨{ hr with buf := ⟨rest ++ List.replicate (s.bufcap * 2 - s.buf.length) poison, ?_⟩, alloc := realloc_length _ _,
                      room := ?_, big := ?_ }, ?_⟩
    · show realloc s.buf (s.bufcap * 2) = _
      rw [realloc_grow (by rw [hr.alloc]; omega), hb, List.append_assoc]
    · show s.j < s.bufcap * 2; omega
    · show 2 ≤ s.bufcap * 2; omega
    · show s.j + 2 < s.bufcap * 2; omega
  · exact ⟨hr, by omega⟩

/-- one character: the C code walks the chain of tests of `stepRole` on its own flags -/
theorem argChar_rep (escape ch : UInt8) (hr : Rep s lx a) (hint : a.cur.length + 2 ≤ intMax) :
    ∃ s', argChar escape s ch = .ok s' ∧ Rep s' (stepRole lx ch).2 (aStep escape a (stepRole lx ch).1) := by
  obtain ⟨gr, gj⟩ := grown_rep hr
  generalize hg : grown s = g at gr gj
  unfold grown at hg
  unfold argChar
  rw [chkInt_ok (by rw [hr.j]; exact hint)]
  simp only [bind, Except.bind, hg]
  obtain ⟨s1, e1, r1⟩ := bufiter_rep escape ch gr gj
  have hx := gr.esc
  unfold stepRole
  by_cases h1 : lx.escaped = true
  · rw [if_pos h1, if_pos (hx ▸ h1), e1]
    exact ⟨_, rfl, { r1 with esc := rfl }⟩
  rw [if_neg h1, if_neg (hx ▸ h1)]
  by_cases h2 : (ch == 92) = true
  · rw [if_pos h2, if_pos h2]
    exact ⟨_, rfl, { gr with esc := rfl }⟩
  rw [if_neg h2, if_neg h2, gr.quoted]
  cases hq : lx.quote with
  | some q =>
    have hgq : g.quot = q := by rw [gr.quot, hq]; rfl
    rw [if_pos (by rfl), hgq]
    simp only []
    by_cases h4 : (ch == q) = true
    · rw [if_pos h4, if_pos h4]
      exact ⟨_, rfl, { gr with quot := rfl, open0 := nofun }⟩
    · rw [if_neg h4, if_neg h4]
      exact ⟨s1, e1, r1⟩
  | none =>
    rw [if_neg (by decide)]
    simp only []
    by_cases h5 : (ch == 39 || ch == 34) = true
    · rw [if_pos h5, if_pos h5]
      refine ⟨_, rfl, { gr with quot := rfl, open0 := fun h => ?_ }⟩
      cases h; revert h5; decide
    rw [if_neg h5, if_neg h5]
    by_cases h6 : (ch == 32) = true
    · rw [if_pos h6, if_pos h6]
      show ∃ s', _ = Except.ok s' ∧ Rep s' lx (aFlush a)
      unfold aFlush
      by_cases h7 : a.cur.length > 0
      · rw [if_pos h7, if_pos (gr.j ▸ h7)]
        obtain ⟨g2, eg2, r2, k2⟩ := gr.growArgv (k := g.cap * 2) (by have := gr.cap; omega)
        obtain ⟨s3, e3, _, r3⟩ := storeArg_rep r2 k2
        exact ⟨_, by rw [eg2, e3]; rfl, r3⟩
      · rw [if_neg h7, if_neg (gr.j ▸ h7)]
        exact ⟨g, rfl, gr⟩
    rw [if_neg h6, if_neg h6]
    exact ⟨s1, e1, r1⟩

theorem argLine_rep (escape : UInt8) : ∀ (line : Bytes) {s : ArgSt} {lx : Lex} {a : AState}, Rep s lx a →
    a.cur.length + 2 * line.length + 2 ≤ intMax →
    ∃ s', argLine escape s line = .ok s' ∧ Rep s' (classify lx line).2 ((classify lx line).1.foldl (aStep escape) a)
  | [], s, _, _, hr, _ => ⟨s, rfl, hr⟩
  | ch :: rest, s, lx, a, hr, hint => by
    rw [List.length_cons] at hint
    have := aStep_cur_le escape a (stepRole lx ch).1
    obtain ⟨s1, e1, r1⟩ := argChar_rep escape ch hr (by omega)
    obtain ⟨s2, e2, r2⟩ := argLine_rep escape rest r1 (by omega)
    exact ⟨s2, by show (argChar escape s ch).bind _ = _; rw [e1]; exact e2, r2⟩

theorem argFinish_rep (hr : Rep s lx a) : argFinish s = .ok (aFinish a) := by
  unfold argFinish aFinish aFlush
  by_cases h : a.cur.length > 0
  · rw [if_pos h, if_pos (hr.j ▸ h)]
    obtain ⟨g2, eg2, r2, k2⟩ := hr.growArgv (k := s.cap + 1) (Nat.lt_succ_self _)
    obtain ⟨s3, e3, a3, _⟩ := storeArg_rep r2 k2
    simp only [bind, Except.bind, pure, Except.pure]
    rw [eg2, e3, ← a3]
  · rw [if_neg h, if_neg (hr.j ▸ h), hr.argv]
    rfl

theorem contNewline_rep (hr : Rep s lx a) (hint : a.cur.length + 2 ≤ intMax) :
    ∃ s', contNewline s = .ok (lx.quote.isSome, s') ∧
      Rep s' lx (if lx.quote.isSome then { a with cur := a.cur ++ [10] } else a) := by
  unfold contNewline
  rw [hr.quoted]
  by_cases hq : lx.quote.isSome = true
  · rw [if_pos hq, if_pos hq, chkInt_ok (by rw [hr.j]; exact hint), hq]
    obtain ⟨gr, gj⟩ := grown_rep hr
    obtain ⟨s1, e1, r1, _⟩ := bufPut_rep 10 gr (by omega)
    exact ⟨s1, by show (bufPut (grown s) 10).bind _ = _; rw [e1]; rfl, r1⟩
  · rw [if_neg hq, if_neg hq]
    rw [Bool.not_eq_true] at hq
    exact ⟨s, by rw [hq]; rfl, hr⟩

theorem argLoop_rep {t : Bytes} (rl : Bool) (escape : UInt8) (more : List Bytes)
    (line : Bytes) (mf : MoreFinal) (s : ArgSt) (lx : Lex) (a : AState) (prompts : List Char) (hr : Rep s lx a)
    (hmf : MfText t mf) (hint : a.cur.length + weight (line :: more) + 1 ≤ intMax) :
    ∃ o, argLoop rl escape mf s line more prompts = .ok o ∧ (o.res, o.rest) = aLoop rl escape lx a line more ∧
      MfText t o.mf ∧ o.rest <:+ more := by
  rw [weight_cons] at hint
  obtain ⟨s1, e1, r1⟩ := argLine_rep escape line hr (by omega)
  have := foldl_aStep_cur_le escape line lx a
  unfold argLoop aLoop
  rw [chkInt_ok (by omega)]
  simp only [bind, Except.bind]
  rw [e1]
  simp only []
  rw [r1.pending]
  split
  · obtain ⟨s2, e2, r2⟩ := contNewline_rep r1 (by omega)
    rw [e2]
    cases more with
    | nil => exact ⟨_, rfl, rfl, hmf, List.suffix_refl _⟩
    | cons l rest =>
      simp only []
      obtain ⟨mf2, em, hm2⟩ := mfAppend_text mf l (classify lx line).2.quote.isSome hmf
      rw [em]
      have hnl : ∀ (b : Bool) (x : AState), (if b then { x with cur := x.cur ++ [10] } else x).cur.length ≤ x.cur.length + 1 :=
        fun b x => by cases b <;> simp
      have := hnl (classify lx line).2.quote.isSome ((classify lx line).1.foldl (aStep escape) a)
      obtain ⟨o, eo, ro, mo, so⟩ := argLoop_rep rl escape rest l mf2 s2 _ _ _ r2 hm2 (by omega)
      exact ⟨o, eo, ro, mo, so.trans (List.suffix_cons l rest)⟩
  · rw [argFinish_rep r1]
    exact ⟨_, rfl, rfl, hmf, List.suffix_refl _⟩

theorem makeArgcvEscape_rep (rl : Bool) (escape : UInt8) (mf : MoreFinal) (arg : Bytes) (more : List Bytes) (hmf : MfWf mf)
    (hint : weight (arg :: more) + 1 ≤ intMax) :
    ∃ o, makeArgcvEscape rl escape mf arg more = .ok o ∧ (o.res, o.rest) = aLoop rl escape {} {} arg more ∧
      MfText arg o.mf ∧ o.rest <:+ more := by
  unfold makeArgcvEscape
  obtain ⟨mf1, e1, h1⟩ := mfInit_text mf arg hmf
  simp only [bind, Except.bind]
  rw [e1]
  have h0 : Rep ({} : ArgSt) {} {} :=
    ⟨⟨malloc 1024, rfl⟩, rfl, rfl, rfl, rfl, nofun, malloc_length 1024, by decide, by decide, by decide, by decide⟩
  exact argLoop_rep rl escape more arg mf1 {} {} {} [] h0 h1 (by simpa using hint)

end Btcdeb.Proofs.Kerl
