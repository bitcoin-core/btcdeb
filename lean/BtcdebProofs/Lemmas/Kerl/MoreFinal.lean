/-
  `more_final`: `snprintf`, `_more_final_init`, `_more_final_append`.  What they keep (`MfText t`): the allocation is as
  large as the code believes and begins with the text `t` that `_more_final_init` wrote, and its terminator; what
  `_more_final_append` adds lies behind that terminator.
-/
import BtcdebProofs.Lemmas.Kerl.Memory
namespace Btcdeb.Proofs.Kerl
open Btcdeb Btcdeb.Model.Kerl

/-- the allocation of `more_final` is as large as the code believes -/
def MfWf (m : MoreFinal) : Prop :=
  match m.mem with
  | none => True
  | some mem => mem.length = m.cap ∧ m.pos ≤ m.cap

theorem snprintfAt_at (text : Bytes) : ∀ (pre rest : List UInt8) (size : Nat), text.length + 1 ≤ size →
    text.length + 1 ≤ rest.length →
    snprintfAt (pre ++ rest) pre.length size text = .ok (pre ++ text ++ 0 :: rest.drop (text.length + 1)) := by
  induction text with
  | nil =>
    intro pre rest size hs hl
    obtain ⟨x, rest, rfl⟩ := List.exists_cons_of_length_pos (Nat.lt_of_lt_of_le (Nat.succ_pos _) hl)
    obtain ⟨n, rfl⟩ := Nat.exists_eq_add_of_le' hs
    have : snprintfAt (pre ++ x :: rest) pre.length (n + 1) [] = wr (pre ++ x :: rest) pre.length 0 "snprintf: terminator" := by
      cases n <;> rfl
    show snprintfAt (pre ++ x :: rest) pre.length (n + 1) [] = _
    rw [this, wr_at, List.append_nil]
    rfl
  | cons c cs ih =>
    intro pre rest size hs hl
    simp only [List.length_cons] at hs hl
    obtain ⟨x, rest, rfl⟩ := List.exists_cons_of_length_pos (Nat.lt_of_lt_of_le (Nat.succ_pos _) hl)
    obtain ⟨n, rfl⟩ := Nat.exists_eq_add_of_le' hs
    have := ih (pre ++ [c]) rest (n + (cs.length + 1)) (by omega) (by simpa using hl)
    rw [List.append_assoc, List.length_append] at this
    show (wr (pre ++ x :: rest) pre.length c "snprintf: character").bind _ = _
    rw [wr_at]
    simpa [Except.bind] using this

/-- `r`: what `_more_final_append` wrote behind the terminator of `t`, which no reader of the C string sees -/
def MfText (t : Bytes) (m : MoreFinal) : Prop :=
  ∃ mem r, m.mem = some mem ∧ mem.length = m.cap ∧ m.pos ≤ m.cap ∧ mem.take m.pos = t ++ 0 :: r

theorem MfText.wf {t : Bytes} {m : MoreFinal} (h : MfText t m) : MfWf m := by
  obtain ⟨mem, _, hm, hl, hp, _⟩ := h
  unfold MfWf
  rw [hm]
  exact ⟨hl, hp⟩

/-- `kerl_add_history(more_final)` reads `t`, whatever was appended -/
theorem MfText.text {t : Bytes} {m : MoreFinal} (h : MfText t m) (ht : (0 : UInt8) ∉ t) : m.text = .ok t := by
  obtain ⟨mem, r, hm, _, _, hp⟩ := h
  unfold MoreFinal.text
  rw [hm]
  simp only []
  rw [← List.take_append_drop m.pos mem, hp, List.append_assoc, List.cons_append, cstr_at_nulfree _ _ ht]

/-- the common end of `mfInit` and `mfAppend`, once the allocation is large enough: `text` and a terminator are written at
    `pos`; the new position is behind the text (`k = 0`, `mfAppend`) or behind its terminator (`k = 1`, `mfInit`) -/
theorem mfTail_text {t : Bytes} (mem : List UInt8) (cap pos lines k : Nat) (text r : Bytes)
    (hl : mem.length = cap) (hc : pos + text.length + 1 ≤ cap) (hk : k ≤ 1)
    (hT : mem.take pos ++ text ++ List.replicate k 0 = t ++ 0 :: r) :
    ∃ m', (do let mem ← snprintfAt mem pos cap text
              pure ({ mem := some mem, cap := cap, pos := pos + text.length + k, lines := lines } : MoreFinal) : KM MoreFinal) = .ok m' ∧
      MfText t m' := by
  have hlen : (mem.take pos).length = pos := by rw [List.length_take]; omega
  have hw := snprintfAt_at text (mem.take pos) (mem.drop pos) cap (by omega) (by rw [List.length_drop]; omega)
  rw [hlen, List.take_append_drop] at hw
  rw [hw]
  refine ⟨_, rfl, _, r, rfl, ?_, by show pos + text.length + k ≤ cap; omega, ?_⟩
  · simp only [List.length_append, List.length_cons, List.length_drop, hlen]; omega
  · show List.take (pos + text.length + k) _ = _
    have hA : (mem.take pos ++ text).length = pos + text.length := by rw [List.length_append, hlen]
    rw [List.take_append, List.take_of_length_le (by omega), hA, ← hT]
    match k, hk with
    | 0, _ => simp
    | 1, _ => simp

theorem mfInit_text (m : MoreFinal) (arg : Bytes) (h : MfWf m) : ∃ m', mfInit m arg = .ok m' ∧ MfText arg m' := by
  have key : ∀ (mem : List UInt8) (cap : Nat), mem.length = cap → arg.length + 1 ≤ cap → _ :=
    fun mem cap hl hc => mfTail_text (t := arg) mem cap 0 0 1 arg [] hl (by omega) (Nat.le_refl _) (by simp)
  unfold mfInit
  simp only [Nat.zero_add] at key
  cases hm : m.mem with
  | none => exact key _ _ (malloc_length _) (Nat.le_refl _)
  | some mem =>
    unfold MfWf at h
    rw [hm] at h
    simp only []
    by_cases hc : m.cap < arg.length + 1
    · simp only [if_pos hc]
      exact key _ _ (realloc_length _ _) (Nat.le_refl _)
    · simp only [if_neg hc]
      exact key _ _ h.1 (by omega)

theorem mfAppend_text {t : Bytes} (m : MoreFinal) (line : Bytes) (nl : Bool) (h : MfText t m) :
    ∃ m', mfAppend m line nl = .ok m' ∧ MfText t m' := by
  obtain ⟨mem, r, hm, hl, hp, ht⟩ := h
  have htl : ((if nl = true then [10] else []) ++ line : Bytes).length = line.length + (if nl = true then 1 else 0) := by
    cases nl <;> simp <;> omega
  unfold mfAppend
  rw [hm]
  simp only []
  generalize hreq : m.pos + line.length + 1 + (if nl = true then 1 else 0) = req
  -- the allocation after the growth step: large enough, the old content in front
  obtain ⟨mem2, cap2, e, hl2, htk, hc⟩ : ∃ mem2 cap2, (if m.cap < req then (realloc mem req, req) else (mem, m.cap)) = (mem2, cap2) ∧
      mem2.length = cap2 ∧ mem2.take m.pos = mem.take m.pos ∧ req ≤ cap2 := by
    by_cases hcap : m.cap < req
    · exact ⟨_, _, if_pos hcap, realloc_length _ _,
        by rw [realloc_grow (by omega), List.take_append_of_le_length (by omega)], Nat.le_refl _⟩
    · exact ⟨_, _, if_neg hcap, hl, rfl, by omega⟩
  simp only [e]
  rw [if_neg (by omega)]
  exact mfTail_text mem2 cap2 m.pos (m.lines + 1) 0 _ (r ++ ((if nl = true then [10] else []) ++ line)) hl2 (by omega)
    (Nat.zero_le _) (by rw [htk, ht]; simp)

end Btcdeb.Proofs.Kerl
