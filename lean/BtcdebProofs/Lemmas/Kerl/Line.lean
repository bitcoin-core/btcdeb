/-
  One line of input: the comment cut, `stripwhite`, `execute_line` with `find_command`.  On a buffer
  `text ++ 0 :: tail` with NUL-free `text`, `stripwhite` and `execute_line` stay inside it and compute list functions of
  `text` (`rtrim` behind the leading blanks; the decision of `executeLine_parts` on the `Parts` of the line); the comment cut
  leaves such a buffer, with `Spec.Kerl.cutComment` of the line as its text.
-/
import BtcdebProofs.Lemmas.Kerl.Memory
namespace Btcdeb.Proofs.Kerl
open Btcdeb Btcdeb.Model.Kerl

theorem isWs_zero : isWs 0 = false := by decide

def rtrim (x : Bytes) : Bytes := (x.reverse.dropWhile isWs).reverse

theorem rtrim_sub (x : Bytes) : List.Sublist (rtrim x) x := ListAux.reverse_dropWhile_sublist isWs x

theorem rtrim_decomp (x : Bytes) : ∃ w : Bytes, x = rtrim x ++ w.reverse ∧ (∀ c ∈ w, isWs c = true) ∧
    (rtrim x = [] ∨ ∃ ini l, rtrim x = ini ++ [l] ∧ isWs l = false) := by
  refine ⟨x.reverse.takeWhile isWs, ?_, List.all_eq_true.mp List.all_takeWhile, ?_⟩
  · rw [rtrim, ← List.reverse_append, List.takeWhile_append_dropWhile, List.reverse_reverse]
  · rcases ListAux.dropWhile_head_not isWs x.reverse with h | ⟨y, ys, h, hy⟩
    · exact Or.inl (by rw [rtrim, h]; rfl)
    · exact Or.inr ⟨ys.reverse, y, by rw [rtrim, h, List.reverse_cons], hy⟩

/-- the loop `while (t > s && whitespace(*t)) t--` over the blanks `w` (last one first) behind the character `l` that is
    no blank: it stops at `l` -/
theorem backWs_blanks (P : List UInt8) (l : UInt8) (s : Nat) (hl : isWs l = false) (hs : s ≤ P.length) :
    ∀ (w z : List UInt8), (∀ c ∈ w, isWs c = true) →
      backWs (P ++ l :: (w.reverse ++ z)) s (P.length + w.length) = .ok P.length
  | [], z, _ => by
    show backWs (P ++ l :: z) s P.length = _
    cases hP : P.length with
    | zero => rfl
    | succ k =>
      unfold backWs
      split
      · rw [← hP, rd_at]
        show (if isWs l = true then _ else _) = _
        rw [hl]; rfl
      · rfl
  | x :: w, z, hw => by
    have hm : P ++ l :: ((x :: w).reverse ++ z) = (P ++ l :: w.reverse) ++ x :: z := by simp
    have := rd_at (P ++ l :: w.reverse) x z "stripwhite: *t"
    rw [show (P ++ l :: w.reverse).length = P.length + w.length + 1 by simp; omega] at this
    rw [hm, List.length_cons, ← Nat.add_assoc]
    unfold backWs
    rw [if_pos (by omega), this]
    show (if isWs x = true then _ else _) = _
    rw [if_pos (hw x List.mem_cons_self), List.append_assoc]
    exact backWs_blanks P l s hl hs w (x :: z) (fun c hc => hw c (List.mem_cons_of_mem _ hc))

theorem stripwhite_spec (str tail : List UInt8) (hn : (0 : UInt8) ∉ str) :
    ∃ tail', stripwhite (str ++ 0 :: tail) = .ok ((str.takeWhile isWs).length,
        str.takeWhile isWs ++ rtrim (str.dropWhile isWs) ++ 0 :: tail') := by
  have hsplit : str = str.takeWhile isWs ++ str.dropWhile isWs := List.takeWhile_append_dropWhile.symm
  generalize hlead : str.takeWhile isWs = lead at hsplit ⊢
  have hleadws : ∀ c ∈ lead, isWs c = true := hlead ▸ List.all_eq_true.mp List.all_takeWhile
  have hbody := ListAux.dropWhile_head_not isWs str
  generalize str.dropWhile isWs = body at hsplit hbody ⊢
  have hbn : (0 : UInt8) ∉ body := fun h => hn (by rw [hsplit]; exact List.mem_append_right _ h)
  have hmem : str ++ 0 :: tail = lead ++ (body ++ 0 :: tail) := by rw [hsplit, List.append_assoc]
  rw [hmem]
  -- the first character behind the leading blanks: the terminator, or the first of `body`
  obtain ⟨c, R, hcR, hc⟩ : ∃ c R, body ++ 0 :: tail = c :: R ∧ isWs c = false := by
    rcases hbody with h | ⟨x, xs, h, hx⟩
    · exact ⟨0, tail, by rw [h]; rfl, isWs_zero⟩
    · exact ⟨x, xs ++ 0 :: tail, by rw [h]; rfl, hx⟩
  unfold stripwhite
  simp only [hcR, ListAux.takeWhile_append_stop isWs lead c R hleadws hc]
  rw [if_neg (by rw [List.length_append, List.length_cons]; omega), rd_at]
  simp only [bind, Except.bind, pure, Except.pure]
  rcases hbody with h | ⟨x, xs, h, hx⟩
  · subst h
    cases hcR
    exact ⟨tail, by simp [rtrim]⟩
  · have hx0 : x ≠ 0 := fun h0 => hbn (by rw [h, h0]; exact List.mem_cons_self)
    have hcx : c = x := by rw [h] at hcR; exact (List.cons.inj hcR).1.symm
    rw [if_neg (by simpa [hcx] using hx0), ← hcR, cstrAt_at_nulfree lead body tail hbn]
    simp only []
    obtain ⟨w, hdec, hw, hcore⟩ := rtrim_decomp body
    rcases hcore with hc0 | ⟨ini, l, hcr, hl⟩
    · -- `body` begins with a character that is no blank
      rw [hc0, List.nil_append] at hdec
      have := hw x (List.mem_reverse.mp (by rw [← hdec, h]; exact List.mem_cons_self))
      rw [hx] at this; cases this
    · have hm3 : lead ++ (body ++ 0 :: tail) = (lead ++ ini) ++ l :: (w.reverse ++ 0 :: tail) := by
        conv => lhs; rw [hdec, hcr]
        simp
      have ht : lead.length + body.length - 1 = (lead ++ ini).length + w.length := by
        rw [hdec, hcr]; simp; omega
      rw [ht, hm3, backWs_blanks (lead ++ ini) l lead.length hl (by simp) w (0 :: tail) hw]
      simp only []
      obtain ⟨y, R', hR'⟩ : ∃ y R', w.reverse ++ 0 :: tail = y :: R' := by cases w.reverse <;> simp
      have hm4 : (lead ++ ini) ++ l :: (w.reverse ++ 0 :: tail) = (lead ++ rtrim body) ++ y :: R' := by rw [hcr, hR']; simp
      rw [hm4, show (lead ++ ini).length + 1 = (lead ++ rtrim body).length by rw [hcr]; simp; omega, wr_at]
      exact ⟨R', rfl⟩

def notWs (c : UInt8) : Bool := !isWs c

/-- a line as `execute_line` reads it: leading blanks, the command word, and what follows it (nothing, or a blank and the
    rest) -/
structure Parts (line lead word after : Bytes) : Prop where
  heq : line = lead ++ word ++ after
  hlead : ∀ c ∈ lead, isWs c = true
  hword : ∀ c ∈ word, isWs c = false
  hafter : after = [] ∨ ∃ y ys, after = y :: ys ∧ isWs y = true
  hempty : word = [] → after = []

theorem parts_of (line : Bytes) :
    Parts line (line.takeWhile isWs) ((line.dropWhile isWs).takeWhile notWs) ((line.dropWhile isWs).dropWhile notWs) := by
  refine ⟨?_, List.all_eq_true.mp List.all_takeWhile,
    fun c hc => by simpa [notWs] using List.all_eq_true.mp List.all_takeWhile c hc, ?_, ?_⟩
  · rw [List.append_assoc, List.takeWhile_append_dropWhile, List.takeWhile_append_dropWhile]
  · rcases ListAux.dropWhile_head_not notWs (line.dropWhile isWs) with h | ⟨y, ys, h, hy⟩
    · exact Or.inl h
    · exact Or.inr ⟨y, ys, h, by simpa [notWs] using hy⟩
  · intro hw
    rcases ListAux.dropWhile_head_not isWs line with h | ⟨x, xs, h, hx⟩
    · rw [h]; rfl
    · rw [h, List.takeWhile_cons, if_pos (by simp [notWs, hx])] at hw
      cases hw

theorem parts_takeWhile {line lead word after : Bytes} (h : Parts line lead word after) : line.takeWhile isWs = lead := by
  rw [h.heq, List.append_assoc]
  cases hw : word with
  | nil => rw [h.hempty hw, List.append_nil, List.append_nil]; exact ListAux.takeWhile_all _ _ h.hlead
  | cons x xs => exact ListAux.takeWhile_append_stop isWs lead x (xs ++ after) h.hlead (h.hword x (by rw [hw]; exact List.mem_cons_self))

theorem parts_word {line lead word after : Bytes} (h : Parts line lead word after) :
    (line.drop lead.length).takeWhile notWs = word := by
  rw [h.heq, List.append_assoc, List.drop_left]
  have hw : ∀ c ∈ word, notWs c = true := fun c hc => by simp [notWs, h.hword c hc]
  rcases h.hafter with ha | ⟨y, ys, ha, hy⟩
  · rw [ha, List.append_nil]; exact ListAux.takeWhile_all _ _ hw
  · rw [ha]; exact ListAux.takeWhile_append_stop _ word y ys hw (by simp [notWs, hy])

/-- the line a fallback receives, for a line made of `lead`, `word`, `after`: a space behind the word, whichever blank was
    typed there (`restoreBlank` writes `' '` over the terminator) -/
def fallbackText (lead word after : Bytes) : Bytes :=
  lead ++ word ++ (match after with | [] => [] | _ :: ys => 32 :: ys)

theorem fallbackText_eq {line lead word after : Bytes} (h : Parts line lead word after)
    (hsep : ∀ y ys, after = y :: ys → y = 32) : fallbackText lead word after = line := by
  rw [h.heq]
  cases after with
  | nil => rfl
  | cons y ys => rw [hsep y ys rfl]; rfl

/-- `line[i-1]` is the last character of the line: nothing to restore -/
theorem restoreBlank_end (L tail : Bytes) (hL : (0 : UInt8) ∉ L) :
    restoreBlank (L ++ 0 :: tail) L.length = .ok (L ++ 0 :: tail) := by
  unfold restoreBlank
  rcases List.eq_nil_or_concat L with rfl | ⟨L', b, rfl⟩
  · rfl
  · have hb : b ≠ 0 := fun h => hL (by simp [h])
    rw [List.concat_eq_append, if_pos (by simp), show (L' ++ [b]).length - 1 = L'.length by simp, List.append_assoc]
    show (rd (L' ++ b :: 0 :: tail) L'.length _).bind _ = _
    rw [rd_at]
    show (if (b == 0) = true then _ else _) = _
    rw [if_neg (by simpa using hb)]; rfl

/-- `line[i-1]` is the terminator written over the blank behind the command word -/
theorem restoreBlank_mid (L R : Bytes) : restoreBlank (L ++ 0 :: R) (L.length + 1) = .ok (L ++ 32 :: R) := by
  unfold restoreBlank
  rw [if_pos (Nat.succ_pos _), Nat.add_sub_cancel, rd_at]
  exact wr_at L 0 R 32 _

theorem executeLookup_spec (cfg : Config) (P ys tail : Bytes) (w : Nat) {name whole : Bytes} {mem' : List UInt8}
    (hname : cstrAt (P ++ (ys ++ 0 :: tail)) w = .ok name) (hys : (0 : UInt8) ∉ ys) (hint : P.length + ys.length ≤ intMax)
    (hrb : restoreBlank (P ++ (ys ++ 0 :: tail)) P.length = .ok mem') (hwhole : cstr mem' = .ok whole) :
    ∃ m, executeLookup cfg (P ++ (ys ++ 0 :: tail)) w P.length = .ok
      ((match findCommand cfg.commands name with
        | some (idx, kind) => Dispatch.call idx kind (ys.dropWhile isWs)
        | none => if cfg.hasFallback then .fallback whole else .noSuch name), m) := by
  unfold executeLookup
  rw [hname]
  simp only [bind, Except.bind]
  cases findCommand cfg.commands name with
  | none =>
    simp only []
    split
    · rw [hrb]
      simp only []
      rw [hwhole]
      exact ⟨_, rfl⟩
    · exact ⟨_, rfl⟩
  | some p =>
    have hle : (ys.takeWhile isWs).length ≤ ys.length := (List.takeWhile_sublist _).length_le
    have harg : cstrAt (P ++ (ys ++ 0 :: tail)) (P.length + (ys.takeWhile isWs).length) = .ok (ys.dropWhile isWs) := by
      have := cstrAt_at_nulfree (P ++ ys.takeWhile isWs) (ys.dropWhile isWs) tail
        (fun h => hys ((List.dropWhile_sublist _).subset h))
      rwa [List.append_assoc, ← List.append_assoc (ys.takeWhile isWs), List.takeWhile_append_dropWhile, List.length_append] at this
    simp only []
    rw [if_neg (by rw [List.length_append]; omega), List.drop_left, ListAux.takeWhile_append_cons_of_neg ys tail isWs_zero,
      chkInt_ok (by omega)]
    simp only []
    rw [harg]
    exact ⟨_, rfl⟩

theorem executeLine_parts (cfg : Config) {line lead word after : Bytes} (hp : Parts line lead word after) (tail : Bytes)
    (hn : (0 : UInt8) ∉ line) (hint : line.length + 1 ≤ intMax) :
    ∃ mem', executeLine cfg (line ++ 0 :: tail) = .ok
      ((match findCommand cfg.commands word with
        | some (idx, kind) => Dispatch.call idx kind (after.dropWhile isWs)
        | none => if cfg.hasFallback then .fallback (fallbackText lead word after) else .noSuch word), mem') := by
  have hline := cstr_at_nulfree line tail hn
  rw [hp.heq, List.mem_append, List.mem_append] at hn
  have hlw : (0 : UInt8) ∉ lead ++ word := fun h => hn (Or.inl (List.mem_append.mp h))
  have hlen : line.length = (lead ++ word).length + after.length := by rw [hp.heq, List.length_append]
  unfold executeLine
  rw [hline]
  simp only [bind, Except.bind]
  rw [parts_takeWhile hp, show (fun c => !isWs c) = notWs from rfl, parts_word hp, ← List.length_append, chkInt_ok (by omega)]
  simp only []
  -- `find_command` sees the word whatever follows its terminator
  have hname : ∀ X, cstrAt ((lead ++ word) ++ 0 :: X) lead.length = .ok word := fun X => by
    rw [List.append_assoc]; exact cstrAt_at_nulfree lead word X (fun h => hn (Or.inl (Or.inr h)))
  unfold fallbackText
  rcases hp.hafter with h0 | ⟨y, ys, hys, hy⟩
  · rw [hp.heq, h0, List.append_nil, rd_at]
    simp only []
    rw [if_neg (by decide)]
    exact executeLookup_spec cfg (lead ++ word) [] tail lead.length (hname _) (by simp) (by rw [List.length_nil]; omega)
      (restoreBlank_end _ _ hlw) (cstr_at_nulfree _ _ hlw)
  · have hys0 : (0 : UInt8) ∉ ys := fun h => hn (Or.inr (by rw [hys]; exact List.mem_cons_of_mem _ h))
    rw [hp.heq, hys, List.append_assoc (lead ++ word), List.cons_append, rd_at]
    simp only []
    rw [if_pos (by simpa using fun h : y = 0 => hn (Or.inr (by rw [hys, h]; exact List.mem_cons_self))), wr_at]
    simp only []
    rw [hys, List.length_cons] at hlen
    have hnf : (0 : UInt8) ∉ lead ++ word ++ 32 :: ys := by
      rw [List.mem_append, List.mem_cons, not_or, not_or]
      exact ⟨hlw, by decide, hys0⟩
    have := executeLookup_spec cfg (lead ++ word ++ [0]) ys tail lead.length (by simpa using hname _) hys0
      (by simp at hlen ⊢; omega) (mem' := (lead ++ word) ++ 32 :: (ys ++ 0 :: tail)) (whole := lead ++ word ++ 32 :: ys)
      (by simpa [Nat.add_assoc] using restoreBlank_mid (lead ++ word) (ys ++ 0 :: tail)) (by simpa using cstr_at_nulfree _ tail hnf)
    rw [List.dropWhile_cons, if_pos hy]
    simpa [Nat.add_assoc] using this

/-! The rule (`Spec/Kerl.lean`) writes its functions on `isBlank`, the lemmas above on the model's `isWs` and on `notWs` /
    `rtrim`: the same functions, and here the two spellings meet. -/

theorem commandWord_eq (line : Bytes) : Spec.Kerl.commandWord line = (line.dropWhile isWs).takeWhile notWs := rfl
theorem argText_eq (line : Bytes) : Spec.Kerl.argText line = ((line.dropWhile isWs).dropWhile notWs).dropWhile isWs := rfl
theorem trim_eq (x : Bytes) : Spec.Kerl.trim x = rtrim (x.dropWhile isWs) := rfl

theorem trim_sub (x : Bytes) : List.Sublist (Spec.Kerl.trim x) x := by
  rw [trim_eq]
  exact (rtrim_sub _).trans (List.dropWhile_sublist _)

/-- `execute_line` in the rule's terms -/
theorem executeLine_spec (cfg : Config) (line tail : Bytes) (hn : (0 : UInt8) ∉ line) (hint : line.length + 1 ≤ intMax) :
    ∃ mem', executeLine cfg (line ++ 0 :: tail) = .ok
      ((match findCommand cfg.commands (Spec.Kerl.commandWord line) with
        | some (idx, kind) => Dispatch.call idx kind (Spec.Kerl.argText line)
        | none =>
          if cfg.hasFallback then
            .fallback (fallbackText (line.takeWhile isWs) (Spec.Kerl.commandWord line) ((line.dropWhile isWs).dropWhile notWs))
          else .noSuch (Spec.Kerl.commandWord line)), mem') := by
  rw [commandWord_eq, argText_eq]
  exact executeLine_parts cfg (parts_of line) tail hn hint

theorem argText_sub (cur : Bytes) : List.Sublist (Spec.Kerl.argText cur) cur := by
  rw [argText_eq]
  exact ((List.dropWhile_sublist _).trans (List.dropWhile_sublist _)).trans (List.dropWhile_sublist _)

theorem findCommand_spec (name : Bytes) (cmds : List (Bytes × CmdKind)) :
    (∀ i k, findCommand cmds name = some (i, k) →
      ∃ c, cmds[i]? = some c ∧ c.1 = name ∧ c.2 = k ∧ ∀ j, j < i → ∀ c', cmds[j]? = some c' → c'.1 ≠ name) ∧
    (findCommand cmds name = none → ∀ c ∈ cmds, c.1 ≠ name) := by
  unfold findCommand
  cases hq : cmds.findIdx? (fun c => c.1 == name) with
  | none =>
    refine ⟨nofun, fun _ c hc => ?_⟩
    simpa using List.findIdx?_eq_none_iff.mp hq c hc
  | some q =>
    obtain ⟨hlt, hp, hmin⟩ := List.findIdx?_eq_some_iff_getElem.mp hq
    simp only [List.getElem?_eq_getElem hlt, Option.map_some]
    refine ⟨fun i k h => ?_, nofun⟩
    cases h
    refine ⟨cmds[q], List.getElem?_eq_getElem hlt, by simpa using hp, rfl, fun j hj c' hc' => ?_⟩
    obtain ⟨hj', rfl⟩ := List.getElem?_eq_some_iff.mp hc'
    simpa using hmin j hj

theorem cutCommentMem_spec (cfg : Config) (line : Bytes) :
    ∃ tail, cutCommentMem cfg line = .ok (Spec.Kerl.cutComment cfg.commentChar line ++ 0 :: tail) := by
  unfold cutCommentMem Spec.Kerl.cutComment
  by_cases hc : cfg.commentChar = 0
  · rw [if_neg (by simp [hc]), if_pos (by simp [hc])]
    exact ⟨[], rfl⟩
  · rw [if_pos (by simpa using hc), if_neg (by simpa using hc)]
    have hne : ∀ pre : Bytes, cfg.commentChar ∉ pre → ∀ y ∈ pre, (y != cfg.commentChar) = true :=
      fun pre h y hy => bne_iff_ne.mpr fun e => h (e ▸ hy)
    cases hq : line.idxOf? cfg.commentChar with
    | none =>
      rw [ListAux.takeWhile_all _ _ (hne line (List.idxOf?_eq_none_iff.mp hq))]
      exact ⟨[], rfl⟩
    | some p =>
      obtain ⟨pre, post, rfl, rfl, hpre⟩ := ListAux.idxOf_split _ _ _ hq
      rw [ListAux.takeWhile_append_stop _ pre _ post (hne pre hpre) (by simp)]
      refine ⟨post ++ [0], ?_⟩
      show wr ((pre ++ cfg.commentChar :: post) ++ [0]) pre.length 0 _ = _
      rw [List.append_assoc, List.cons_append]
      exact wr_at _ _ _ _ _

theorem cutComment_sub (c : UInt8) (line : Bytes) : List.Sublist (Spec.Kerl.cutComment c line) line := by
  unfold Spec.Kerl.cutComment
  split
  · exact List.Sublist.refl _
  · exact List.takeWhile_sublist _

end Btcdeb.Proofs.Kerl
