/-
  What a run of operations asks of its signature checker, model side: under C02's model corollaries and, continued for whole
  sessions in Lemmas/SigSession.lean, under the transfer of C03 to the transaction checker (Properties/C03Tx.lean).

  1. Script codes that decode: FindAndDelete of a push pattern keeps a script code decodable (the pattern is one
     complete instruction, so what follows an occurrence is again at an instruction boundary).
  2. What a step asks its checker: `execOpcode` / `step` / `runOps` depend on the `Ctx` only through the queries they
     actually make — ECDSA on script codes derived from `pbegincodehash` by FindAndDelete of signature pushes,
     Schnorr with a 32-byte key and the session's execution data (up to budget and code-separator position),
     `CheckSequence` on non-negative operands.  Two checkers that agree on those queries give the same run
     (`runOps_congr`), provided the script decodes.
-/
import BtcdebProofs.Refine.Run
namespace Btcdeb.Proofs.SigOps
open Btcdeb Btcdeb.Model Btcdeb.Refine Btcdeb.Proofs.Sighash

theorem pushOf_length_gt (b : Bytes) : b.length < (Spec.pushOf b).length := by
  unfold Spec.pushOf; repeat' split
  all_goals simp [leFixed_length]
  all_goals omega

theorem parses_deleteAt (sig : Bytes) : ∀ (fuel : Nat) (s : Bytes), Parses s → s.length < 2 ^ 32 →
    Parses (Spec.deleteAt fuel (Spec.pushOf sig) s).1 ∧ (Spec.deleteAt fuel (Spec.pushOf sig) s).1.length ≤ s.length := by
  intro fuel
  induction fuel with
  | zero => intro s hp _; exact ⟨hp, Nat.le_refl _⟩
  | succ f ih =>
    intro s hp hl
    have hne : Spec.pushOf sig ≠ [] := List.ne_nil_of_length_pos (Nat.zero_lt_of_lt (pushOf_length_gt sig))
    by_cases hpre : (Spec.pushOf sig).isPrefixOf s = true
    · -- the pattern is one complete instruction: what follows an occurrence is again at an instruction boundary
      rw [deleteAt_succ_prefix f _ s hne hpre]
      obtain ⟨r, rfl⟩ := List.isPrefixOf_iff_prefix.mp hpre
      have hsig : sig.length < 2 ^ 32 := by
        have := pushOf_length_gt sig
        rw [List.length_append] at hl
        omega
      rw [List.drop_left]
      have := ih r ((parses_decodeOne (decodeOne_lengthPush sig r hsig)).mp hp) (by rw [List.length_append] at hl; omega)
      exact ⟨this.1, Nat.le_trans this.2 (by simp)⟩
    · have hpre' : (Spec.pushOf sig).isPrefixOf s = false := Bool.eq_false_iff.mpr hpre
      rw [deleteAt_succ_noprefix f _ s hne hpre']
      cases hi : instrLen s with
      | none => exact ⟨hp, Nat.le_refl _⟩
      | some t =>
        simp only
        obtain ⟨i, hd, -, hb⟩ := instrLen_eq_some_iff.mp hi
        have := ih (s.drop t) ((parses_decodeOne hd).mp hp) (by simp only [List.length_drop]; omega)
        obtain ⟨w, -, hw, happ⟩ := decodeOne_split hd
        obtain rfl : s.take t = w := List.append_cancel_right ((List.take_append_drop t s).trans hw)
        exact ⟨(parses_decodeOne (happ _)).mpr this.1, by
          have h2 := this.2
          simp only [List.length_drop] at h2
          simp only [List.length_append, List.length_take]; omega⟩

/-- **FindAndDelete keeps script codes decodable.**  For a script code below 2^32 bytes that decodes, the script code
    with every push of `sig` removed decodes (and is not longer). -/
theorem decode_findAndDelete (s sig : Bytes) (hd : Spec.decode s ≠ none) (hl : s.length < 2 ^ 32) :
    Spec.decode (Spec.findAndDelete s (Spec.pushOf sig)).1 ≠ none ∧
      (Spec.findAndDelete s (Spec.pushOf sig)).1.length ≤ s.length := by
  have := parses_deleteAt sig (s.length + 1) s ((parses_iff_decode s).mpr hd) hl
  exact ⟨(parses_iff_decode _).mp this.1, this.2⟩

/-- the fields of `ScriptExecutionData` that no operation changes (everything but the code-separator position and the
    signature budget) -/
abbrev EdStatic := Bool × Bytes × Bool × Bool × Bool × Bytes × Bool × Option Bytes

def edStatic (ed : ExecData) : EdStatic :=
  (ed.tapleafHashInit, ed.tapleafHash, ed.codesepPosInit, ed.annexInit, ed.annexPresent, ed.annexHash, ed.weightInit, ed.outputHash)

theorem edStatic_eq_iff {ed ed' : ExecData} : edStatic ed' = edStatic ed ↔ ed.Moved ed' := by
  constructor
  · intro h
    obtain ⟨_, _, _, _, _, _, _, _, _, _⟩ := ed
    obtain ⟨_, _, _, p, _, _, _, _, w, _⟩ := ed'
    simp only [edStatic, Prod.mk.injEq] at h
    obtain ⟨rfl, rfl, rfl, rfl, rfl, rfl, rfl, rfl⟩ := h
    exact ⟨p, w, rfl⟩
  · rintro ⟨_, _, rfl⟩
    rfl

/-- two checkers agree on every query that a session with signature version `sv` and static execution data `s0` makes:
    the hash functions, `CheckLowS` and `CheckLockTime` everywhere; `CheckSequence` on non-negative operands (the opcode
    refuses negative ones first); ECDSA on script codes that decode (legacy) or on all script codes (segwit v0);
    Schnorr (tapscript) with a 32-byte key and execution data whose static part is `s0`. -/
structure SameOn (cx cx' : Ctx) (sv : SigVersion) (s0 : EdStatic) : Prop where
  sha256 : cx.sha256 = cx'.sha256
  ripemd160 : cx.ripemd160 = cx'.ripemd160
  sha1 : cx.sha1 = cx'.sha1
  checkLowS : cx.checkLowS = cx'.checkLowS
  checkLockTime : cx.checkLockTime = cx'.checkLockTime
  checkSequence : ∀ n : Int, 0 ≤ n → cx.checkSequence n = cx'.checkSequence n
  ecdsa : ∀ sig key code, (sv = .BASE ∧ Spec.decode code ≠ none) ∨ sv = .WITNESS_V0 →
    cx.checkECDSA sig key code sv = cx'.checkECDSA sig key code sv
  schnorr : ∀ sig key ed, sv = .TAPSCRIPT → key.length = 32 → edStatic ed = s0 →
    cx.checkSchnorr sig key sv ed = cx'.checkSchnorr sig key sv ed

/-- what the queries of a session depend on: it is not a key-path context, in a legacy session the current script code
    decodes (and is below 2^32 bytes), and the static part of the execution data is `s0` -/
structure SigInv (e : SEE) (s0 : EdStatic) : Prop where
  sv : e.sigversion ≠ .TAPROOT
  code : e.sigversion = .BASE → Spec.decode e.pbegincodehash ≠ none ∧ e.pbegincodehash.length < 2 ^ 32
  static : edStatic e.execdata = s0

theorem checkSignatureEncoding_congr {cx cx' : Ctx} (h : cx.checkLowS = cx'.checkLowS) (sig : Bytes) (flags : Nat) :
    checkSignatureEncoding cx sig flags = checkSignatureEncoding cx' sig flags := by
  unfold checkSignatureEncoding; rw [h]

/-- a script code an ECDSA query of a legacy / segwit-v0 session may be about: `SameOn` covers it, and (the length bound)
    FindAndDelete keeps it so -/
def Signable (sv : SigVersion) (code : Bytes) : Prop :=
  (sv = .BASE ∧ Spec.decode code ≠ none ∧ code.length < 2 ^ 32) ∨ sv = .WITNESS_V0

theorem SigInv.signable {e : SEE} {s0 : EdStatic} (hi : SigInv e s0) (hsv : e.sigversion = .BASE ∨ e.sigversion = .WITNESS_V0) :
    Signable e.sigversion e.pbegincodehash :=
  hsv.imp (fun hb => ⟨hb, hi.code hb⟩) id

theorem Signable.findAndDelete {sv : SigVersion} {code : Bytes} (h : Signable sv code) (sig : Bytes) :
    Signable sv (findAndDelete code (pushData sig)).1 := by
  refine h.imp (fun ⟨hb, hd, hl⟩ => ?_) id
  have hfd := decode_findAndDelete code sig hd hl
  rw [← findAndDelete_eq, ← pushData_eq] at hfd
  exact ⟨hb, hfd.1, Nat.lt_of_le_of_lt hfd.2 hl⟩

theorem SameOn.ecdsa_signable {cx cx' : Ctx} {sv : SigVersion} {s0 : EdStatic} (h : SameOn cx cx' sv s0) {code : Bytes}
    (hc : Signable sv code) (sig key : Bytes) : cx.checkECDSA sig key code sv = cx'.checkECDSA sig key code sv :=
  h.ecdsa sig key code (hc.imp (fun ⟨hb, hd, _⟩ => ⟨hb, hd⟩) id)

theorem evalChecksigPreTapscript_congr {cx cx' : Ctx} {e : SEE} {s0 : EdStatic} (h : SameOn cx cx' e.sigversion s0) (hi : SigInv e s0)
    (hsv : e.sigversion = .BASE ∨ e.sigversion = .WITNESS_V0) (sig key : Bytes) :
    evalChecksigPreTapscript cx e sig key = evalChecksigPreTapscript cx' e sig key := by
  -- what follows the choice of the script code
  have hq : ∀ code, Signable e.sigversion code →
      (do
        checkSignatureEncoding cx sig e.flags
        checkPubKeyEncoding key e.flags e.sigversion
        let ok := cx.checkECDSA sig key code e.sigversion
        if !ok && hasFlag e.flags Flag.NULLFAIL && sig.length != 0 then fail .SIG_NULLFAIL
        pure ok : M Bool) =
      (do
        checkSignatureEncoding cx' sig e.flags
        checkPubKeyEncoding key e.flags e.sigversion
        let ok := cx'.checkECDSA sig key code e.sigversion
        if !ok && hasFlag e.flags Flag.NULLFAIL && sig.length != 0 then fail .SIG_NULLFAIL
        pure ok : M Bool) := by
    intro code hc
    rw [checkSignatureEncoding_congr h.checkLowS, h.ecdsa_signable hc]
  unfold evalChecksigPreTapscript
  rcases hsv with hb | hw
  · have hbeq : (e.sigversion == SigVersion.BASE) = true := by rw [hb]; decide
    simp only [hbeq, if_true]
    by_cases hf : (decide ((findAndDelete e.pbegincodehash (pushData sig)).2 > 0) && hasFlag e.flags Flag.CONST_SCRIPTCODE) = true
    · simp only [hf, if_true, fail_bind]
    · simp only [hf, Bool.false_eq_true, if_false]
      exact hq _ ((hi.signable (Or.inl hb)).findAndDelete sig)
  · have : (e.sigversion == SigVersion.BASE) = false := by rw [hw]; decide
    simp only [this, Bool.false_eq_true, if_false]
    exact hq _ (hi.signable (Or.inr hw))

theorem evalChecksigTapscript_congr {cx cx' : Ctx} {e : SEE} {s0 : EdStatic} (h : SameOn cx cx' e.sigversion s0) (hi : SigInv e s0)
    (hsv : e.sigversion = .TAPSCRIPT) (sig key : Bytes) :
    evalChecksigTapscript cx e sig key = evalChecksigTapscript cx' e sig key := by
  unfold evalChecksigTapscript
  by_cases h32 : key.length = 32
  · have hk0 : (key.length == 0) = false := by simp [h32]
    have hk32 : (key.length == 32) = true := by simp [h32]
    simp only [hk0, hk32, Bool.false_eq_true, if_false, if_true]
    cases hs : sig.isEmpty
    · simp only [Bool.not_false, if_true]
      by_cases hwi : e.execdata.weightInit = true
      · simp only [hwi, Bool.not_true, Bool.false_eq_true, if_false]
        by_cases hlt : e.execdata.weightLeft - (Gen.VALIDATION_WEIGHT_PER_SIGOP_PASSED : Int) < 0
        · simp only [hlt, if_true, fail_bind]
        · simp only [hlt, if_false, pure_bind]
          -- the one Schnorr query: the budget has been charged, the static part of the execution data is as before
          rw [h.schnorr sig key _ hsv h32 (by rw [← hi.static]; simp [edStatic, hwi])]
      · simp only [hwi, Bool.not_false, if_true, err_bind]
    · simp only [Bool.not_true, Bool.false_eq_true, if_false]
  · have hk32 : (key.length == 32) = false := by simp [h32]
    simp only [hk32, Bool.false_eq_true, if_false]

theorem evalChecksig_congr {cx cx' : Ctx} {e : SEE} {s0 : EdStatic} (h : SameOn cx cx' e.sigversion s0) (hi : SigInv e s0)
    (sig key : Bytes) : evalChecksig cx e sig key = evalChecksig cx' e sig key := by
  unfold evalChecksig
  split
  · rfl
  · have hnt := hi.sv
    cases hsv : e.sigversion with
    | BASE => simp only; rw [evalChecksigPreTapscript_congr h hi (Or.inl hsv)]
    | WITNESS_V0 => simp only; rw [evalChecksigPreTapscript_congr h hi (Or.inr hsv)]
    | TAPROOT => exact absurd hsv hnt
    | TAPSCRIPT => simp only; exact evalChecksigTapscript_congr h hi hsv sig key

theorem multisigLoop_congr {cx cx' : Ctx} {e : SEE} {s0 : EdStatic} (h : SameOn cx cx' e.sigversion s0) {code : Bytes}
    (hc : Signable e.sigversion code) (st : List Bytes) :
    ∀ (nKeys nSigs isig ikey : Nat),
      multisigLoop cx e code st nSigs nKeys isig ikey = multisigLoop cx' e code st nSigs nKeys isig ikey := by
  intro nKeys
  induction nKeys with
  | zero => intro nSigs isig ikey; cases nSigs <;> rfl
  | succ n ih =>
    intro nSigs isig ikey
    cases nSigs with
    | zero => rfl
    | succ m => simp only [multisigLoop, checkSignatureEncoding_congr h.checkLowS, h.ecdsa_signable hc, ih]

private theorem fadBody_post (e : SEE) (E : List Bytes) (base k : Nat) (s : Bytes) (hs : Signable e.sigversion s) :
    Post (fadBody e E base k s) (fun r => Signable e.sigversion r.value) := by
  intro r hr
  unfold fadBody at hr
  cases ht : top E (base + k) with
  | error x => rw [ht] at hr; cases hr
  | ok sig =>
    rw [ht, ok_bind] at hr
    split at hr
    · split at hr
      · cases hr
      · cases hr; exact hs.findAndDelete sig
    · cases hr; exact hs

private theorem msTail_congr {cx cx' : Ctx} {e : SEE} {s0 : EdStatic} (h : SameOn cx cx' e.sigversion s0) (hi : SigInv e s0)
    (hsv : e.sigversion = .BASE ∨ e.sigversion = .WITNESS_V0) (verify : Bool) (K N : Nat) :
    msTail cx e verify K N = msTail cx' e verify K N := by
  unfold msTail
  simp only [Std.Legacy.Range.forIn_eq_forIn_range', Std.Legacy.Range.size, Nat.sub_zero, Nat.add_sub_cancel, Nat.div_one]
  refine bind_congr_ok fun code hcode => ?_
  have hc : Signable e.sigversion code :=
    post_forIn (fadBody e e.stack (2 + K + 1)) _ (fadBody_post e e.stack _) _ _ (hi.signable hsv) code hcode
  simp only [multisigLoop_congr h hc]

private theorem msModel_congr {cx cx' : Ctx} {e : SEE} {s0 : EdStatic} (h : SameOn cx cx' e.sigversion s0) (hi : SigInv e s0)
    (verify : Bool) : msModel cx e verify = msModel cx' e verify := by
  unfold msModel
  by_cases ht : e.sigversion = .TAPSCRIPT
  · have : (e.sigversion == SigVersion.TAPSCRIPT) = true := by rw [ht]; decide
    simp only [this, if_true, fail_bind]
  · have hsv : e.sigversion = .BASE ∨ e.sigversion = .WITNESS_V0 := by
      cases hs : e.sigversion with
      | BASE => exact .inl rfl
      | WITNESS_V0 => exact .inr rfl
      | TAPROOT => exact absurd hs hi.sv
      | TAPSCRIPT => exact absurd hs ht
    simp only [msTail_congr h hi hsv]

/-- **What the `switch` asks of its checker**: the hash functions and `CheckLockTime`; `CheckSequence` on non-negative
    operands (the opcode refuses negative ones first); and what `EvalChecksig` and the body of OP_CHECKMULTISIG ask in this
    environment. -/
theorem execOpcode_congr_of {cx cx' : Ctx} {e : SEE}
    (h1 : cx.sha256 = cx'.sha256) (h2 : cx.ripemd160 = cx'.ripemd160) (h3 : cx.sha1 = cx'.sha1)
    (h4 : cx.checkLockTime = cx'.checkLockTime)
    (hseq : ∀ n : Int, 0 ≤ n → cx.checkSequence n = cx'.checkSequence n)
    (hsig : ∀ sig key, evalChecksig cx e sig key = evalChecksig cx' e sig key)
    (hms : ∀ verify, msModel cx e verify = msModel cx' e verify)
    (op : Opcode) (fExec : Bool) (pc : Bytes) : execOpcode cx e op fExec pc = execOpcode cx' e op fExec pc := by
  obtain ⟨_, _, _, _, _, _, _, _⟩ := cx
  obtain ⟨_, _, _, _, _, _, _, _⟩ := cx'
  dsimp only at hseq
  cases h1; cases h2; cases h3; cases h4
  cases op
  case OP_CHECKSIG | OP_CHECKSIGVERIFY | OP_CHECKSIGADD => dsimp only [execOpcode]; simp only [hsig]
  case OP_CHECKMULTISIG => exact hms false
  case OP_CHECKMULTISIGVERIFY => exact hms true
  case OP_CHECKSEQUENCEVERIFY =>
    dsimp only [execOpcode, M.fail_bind]
    refine ite_congr rfl (fun _ => rfl) fun _ => ite_congr rfl (fun _ => rfl) fun _ => bind_congr_ok fun _ _ =>
      bind_congr_ok fun n _ => ite_congr rfl (fun _ => rfl) fun hn => ?_
    simp only [hseq n (by omega)]
  -- the other arms read the four functions, the same on both sides after the substitution, or nothing
  all_goals rfl

theorem execOpcode_congr {cx cx' : Ctx} {e : SEE} {s0 : EdStatic} (h : SameOn cx cx' e.sigversion s0) (hi : SigInv e s0) :
    ∀ (op : Opcode) (fExec : Bool) (pc : Bytes), execOpcode cx e op fExec pc = execOpcode cx' e op fExec pc :=
  execOpcode_congr_of h.sha256 h.ripemd160 h.sha1 h.checkLockTime h.checkSequence (evalChecksig_congr h hi)
    (msModel_congr h hi)

/-- what an operation leaves of the data the queries of a session are about: the script code stays or moves to the position
    `pc` after an OP_CODESEPARATOR, and the static part of the execution data stays.  This is `Changes` of Lemmas/Frame.lean
    read through `edStatic` (`step_kept`). -/
def SigKept (e1 e : SEE) (pc : Bytes) : Prop :=
  (e1.pbegincodehash = e.pbegincodehash ∨ e1.pbegincodehash = pc) ∧ edStatic e1.execdata = edStatic e.execdata

theorem sigKept_same (e1 e : SEE) (pc : Bytes) (h1 : e1.pbegincodehash = e.pbegincodehash) (h2 : edStatic e1.execdata = edStatic e.execdata) :
    SigKept e1 e pc := ⟨Or.inl h1, h2⟩

theorem step_kept (cx : Ctx) (e : SEE) (pc : Bytes) : Post (step cx e pc) (fun r => SigKept r.1 e r.2) :=
  post_mono (step_changes cx e pc) fun _ hc => ⟨hc.code, edStatic_eq_iff.mpr hc.execdata⟩

/-- `StepScript` consults its checker only inside the `switch`, which it enters only with an opcode above OP_PUSHDATA4 and
    with the environment left by the operation count -/
theorem step_congr_of {cx cx' : Ctx} {e : SEE} {pc : Bytes}
    (h : ∀ g e1, getOp pc = some g → Op.OP_PUSHDATA4 < g.opcode → countOp e g.opcode = .ok e1 →
      execOpcode cx e1 (Opcode.ofNat g.opcode) e.cond.allTrue g.rest = execOpcode cx' e1 (Opcode.ofNat g.opcode) e.cond.allTrue g.rest) :
    step cx e pc = step cx' e pc := by
  cases hg : getOp pc with
  | none => rw [step_none hg, step_none hg]
  | some g =>
    rw [step_eq hg, step_eq hg]
    refine ite_congr rfl (fun _ => rfl) fun _ => bind_congr_ok fun e1 he1 =>
      ite_congr rfl (fun _ => rfl) fun _ => ite_congr rfl (fun _ => rfl) fun _ => ?_
    by_cases hp : g.opcode ≤ Op.OP_PUSHDATA4
    · -- a push, executed or skipped: no push opcode lies in OP_IF..OP_ENDIF
      have h1 : ¬ (Op.OP_IF ≤ g.opcode) := by
        have : Op.OP_PUSHDATA4 < Op.OP_IF := by decide
        omega
      cases e.cond.allTrue <;> simp only [hp, h1, decide_true, decide_false, Bool.true_and, Bool.false_and, Bool.false_or,
        Bool.false_eq_true, if_true, if_false]
    · rw [h g e1 hg (by omega) he1]

theorem step_congr {cx cx' : Ctx} {e : SEE} {s0 : EdStatic} (h : SameOn cx cx' e.sigversion s0) (hi : SigInv e s0) (pc : Bytes) :
    step cx e pc = step cx' e pc :=
  step_congr_of fun _ e1 _ _ he1 => by
    obtain ⟨m, rfl⟩ := countOp_ok_cases he1
    exact execOpcode_congr (e := { e with nOpCount := m }) h ⟨hi.sv, hi.code, hi.static⟩ _ _ _

structure RunInv (e : IEnv) (s0 : EdStatic) : Prop where
  sig : SigInv e.see s0
  pc : Parses e.pc
  len : e.see.sigversion = .BASE → e.pc.length < 2 ^ 32

theorem step_runInv (cx : Ctx) (e : IEnv) (s0 : EdStatic) (hi : RunInv e s0) (see' : SEE) (pc' : Bytes)
    (h : step cx e.see e.pc = .ok (see', pc')) :
    SigInv see' s0 ∧ Parses pc' ∧ pc'.length < e.pc.length ∧ see'.sigversion = e.see.sigversion := by
  obtain ⟨g, hg, rfl, hc⟩ := step_decoded cx e.see e.pc _ h
  have hsv := hc.sigversion
  have hlt := getOp_rest_lt hg
  have hp' : Parses g.rest := (parses_decodeOne (getOp_eq_some_iff.mp hg)).mp hi.pc
  refine ⟨⟨by rw [hsv]; exact hi.sig.sv, ?_, (edStatic_eq_iff.mpr hc.execdata).trans hi.sig.static⟩, hp', hlt, hsv⟩
  intro hb
  rw [hsv] at hb
  -- the script code stays, or restarts behind an OP_CODESEPARATOR: at the new position, which decodes
  rcases hc.code with hk | hk
  · rw [hk]; exact hi.sig.code hb
  · rw [hk]; exact ⟨(parses_iff_decode _).mp hp', by have := hi.len hb; omega⟩

/-- the invariant holds of what `Instance::setup_environment` builds from a script that decodes: the size gate of the
    `InterpreterEnv` constructor gives the length bound -/
theorem runInv_setup {stack : List Bytes} {script : Bytes} {flags : Nat} {sv : SigVersion} {succ : Bytes} {z : Bool}
    {ed : ExecData} {tce : Option Tce} {pm : List (Bytes × Bytes)} {pk : List Bytes} {e0 : IEnv}
    (h : setupEnvironment stack script flags sv succ z ed tce pm pk = .ok e0) (hnk : sv ≠ .TAPROOT) (hscript : Parses script) :
    RunInv e0 (edStatic ed) := by
  obtain ⟨hsz, -, -, rfl⟩ := setupEnvironment_ok h
  have hlen : sv = .BASE → script.length < 2 ^ 32 := by
    rintro rfl
    have h10k : Gen.MAX_SCRIPT_SIZE = 10000 := by decide
    simp only [show (SigVersion.BASE != SigVersion.TAPSCRIPT) = true from rfl, Bool.true_and, decide_eq_false_iff_not] at hsz
    omega
  exact ⟨⟨hnk, fun hb => ⟨(parses_iff_decode _).mp hscript, hlen hb⟩, rfl⟩, hscript, hlen⟩

/-- **Whole run.**  Stepping through a script that decodes gives the same states and the same outcome with two checkers
    that agree on the queries a session makes. -/
theorem runOps_congr (cx cx' : Ctx) (tc : TapCtx) (s0 : EdStatic) :
    ∀ (fuel : Nat) (e : IEnv), e.tce = none → SameOn cx cx' e.see.sigversion s0 → RunInv e s0 →
      runOps cx tc fuel e = runOps cx' tc fuel e := by
  refine runOps_induct cx tc (motive := fun fuel e r => SameOn cx cx' e.see.sigversion s0 → RunInv e s0 →
    r = runOps cx' tc fuel e) ?_ ?_ ?_
  · intro n e _ h0 _ _
    rcases h0 with rfl | hpc
    · rfl
    · cases n <;> simp [runOps, hpc]
  · intro n e x ht hpc hm h hi
    have hne : e.pc.isEmpty = false := by simpa using hpc
    simp only [runOps, hne, Bool.false_eq_true, if_false, stepSession_op cx' tc e ht hne, ← step_congr h hi.sig, hm]
    rfl
  · intro n e r ht hpc hm hlt ih h hi
    have hne : e.pc.isEmpty = false := by simpa using hpc
    obtain ⟨h1, h2, h3, h4⟩ := step_runInv cx e s0 hi r.1 r.2 hm
    simp only [runOps, hne, Bool.false_eq_true, if_false, stepSession_op cx' tc e ht hne, ← step_congr h hi.sig, hm]
    rw [ih (by show SameOn cx cx' r.1.sigversion s0; rw [h4]; exact h)
      ⟨⟨h1.sv, h1.code, h1.static⟩, h2, fun hb => by
        have := hi.len (by rw [← h4]; exact hb)
        show r.2.length < _; omega⟩]
    rfl

end Btcdeb.Proofs.SigOps
