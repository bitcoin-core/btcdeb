/-
  The states `runOps` lists (Refine/Run.lean) are the states a fresh session reaches by 1, 2, 3, … steps
  (`C04.advance`), and the end-of-script step only sets the `done` flag: the link between the refinement theorem
  `C01_trace` (stated on `runOps`) and histories over {step, rewind} (`C04_rewind_exact`, stated on `advance`).
  For sessions of one script; while a successor script is pending the link is `SigOps.visited_runOps` (Lemmas/SigSession.lean).
-/
import Btcdeb
import BtcdebProofs.Refine.Run
import BtcdebProofs.Properties.C04
namespace Btcdeb.Display
open Btcdeb Btcdeb.Model Btcdeb.Refine Btcdeb.Proofs

theorem advance_at_end (cx : Ctx) (tc : TapCtx) (e : IEnv) (ht : e.tce = none) (hp : e.isP2sh = false) (hsu : e.successor = [])
    (hpc : e.pc = []) : ∀ k e', C04.advance cx tc e k = some e' → (k = 0 ∧ e' = e) ∨ (k = 1 ∧ e' = { e with done := true }) := by
  intro k e' h
  cases k with
  | zero => exact Or.inl ⟨rfl, (Option.some.inj h).symm⟩
  | succ k =>
    obtain ⟨_, e1, hs, h⟩ := C04.advance_succ_left_iff.mp h
    rw [stepSession_end cx tc e ht hpc hp hsu] at hs
    split at hs <;> cases hs
    cases k with
    | zero => exact Or.inr ⟨rfl, (Option.some.inj h).symm⟩
    | succ k => cases (C04.advance_succ_left_iff.mp h).1

theorem advance_runOps (cx : Ctx) (tc : TapCtx) : ∀ (fuel : Nat) (e0 : IEnv), e0.tce = none → e0.isP2sh = false → e0.successor = [] →
    (∀ e', (runOps cx tc fuel e0).2 = .ok e' → e'.pc = []) →
    ∀ k e, C04.advance cx tc e0 k = some e →
      (k ≤ (runOps cx tc fuel e0).1.length ∧ (e0 :: (runOps cx tc fuel e0).1)[k]? = some e) ∨
      (k = (runOps cx tc fuel e0).1.length + 1 ∧
        ∃ e', (runOps cx tc fuel e0).2 = .ok e' ∧ e = { e' with done := true }) := by
  refine runOps_induct cx tc (motive := fun _ e0 r => e0.isP2sh = false → e0.successor = [] →
    (∀ e', r.2 = .ok e' → e'.pc = []) → ∀ k e, C04.advance cx tc e0 k = some e →
      (k ≤ r.1.length ∧ (e0 :: r.1)[k]? = some e) ∨
      (k = r.1.length + 1 ∧ ∃ e', r.2 = .ok e' ∧ e = { e' with done := true })) ?_ ?_ ?_
  · intro n e0 ht _ hp hsu hfin k e h
    rcases advance_at_end cx tc e0 ht hp hsu (hfin e0 rfl) k e h with ⟨rfl, rfl⟩ | ⟨rfl, rfl⟩
    · exact Or.inl ⟨Nat.le_refl _, rfl⟩
    · exact Or.inr ⟨rfl, e0, rfl, rfl⟩
  · intro n e0 x ht hpc hm _ _ _ k e h
    cases k with
    | zero => exact Or.inl ⟨Nat.zero_le _, h⟩
    | succ k =>
      obtain ⟨_, e1, hs, _⟩ := C04.advance_succ_left_iff.mp h
      rw [stepSession_op cx tc e0 ht (by simpa using hpc), hm] at hs
      cases hs
  · intro n e0 r ht hpc hm _ ih hp hsu hfin k e h
    cases k with
    | zero => exact Or.inl ⟨Nat.zero_le _, h⟩
    | succ k =>
      obtain ⟨_, e1, hs, h⟩ := C04.advance_succ_left_iff.mp h
      rw [stepSession_op cx tc e0 ht (by simpa using hpc), hm] at hs
      cases hs
      rcases ih hp hsu hfin k e h with ⟨hle, hget⟩ | ⟨hk, hlast⟩
      · exact Or.inl ⟨Nat.succ_le_succ hle, by rw [List.getElem?_cons_succ]; exact hget⟩
      · exact Or.inr ⟨by rw [hk]; rfl, hlast⟩

end Btcdeb.Display
