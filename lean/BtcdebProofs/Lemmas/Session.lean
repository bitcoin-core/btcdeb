/-
  The session model: what a successful `StepScript(InterpreterEnv&)` is (`StepKind`: a step of the taproot commitment,
  an operation, one of the two hand-overs, or the end, each with the whole new state), and that `instRewind` undoes it;
  `Instance::step` and `ContinueScript` in terms of it; the session's P2SH test and the bytes it accepts.
-/
import Btcdeb
import BtcdebProofs.Lemmas.Frame
namespace Btcdeb.Model
open Btcdeb

theorem stepSession_op (cx : Ctx) (tc : TapCtx) (e : IEnv) (ht : e.tce = none) (hp : e.pc.isEmpty = false) :
    stepSession cx tc e =
      (step cx e.see e.pc >>= fun r =>
        pure { e with see := { r.1 with opcodePos := r.1.opcodePos + 1 }, pc := r.2,
                      history := e.snapshot :: e.history, currOpSeq := e.currOpSeq + 1 }) := by
  unfold stepSession
  simp only [ht, hp, Bool.not_false, if_true]

theorem stepSession_commit (cx : Ctx) (tc : TapCtx) {e : IEnv} {t : Tce} (ht : e.tce = some t) :
    stepSession cx tc e =
      match t.iterate tc with
      | (.failed, _) => .error (.script .WITNESS_PROGRAM_MISMATCH)
      | (.processing, t') => .ok { e with tce := some t', currOpSeq := e.currOpSeq + 1 }
      | (.done, t') =>
        .ok { e with tce := none, currOpSeq := e.currOpSeq + 1,
                     see := { e.see with execdata := { e.see.execdata with tapleafHash := t'.leaf, tapleafHashInit := true } } } := by
  unfold stepSession
  rw [ht]
  rfl

theorem stepSession_end (cx : Ctx) (tc : TapCtx) (e : IEnv) (ht : e.tce = none) (hpc : e.pc = []) (hp : e.isP2sh = false)
    (hs : e.successor = []) :
    stepSession cx tc e = if e.see.cond.empty then .ok { e with done := true } else fail .UNBALANCED_CONDITIONAL := by
  unfold stepSession
  simp only [ht, hpc, List.isEmpty_nil, Bool.not_true, Bool.false_eq_true, if_false, hp, hs]
  cases e.see.cond.empty <;> rfl

theorem stepSession_op_ok {cx : Ctx} {tc : TapCtx} {e e' : IEnv} (ht : e.tce = none) (hp : e.pc.isEmpty = false)
    (hs : stepSession cx tc e = .ok e') :
    ∃ see' pc', step cx e.see e.pc = .ok (see', pc') ∧
      e' = { e with see := { see' with opcodePos := see'.opcodePos + 1 }, pc := pc',
                    history := e.snapshot :: e.history, currOpSeq := e.currOpSeq + 1 } := by
  rw [stepSession_op cx tc e ht hp] at hs
  cases hst : step cx e.see e.pc with
  | error x => rw [hst] at hs; cases hs
  | ok r =>
    rw [hst] at hs
    obtain ⟨see', pc'⟩ := r
    refine ⟨see', pc', rfl, ?_⟩
    cases hs; rfl

/-- The successful outcomes of `StepScript(InterpreterEnv&)` (debugger/interpreter.cpp), each with the whole new state.
    `merkle`: `Iterate()` hashed one more path node; only the running hash and the path index move.
    `tweak`: `Iterate()` checked the tweak; the commitment phase ends and the leaf hash goes into the execution data.
    `op`: one `StepScript` of the interpreter, on the instruction `g` decoded at the position; the old state goes to the history.
    `redeem`: end of a P2SH scriptPubKey; the top of the saved stack becomes the script.
    `successor`: end of the scriptSig; the scriptPubKey becomes the script.
    `finish`: end of the last script; it alone leaves `currOpSeq`, every other kind advances it by one.
    Of what the cascade has tested on the way, `redeem` and `finish` leave out that no conditional is open
    (`cond.empty`; `stepSession_end` has it for `finish`), `redeem` also the true top of the stack and `isPayToScriptHash`. -/
inductive StepKind (cx : Ctx) (tc : TapCtx) (e : IEnv) : IEnv → Prop
  | merkle (t : Tce) (k' : Bytes) : e.tce = some t → t.i < t.pathLen →
      StepKind cx tc e { e with tce := some { t with k := k', i := t.i + 1 }, currOpSeq := e.currOpSeq + 1 }
  | tweak (t : Tce) : e.tce = some t → ¬ t.i < t.pathLen →
      StepKind cx tc e { e with tce := none, currOpSeq := e.currOpSeq + 1,
                                see := { e.see with execdata := { e.see.execdata with tapleafHash := t.leaf, tapleafHashInit := true } } }
  | op (g : GotOp) (see' : SEE) : e.tce = none → e.pc ≠ [] → getOp e.pc = some g → step cx e.see e.pc = .ok (see', g.rest) →
      Changes e.see see' g.rest →
      StepKind cx tc e { e with see := { see' with opcodePos := see'.opcodePos + 1 }, pc := g.rest,
                                history := e.snapshot :: e.history, currOpSeq := e.currOpSeq + 1 }
  | redeem (r : Bytes) : e.tce = none → e.pc = [] → e.isP2sh = true →
      (e.sigscriptExecuted && !e.sigscriptPushonly) = false → e.p2shStack.getLast? = some r →
      StepKind cx tc e { e with isP2sh := false,
                                see := { e.see with stack := e.p2shStack.dropLast, script := r, pbegincodehash := r, nOpCount := 0, altstack := [] },
                                pc := r, currOpSeq := e.currOpSeq + 1 }
  | successor : e.tce = none → e.pc = [] → e.see.cond.empty = true → e.isP2sh = false → e.successor ≠ [] →
      e.successor.length ≤ Gen.MAX_SCRIPT_SIZE →
      StepKind cx tc e { e with sigscriptExecuted := true, sigscriptPushonly := isPushOnly e.see.script,
                                see := { e.see with script := e.successor, pbegincodehash := e.successor, nOpCount := 0, altstack := [] },
                                successor := [], pc := e.successor, currOpSeq := e.currOpSeq + 1,
                                isP2sh := p2shPattern e.see.flags e.successor,
                                p2shStack := if p2shPattern e.see.flags e.successor then e.see.stack else e.p2shStack }
  | finish : e.tce = none → e.pc = [] → e.isP2sh = false → e.successor = [] → StepKind cx tc e { e with done := true }

/-- inversion of `stepSession`, following its `if` cascade in source order -/
theorem stepSession_kind {cx : Ctx} {tc : TapCtx} {e e' : IEnv} (hs : stepSession cx tc e = .ok e') : StepKind cx tc e e' := by
  cases ht : e.tce with
  | some t =>
    rw [stepSession_commit cx tc ht] at hs
    simp only [Tce.iterate] at hs
    by_cases hlt : t.i < t.pathLen
    · rw [if_pos hlt] at hs
      cases hs
      exact .merkle t _ ht hlt
    · rw [if_neg hlt] at hs
      by_cases hc : tc.checkTapTweak t.q t.p t.k (byteAt t.control 0 % 2 == 1) = true
      · rw [if_pos hc] at hs; cases hs; exact .tweak t ht hlt
      · rw [if_neg hc] at hs; cases hs
  | none =>
    by_cases hp : e.pc.isEmpty = true
    · have hpc : e.pc = [] := List.isEmpty_iff.mp hp
      unfold stepSession at hs
      simp only [ht, hp, Bool.not_true, Bool.false_eq_true, if_false] at hs
      -- `simp only [ht]` also rewrote the `tce` field of the results: `rw [← ht]` below puts it back
      by_cases hce : (!e.see.cond.empty) = true
      · rw [if_pos hce] at hs; cases hs
      rw [if_neg hce] at hs
      by_cases hisp : e.isP2sh = true
      · rw [if_pos hisp] at hs
        rcases hl : e.see.stack.getLast? with _ | top <;> rw [hl] at hs <;> simp only at hs
        · cases hs
        by_cases hcb : (!castToBool top) = true
        · rw [if_pos hcb] at hs; cases hs
        rw [if_neg hcb] at hs
        by_cases hps : isPayToScriptHash e.see.script = true
        · rw [if_pos hps] at hs
          by_cases hpo : (e.sigscriptExecuted && !e.sigscriptPushonly) = true
          · rw [if_pos hpo] at hs; cases hs
          rw [if_neg hpo] at hs
          rcases hr : e.p2shStack.getLast? with _ | r <;> rw [hr] at hs <;> simp only at hs <;> cases hs
          rw [← ht]
          exact .redeem r ht hpc hisp (Bool.eq_false_iff.mpr hpo) hr
        · rw [if_neg hps] at hs; cases hs
      · rw [if_neg hisp] at hs
        by_cases hsne : (!e.successor.isEmpty) = true
        · rw [if_pos hsne] at hs
          by_cases hsz : e.successor.length > Gen.MAX_SCRIPT_SIZE
          · rw [if_pos hsz] at hs; cases hs
          rw [if_neg hsz] at hs
          cases hs
          rw [← ht]
          exact .successor ht hpc (by simpa using hce) (by simpa using hisp) (by simpa using hsne) (by omega)
        · rw [if_neg hsne] at hs
          cases hs
          rw [← ht]
          exact .finish ht hpc (by simpa using hisp) (by simpa using hsne)
    · have hne : e.pc.isEmpty = false := by simpa using hp
      obtain ⟨see', pc', hst, rfl⟩ := stepSession_op_ok ht hne hs
      obtain ⟨g, hg, rfl, hch⟩ := step_decoded cx _ _ _ hst
      exact .op g see' ht (by simpa using hp) hg hst hch

theorem stepSession_flags_succ {cx : Ctx} (tc : TapCtx) {e e' : IEnv} (hs : stepSession cx tc e = .ok e') :
    e'.see.flags = e.see.flags ∧ (e'.successor = e.successor ∨ e'.successor = []) := by
  cases stepSession_kind hs with
  | op g see' _ _ _ _ hch => exact ⟨hch.flags, Or.inl rfl⟩
  | successor => exact ⟨rfl, Or.inr rfl⟩
  | _ => exact ⟨rfl, Or.inl rfl⟩

theorem instStep_eq_ok {cx : Ctx} {tc : TapCtx} {e e' : IEnv} :
    instStep cx tc e = .ok e' ↔ e.done = false ∧ stepSession cx tc e = .ok e' := by
  unfold instStep
  cases e.done <;> simp

/-- what rewind-exactness (`stepSession_rewind`) needs of a session: the position lies inside the script, so that after
    an operation it is not the start; and the steps of the taproot commitment, which leave no history entry, are taken
    at the start of the script, where a rewind is refused -/
structure IEnv.Inv (e : IEnv) : Prop where
  pcLe : e.pc.length ≤ e.see.script.length
  tceStart : e.tce.isSome = true → atStart e = true

theorem atStart_iff (e : IEnv) : atStart e = true ↔ e.pc.length = e.see.script.length := by
  simp [atStart]

theorem instRewind_of_atStart {e : IEnv} (h : atStart e = true) : instRewind e = none := by
  simp [instRewind, h]

/-- a state at the start of its script, as `setup_environment` and the two hand-overs leave it -/
theorem IEnv.Inv.of_start {e : IEnv} (h : e.pc = e.see.script) : e.Inv ∧ atStart e = true :=
  have hat : atStart e = true := (atStart_iff e).mpr (by rw [h])
  ⟨⟨by rw [h]; exact Nat.le_refl _, fun _ => hat⟩, hat⟩

theorem stepSession_rewind (cx : Ctx) (tc : TapCtx) (ep e : IEnv) (hinv : ep.Inv) (hnd : ep.done = false)
    (hs : stepSession cx tc ep = .ok e) :
    e.Inv ∧ ((atStart e = true ∧ instRewind e = none) ∨ instRewind e = some ep) := by
  have fresh : ∀ e : IEnv, e.pc = e.see.script → e.Inv ∧ ((atStart e = true ∧ instRewind e = none) ∨ instRewind e = some ep) :=
    fun e h => have ⟨hi, hat⟩ := IEnv.Inv.of_start h
      ⟨hi, .inl ⟨hat, instRewind_of_atStart hat⟩⟩
  cases stepSession_kind hs with
  | merkle t k' ht _ =>
    have hat : atStart ep = true := hinv.tceStart (by rw [ht]; rfl)
    exact ⟨⟨hinv.pcLe, fun _ => hat⟩, .inl ⟨hat, instRewind_of_atStart hat⟩⟩
  | tweak t ht _ =>
    have hat : atStart ep = true := hinv.tceStart (by rw [ht]; rfl)
    exact ⟨⟨hinv.pcLe, nofun⟩, .inl ⟨hat, instRewind_of_atStart hat⟩⟩
  | redeem r _ _ _ _ _ => exact fresh _ rfl
  | successor _ _ _ _ _ _ => exact fresh _ rfl
  | finish ht hpc _ _ =>
    -- only `done` changed, and an accepted rewind clears it again
    refine ⟨⟨hinv.pcLe, fun h => by rw [ht] at h; cases h⟩, ?_⟩
    by_cases hat : atStart ep = true
    · exact .inl ⟨hat, instRewind_of_atStart hat⟩
    · refine .inr ?_
      unfold instRewind
      rw [if_neg (show ¬ atStart { ep with done := true } = true from hat), if_pos rfl]
      cases ep
      cases hnd
      rfl
  | op g see' ht _ hg _ hch =>
    -- the position moved forward, so it is not the start; the history entry restores what the operation changed,
    -- and the operation changed nothing else (the frame)
    have hlt := getOp_rest_lt hg
    have hle := hinv.pcLe
    have hfr := hch.frame
    simp only [SEE.frame, Prod.mk.injEq] at hfr
    obtain ⟨h1, h2, h3, h4, h5, h6, h7, h8⟩ := hfr
    have hl : see'.script.length = ep.see.script.length := congrArg _ h1
    have hns : ∀ e : IEnv, e.pc = g.rest → e.see.script = see'.script → ¬ atStart e = true :=
      fun e hp hs => by rw [atStart_iff, hp, hs]; omega
    refine ⟨⟨by show g.rest.length ≤ see'.script.length; omega, fun h => by rw [ht] at h; cases h⟩, .inr ?_⟩
    unfold instRewind
    rw [if_neg (hns _ rfl rfl), if_neg (by rw [hnd]; exact Bool.false_ne_true)]
    obtain ⟨⟨script, pbegincodehash, cond, stack, altstack, nOpCount, flags, sigversion, requireMinimal, allowDisabled,
      opcodePos, execdata, pretendMap, pretendKeys⟩, pc, history, currOpSeq, operational, done, isP2sh, p2shStack,
      successor, tce⟩ := ep
    simp only at h1 h2 h3 h4 h5 h6 h7 h8
    subst h1 h2 h3 h4 h5 h6 h7
    simp only [IEnv.snapshot, Int.add_sub_cancel]

theorem continue_done (cx : Ctx) (tc : TapCtx) (n : Nat) (e : IEnv) (h : e.done = true) :
    continueScript cx tc n e = .ok e := by
  cases n with
  | zero => rfl
  | succ n => simp [continueScript, h]; rfl

theorem continue_succ (cx : Ctx) (tc : TapCtx) (n : Nat) (e : IEnv) (h : e.done = false) :
    continueScript cx tc (n + 1) e = (stepSession cx tc e >>= continueScript cx tc n) := by
  simp [continueScript, h]

theorem byteAt_beq (s : Bytes) (i v : Nat) (hv : 0 < v) (hv2 : v < 256) :
    (byteAt s i == v) = (s[i]? == some (UInt8.ofNat v)) := by
  unfold byteAt
  cases h : s[i]? with
  | none => simp; omega
  | some b =>
    simp only [Option.map_some, Option.getD_some]
    by_cases hb : b.toNat = v
    · have : b = UInt8.ofNat v := by apply UInt8.toNat_inj.mp; simp [hb]; omega
      subst this; simp; omega
    · have : ¬ b = UInt8.ofNat v := by intro hc; apply hb; rw [hc]; simp; omega
      have h1 : (b.toNat == v) = false := by simpa using hb
      have h2 : (some b == some (UInt8.ofNat v)) = false := by simpa using this
      rw [h1, h2]

/-- the session's P2SH test (debugger/interpreter.cpp:102-109, 253-259) is the flag and `IsPayToScriptHash`,
    which is what the listing construction tests (btcdeb.cpp:331, functions.cpp:104) -/
theorem p2shPattern_eq (flags : Nat) (s : Bytes) :
    p2shPattern flags s = (hasFlag flags Flag.P2SH && isPayToScriptHash s) := by
  unfold p2shPattern isPayToScriptHash
  rw [byteAt_beq s 0 _ (by decide) (by decide), byteAt_beq s 1 20 (by decide) (by decide), byteAt_beq s 22 _ (by decide) (by decide)]
  simp [Bool.and_assoc, Op.OP_HASH160, Op.OP_EQUAL]

theorem p2shPattern_nil (flags : Nat) : p2shPattern flags [] = false := by
  simp [p2shPattern]

theorem _root_.Btcdeb.Proofs.Shapes.isP2SH_form (spk : Bytes) (h : Spec.isP2SH spk = true) :
    ∃ hh, spk = 0xa9 :: 0x14 :: (hh ++ [0x87]) ∧ hh.length = 20 := by
  unfold Spec.isP2SH at h
  simp only [Bool.and_eq_true, beq_iff_eq] at h
  obtain ⟨⟨⟨hl, h0⟩, h1⟩, h22⟩ := h
  match spk, hl, h0, h1, h22 with
  | a :: b :: rest, hl, h0, h1, h22 =>
    simp only [List.getElem?_cons_zero, Option.some.injEq] at h0
    simp only [List.getElem?_cons_succ, List.getElem?_cons_zero, Option.some.injEq] at h1
    simp only [List.getElem?_cons_succ] at h22
    simp only [List.length_cons] at hl
    have hrl : rest.length = 21 := by omega
    have hne : rest ≠ [] := by intro h'; rw [h'] at hrl; simp at hrl
    have hlast : rest.getLast hne = 0x87 := by
      have : rest.getLast? = some 0x87 := by rw [List.getLast?_eq_getElem?, hrl]; exact h22
      rw [List.getLast?_eq_some_getLast hne] at this
      exact Option.some.inj this
    refine ⟨rest.dropLast, ?_, by simp [hrl]⟩
    rw [h0, h1]
    congr 2
    rw [← hlast]
    exact (List.dropLast_concat_getLast hne).symm

theorem p2shPattern_form {flags : Nat} {s : Bytes} (h : p2shPattern flags s = true) :
    ∃ hh, s = 0xa9 :: 0x14 :: (hh ++ [0x87]) ∧ hh.length = 20 :=
  Proofs.Shapes.isP2SH_form s (by rw [p2shPattern_eq] at h; exact (Bool.and_eq_true_iff.mp h).2)

end Btcdeb.Model
