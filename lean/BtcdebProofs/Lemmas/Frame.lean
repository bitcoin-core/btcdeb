/-
  Hoare-style postconditions for the model's `M` monad, and what one operation may change in the environment:
  the stacks and the operation count freely; the script code, the condition stack and the execution data in a few
  fixed ways; nothing else (script, flags, signature version, `requireMinimal`, `allowDisabled`, mock-signature tables,
  opcode position: the frame).
  Proved once, syntax-directed over the model's do-blocks; the single invariants are read off it.
-/
import Btcdeb
import BtcdebProofs.Refine.Equations
import BtcdebProofs.Lemmas.Except
namespace Btcdeb.Model
open Btcdeb

/-- every successful result of `m` satisfies `P`.  A theorem `hpost : Post m P` is a `∀` and is used by applying it:
    `hpost a h : P a` for `h : m = .ok a`. -/
def Post {α} (m : M α) (P : α → Prop) : Prop := ∀ a, m = .ok a → P a

theorem post_bind {α β} {x : M α} {f : α → M β} {P : β → Prop} (Q : α → Prop)
    (hx : Post x Q) (hf : ∀ a, Q a → Post (f a) P) : Post (x >>= f) P := by
  intro b hb
  cases x with
  | error _ => cases hb
  | ok a => exact hf a (hx a rfl) b hb
theorem post_bind_ok {α β} {x : M α} {f : α → M β} {P : β → Prop} (hf : ∀ a, x = .ok a → Post (f a) P) :
    Post (x >>= f) P :=
  post_bind (fun a => x = .ok a) (fun _ h => h) hf
theorem post_fail {α} (x : ScriptError) (P : α → Prop) : Post (fail x) P := by intro a h; cases h
theorem post_error {α} (x : StepErr) (P : α → Prop) : Post (.error x : M α) P := by intro a h; cases h
theorem post_pure {α} (a : α) (P : α → Prop) (h : P a) : Post (pure a) P := by intro b hb; cases hb; exact h
theorem post_ok {α} (a : α) (P : α → Prop) (h : P a) : Post (.ok a : M α) P := by intro b hb; cases hb; exact h
theorem post_ite {α} (c : Prop) [Decidable c] (a b : M α) (P : α → Prop) (ha : Post a P) (hb : Post b P) :
    Post (if c then a else b) P := by
  split <;> assumption
theorem post_forIn {α β} (body : α → β → M (ForInStep β)) (P : β → Prop)
    (hb : ∀ a b, P b → Post (body a b) (fun r => P r.value)) (l : List α) (init : β) (hi : P init) :
    Post (forIn l init body) P := by
  induction l generalizing init with
  | nil => exact post_pure _ _ hi
  | cons a l ih =>
    rw [List.forIn_cons]
    refine post_bind _ (hb a init hi) fun r hr => ?_
    cases r with
    | done b => exact post_pure _ _ hr
    | yield b => exact ih b hr
theorem post_mono {α} {m : M α} {P Q : α → Prop} (h : Post m P) (hpq : ∀ a, P a → Q a) : Post m Q :=
  fun a ha => hpq a (h a ha)
theorem post_sizeCheck (e : SEE) (P : SEE → Prop) (h : P e) : Post (sizeCheck e) P :=
  post_ite _ _ _ _ (post_fail _ _) (post_pure _ _ h)
theorem post_countOp (e : SEE) (n : Nat) : Post (countOp e n) (fun e1 => ∃ m, e1 = { e with nOpCount := m }) :=
  fun _ h => Refine.countOp_ok_cases h

theorem step_push_exec {cx : Ctx} {e : SEE} {pc : Bytes} {g : GotOp} (hg : getOp pc = some g)
    (hle : g.opcode ≤ Op.OP_PUSHDATA4) (hf : e.cond.allTrue = true) :
    Post (step cx e pc) (fun r => ∃ n, r = ({ e with nOpCount := n, stack := e.stack ++ [g.data] }, g.rest)) := by
  rw [Refine.step_eq hg]
  refine post_ite _ _ _ _ (post_fail _ _) (post_bind_ok fun e1 h1 =>
    post_ite _ _ _ _ (post_fail _ _) (post_ite _ _ _ _ (post_fail _ _) ?_))
  obtain ⟨n, rfl⟩ := Refine.countOp_ok_cases h1
  rw [if_pos (by rw [hf, decide_eq_true hle]; rfl)]
  exact post_ite _ _ _ _ (post_fail _ _) (post_bind _ (post_sizeCheck _ (fun e' => e' = _) rfl) fun e' he' =>
    post_pure _ _ ⟨n, by rw [he']⟩)

/-- Nothing after an error runs.  A `do` block elaborates `if c then fail x` followed by the rest of the block to
    `if c then fail x >>= rest else rest`, with `rest` twice; rewriting with this (and `Btcdeb.error_bind` for an
    error that is not a `fail`) keeps an unfolded block linear in its length. -/
theorem M.fail_bind {α β} (x : ScriptError) (f : α → M β) : fail x >>= f = fail x := rfl

/-- Descent through a `do` block towards a postcondition, by the head of the block: an error satisfies it, a
    conditional if both branches do, a bind if its continuation does on every result `a` of the first action `x`
    (the equation `x = .ok a` stays in the context).  What is left are the last actions of the block. -/
macro "post_descend" : tactic =>
  `(tactic| with_reducible repeat' first
    | exact post_fail _ _ | exact post_error _ _ | apply post_ite | (apply post_bind_ok; intro _ _))

/-- the part of the environment no operation changes -/
def SEE.frame (e : SEE) :=
  (e.script, e.flags, e.sigversion, e.requireMinimal, e.allowDisabled, e.pretendMap, e.pretendKeys, e.opcodePos)

inductive CondStack.Moved (c : CondStack) : CondStack → Prop
  | same : Moved c c
  | push (f : Bool) : Moved c (c.pushBack f)
  | pop : Moved c c.popBack
  | toggle : c.empty = false → Moved c c.toggleTop

def ExecData.Moved (ed ed' : ExecData) : Prop := ∃ p w, ed' = { ed with codesepPos := p, weightLeft := w }

theorem ExecData.Moved.refl (ed : ExecData) : ed.Moved ed := ⟨_, _, rfl⟩
theorem ExecData.Moved.codesep (ed : ExecData) (p : Nat) : ed.Moved { ed with codesepPos := p } := ⟨_, _, rfl⟩

/-- What one operation, decoded up to position `pc`, may change in the environment besides the stacks and the
    operation count: the script code stays or restarts at `pc` (OP_CODESEPARATOR); the condition stack and the
    execution data move as above. -/
structure Changes (e e' : SEE) (pc : Bytes) : Prop where
  frame : e'.frame = e.frame
  code : e'.pbegincodehash = e.pbegincodehash ∨ e'.pbegincodehash = pc
  cond : e.cond.Moved e'.cond
  execdata : e.execdata.Moved e'.execdata

namespace Changes
variable {e e' : SEE} {pc : Bytes}

theorem refl : Changes e e pc := ⟨rfl, .inl rfl, .same, .refl _⟩

theorem stacks (s a : List Bytes) (n : Nat) : Changes e { e with stack := s, altstack := a, nOpCount := n } pc :=
  ⟨rfl, .inl rfl, .same, .refl _⟩

theorem conds (s : List Bytes) {c : CondStack} (h : e.cond.Moved c) : Changes e { e with stack := s, cond := c } pc :=
  ⟨rfl, .inl rfl, h, .refl _⟩

theorem exec (s : List Bytes) {ed : ExecData} (h : e.execdata.Moved ed) :
    Changes e { e with stack := s, execdata := ed } pc :=
  ⟨rfl, .inl rfl, .same, h⟩

theorem script (h : Changes e e' pc) : e'.script = e.script := congrArg (·.1) h.frame
theorem flags (h : Changes e e' pc) : e'.flags = e.flags := congrArg (·.2.1) h.frame
theorem sigversion (h : Changes e e' pc) : e'.sigversion = e.sigversion := congrArg (·.2.2.1) h.frame

theorem of_nOpCount {n : Nat} (h : Changes { e with nOpCount := n } e' pc) : Changes e e' pc :=
  ⟨h.frame, h.code, h.cond, h.execdata⟩

end Changes

theorem stepExtended_changes (e : SEE) (op : Opcode) (pc : Bytes) :
    Post (stepExtended e op) (fun e' => Changes e e' pc) := by
  cases op <;> dsimp only [stepExtended, M.fail_bind] <;> post_descend
  all_goals exact post_pure _ _ (.stacks ..)

theorem evalChecksigTapscript_execdata (cx : Ctx) (e : SEE) (sig key : Bytes) :
    Post (evalChecksigTapscript cx e sig key) (fun r => e.execdata.Moved r.2) := by
  simp only [evalChecksigTapscript, M.fail_bind, Btcdeb.error_bind, pure_bind]
  post_descend
  all_goals exact post_pure _ _ ⟨_, _, rfl⟩

theorem evalChecksig_execdata (cx : Ctx) (e : SEE) (sig key : Bytes) :
    Post (evalChecksig cx e sig key) (fun r => e.execdata.Moved r.2) := by
  unfold evalChecksig
  refine post_ite _ _ _ _ (post_pure _ _ (.refl _)) ?_
  split
  · split
    · exact post_pure _ _ (.refl _)
    · exact post_error _ _
  · exact post_bind_ok fun _ _ => post_pure _ _ (.refl _)
  · exact post_bind_ok fun _ _ => post_pure _ _ (.refl _)
  · exact evalChecksigTapscript_execdata cx e sig key

theorem execOpcode_changes (cx : Ctx) (e : SEE) (op : Opcode) (fExec : Bool) (pc : Bytes) :
    Post (execOpcode cx e op fExec pc) (fun e' => Changes e e' pc) := by
  cases op <;> dsimp only [execOpcode, M.fail_bind]
  case OP_IF | OP_NOTIF =>
    post_descend
    all_goals exact post_sizeCheck _ _ (.conds _ (.push _))
  case OP_ELSE =>
    split
    · exact post_fail _ _
    · exact post_sizeCheck _ _ (.conds _ (.toggle (Bool.eq_false_iff.mpr ‹_›)))
  case OP_ENDIF => exact post_ite _ _ _ _ (post_fail _ _) (post_sizeCheck _ _ (.conds _ .pop))
  case OP_CODESEPARATOR => exact post_sizeCheck _ _ ⟨rfl, .inr rfl, .same, .codesep ..⟩
  case OP_CHECKSIG | OP_CHECKSIGVERIFY | OP_CHECKSIGADD =>
    post_descend
    all_goals exact post_sizeCheck _ _ (.exec _ (evalChecksig_execdata _ _ _ _ _ ‹_›))
  case OP_CAT | OP_SUBSTR | OP_LEFT | OP_RIGHT | OP_INVERT | OP_AND | OP_OR | OP_XOR | OP_2MUL | OP_2DIV | OP_MUL | OP_DIV
      | OP_MOD | OP_LSHIFT | OP_RSHIFT => exact stepExtended_changes e _ pc
  -- every other opcode ends in `sizeCheck` of `e` with other stacks (OP_CHECKMULTISIG: and another operation count)
  all_goals post_descend
  all_goals exact post_sizeCheck _ _ (.stacks _ _ _)

theorem step_decoded (cx : Ctx) (e : SEE) (pc : Bytes) :
    Post (step cx e pc) (fun r => ∃ g, getOp pc = some g ∧ r.2 = g.rest ∧ Changes e r.1 g.rest) := by
  unfold step
  split
  · exact post_fail _ _
  · rename_i g hg
    refine post_ite _ _ _ _ (post_fail _ _) (post_bind _ (post_countOp e _) ?_)
    rintro _ ⟨n, rfl⟩
    have last : ∀ m : M SEE, Post m (fun e' => Changes { e with nOpCount := n } e' g.rest) →
        Post (m >>= fun e' => pure (e', g.rest)) (fun r => ∃ g, getOp pc = some g ∧ r.2 = g.rest ∧ Changes e r.1 g.rest) :=
      fun m hm => post_bind _ hm fun e' he' => post_pure _ _ ⟨g, hg, rfl, he'.of_nOpCount⟩
    refine post_ite _ _ _ _ (post_fail _ _) (post_ite _ _ _ _ (post_fail _ _) (post_ite _ _ _ _ ?_ (post_ite _ _ _ _ ?_ ?_)))
    · exact post_ite _ _ _ _ (post_fail _ _) (last _ (post_sizeCheck _ _ (.stacks _ _ _)))
    · exact last _ (execOpcode_changes cx _ _ _ _)
    · exact last _ (post_sizeCheck _ _ .refl)

theorem step_changes (cx : Ctx) (e : SEE) (pc : Bytes) : Post (step cx e pc) (fun r => Changes e r.1 r.2) :=
  post_mono (step_decoded cx e pc) fun _ ⟨_, _, h, hc⟩ => h ▸ hc

theorem step_pc (cx : Ctx) (e : SEE) (pc : Bytes) : Post (step cx e pc) (fun r => r.2.length < pc.length) :=
  post_mono (step_decoded cx e pc) fun _ ⟨_, hg, h, _⟩ => h ▸ getOp_rest_lt hg

/-- for a single field use `(step_changes cx e pc _ h).flags` / `.script` / `.sigversion` -/
theorem step_frame {cx : Ctx} {e e' : SEE} {pc pc' : Bytes} (h : step cx e pc = .ok (e', pc')) :
    e'.frame = e.frame := (step_changes cx e pc _ h).frame
