/-
  The BIP341 specification functions (`Spec/Taproot.lean`) in the library's terms (`<` on lists, `List.scanl`, a map over
  `List.range`), and `controlRoot`, the Merkle root a control block commits a script to: through it both the debugger's
  check (`Lemmas/Tce.lean`, C05) and `tap`'s control blocks (C06) meet `bip341Valid`.  BIP341's path table
  (`Spec/TapTree.lean`) is sound: the control block made of an entry verifies (`controlBlock_valid`).
-/
import Btcdeb.Spec.TapTree
import Btcdeb.Model.Session
namespace Btcdeb.Proofs.TapTree
open Btcdeb Btcdeb.Spec

theorem lexLt_eq_bytesLt (a b : Bytes) : Model.lexLt a b = bytesLt a b := by
  induction a generalizing b with
  | nil => cases b <;> rfl
  | cons x xs ih =>
    cases b with
    | nil => rfl
    | cons y ys =>
      simp only [Model.lexLt, bytesLt, ih]
      by_cases h1 : x.toNat < y.toNat
      · simp [h1]
      · by_cases h2 : y.toNat < x.toNat
        · have : ¬ x.toNat = y.toNat := by omega
          simp [h1, h2, this]
        · have : x.toNat = y.toNat := by omega
          simp [this]

theorem bytesLt_iff_lt : ∀ {a b : Bytes}, bytesLt a b = true ↔ a < b
  | [], [] => by simp [bytesLt]
  | [], _ :: _ => by simp [bytesLt]
  | _ :: _, [] => by simp [bytesLt]
  | x :: xs, y :: ys => by
    rw [bytesLt, List.cons_lt_cons_iff, Bool.or_eq_true, Bool.and_eq_true, decide_eq_true_eq, beq_iff_eq,
      bytesLt_iff_lt, UInt8.lt_iff_toNat_lt, UInt8.toNat_inj]

theorem tapBranchHash_comm (o : TapOracle) (a b : Bytes) : tapBranchHash o a b = tapBranchHash o b a := by
  unfold tapBranchHash
  by_cases h1 : a < b
  · rw [if_pos (bytesLt_iff_lt.2 h1), if_neg (mt bytesLt_iff_lt.1 (List.lt_asymm h1))]
  · by_cases h2 : b < a
    · rw [if_neg (mt bytesLt_iff_lt.1 h1), if_pos (bytesLt_iff_lt.2 h2)]
    · cases List.le_antisymm (List.not_lt.1 h2) (List.not_lt.1 h1); rfl

/-- length, elements by index and last element of the chain are `List.scanl`'s lemmas -/
theorem merkleChain_eq_scanl (o : TapOracle) : ∀ (ns : List Bytes) (l : Bytes),
    merkleChain o l ns = ns.scanl (tapBranchHash o) l
  | [], _ => rfl
  | n :: rest, l => by rw [merkleChain, merkleChain_eq_scanl o rest, List.scanl_cons]

theorem merkleChain_getLastD_eq_foldl (o : TapOracle) (x : Bytes) (p : List Bytes) :
    (merkleChain o x p).getLastD [] = p.foldl (tapBranchHash o) x := by
  rw [merkleChain_eq_scanl, List.getLastD_eq_getLast?, List.getLast?_scanl, Option.getD_some]

theorem pathNodes_eq : ∀ (m : Nat) (b : Bytes), 32 * m ≤ b.length →
    pathNodes m b = (List.range m).map fun i => (b.drop (32 * i)).take 32
  | 0, _, _ => rfl
  | m + 1, b, h => by
    rw [pathNodes, if_neg (by omega), pathNodes_eq m _ (by simp only [List.length_drop]; omega), List.range_succ_eq_map]
    simp [Function.comp_def, Nat.mul_add, Nat.add_comm]

theorem pathNodes_length (m : Nat) (b : Bytes) (h : 32 * m ≤ b.length) : (pathNodes m b).length = m := by
  rw [pathNodes_eq m b h, List.length_map, List.length_range]

theorem pathNodes_getElem? (m : Nat) (b : Bytes) (i : Nat) (h : 32 * m ≤ b.length) (hi : i < m) :
    (pathNodes m b)[i]? = some ((b.drop (32 * i)).take 32) := by
  simp [pathNodes_eq m b h, hi]

theorem pathNodes_flatten (p : List Bytes) (h : ∀ x ∈ p, x.length = 32) : pathNodes p.length p.flatten = p := by
  induction p with
  | nil => simp [pathNodes]
  | cons a p ih =>
    have ha : a.length = 32 := h a (by simp)
    have ih' := ih (fun x hx => h x (by simp [hx]))
    simp only [List.length_cons, List.flatten_cons, pathNodes, List.length_append, ha]
    rw [if_neg (by omega)]
    rw [List.take_append_of_le_length (by omega), List.drop_append_of_le_length (by omega)]
    have t : a.take 32 = a := by rw [← ha]; exact List.take_length
    have d : a.drop 32 = [] := by rw [← ha]; exact List.drop_length
    rw [t, d, List.nil_append, ih']

/-- the Merkle root a control block commits a script to: BIP341's TapLeaf hash (leaf version = first byte without its parity
    bit) folded with the whole 32-byte nodes after byte 33 -/
def controlRoot (o : TapOracle) (c s : Bytes) : Bytes :=
  (merkleChain o (tapLeafHash o ((c.headD 0).toNat - (c.headD 0).toNat % 2) s)
    (pathNodes ((c.length - 33) / 32) (c.drop 33))).getLastD []

theorem bip341Valid_eq (o : TapOracle) (c s q : Bytes) :
    bip341Valid o c s q =
      (decide (33 ≤ c.length) && decide (c.length ≤ 33 + 32 * 128) && (c.length - 33) % 32 == 0 &&
        o.tweakCheck q ((c.drop 1).take 32) (o.taggedHash "TapTweak" ((c.drop 1).take 32 ++ controlRoot o c s))
          ((c.headD 0).toNat % 2 == 1)) := rfl

theorem controlRoot_cons (o : TapOracle) (c0 : UInt8) (p : Bytes) (path : List Bytes) (s : Bytes) (hp : p.length = 32)
    (h32 : ∀ x ∈ path, x.length = 32) :
    (c0 :: (p ++ path.flatten)).length = 33 + 32 * path.length ∧ ((c0 :: (p ++ path.flatten)).drop 1).take 32 = p ∧
      controlRoot o (c0 :: (p ++ path.flatten)) s =
        path.foldl (tapBranchHash o) (tapLeafHash o (c0.toNat - c0.toNat % 2) s) := by
  have hlen : (c0 :: (p ++ path.flatten)).length = 33 + 32 * path.length := by
    simp only [List.length_cons, List.length_append, hp, List.length_flatten, List.map_eq_replicate_iff.2 h32,
      List.sum_replicate_nat]
    omega
  refine ⟨hlen, ?_, ?_⟩
  · show (p ++ path.flatten).take 32 = p
    rw [List.take_append_of_le_length (Nat.le_of_eq hp.symm), ← hp, List.take_length]
  · have hd : (c0 :: (p ++ path.flatten)).drop 33 = path.flatten := by
      show (p ++ path.flatten).drop 32 = path.flatten
      rw [List.drop_append_of_le_length (Nat.le_of_eq hp.symm), ← hp, List.drop_length, List.nil_append]
    unfold controlRoot
    rw [hlen, hd, Nat.add_sub_cancel_left, Nat.mul_div_cancel_left _ (by decide), pathNodes_flatten path h32,
      merkleChain_getLastD_eq_foldl]
    rfl

section Tree
variable {o : TapOracle} (h32 : ∀ tag m, (o.taggedHash tag m).length = 32)
include h32

theorem root_length : ∀ T : TapTree, (T.root o).length = 32
  | .leaf _ _ => h32 _ _
  | .branch _ _ => by simp only [TapTree.root, tapBranchHash]; split <;> exact h32 _ _

theorem paths_spec : ∀ {T : TapTree} {v : Nat} {s : Bytes} {p : List Bytes}, (v, s, p) ∈ T.paths o →
    p.foldl (tapBranchHash o) (tapLeafHash o v s) = T.root o ∧ (∀ x ∈ p, x.length = 32) ∧ p.length ≤ T.height
  | .leaf _ _, v, s, p, h => by
    cases List.mem_singleton.1 h
    exact ⟨rfl, (fun _ hx => nomatch hx), Nat.le_refl _⟩
  | .branch l r, v, s, p, h => by
    simp only [TapTree.paths, List.mem_append, List.mem_map, Prod.mk.injEq] at h
    rcases h with ⟨⟨_, _, p'⟩, he, rfl, rfl, rfl⟩ | ⟨⟨_, _, p'⟩, he, rfl, rfl, rfl⟩ <;> obtain ⟨h1, h2, h3⟩ := paths_spec he <;>
      simp only [List.foldl_append, List.foldl_cons, List.foldl_nil, h1, TapTree.root, List.forall_mem_append,
        List.forall_mem_singleton, List.length_append, List.length_singleton, TapTree.height]
    · exact ⟨trivial, ⟨h2, root_length h32 r⟩, by omega⟩
    · exact ⟨tapBranchHash_comm o _ _, ⟨h2, root_length h32 l⟩, by omega⟩

/-- **BIP341, soundness of the path table**: the control block made of an entry of the table (of at most 128 nodes, the
    longest a control block may carry) verifies, with its script, against every output key of the tree's root.  `hc0`: leaf
    version and parity bit come apart again from the first byte (`by cases odd <;> decide` for a concrete even version
    below 255). -/
theorem controlBlock_valid {T : TapTree} {v : Nat} {s : Bytes} {path : List Bytes} (hm : (v, s, path) ∈ T.paths o)
    (hl : path.length ≤ 128) {p q : Bytes} {odd : Bool}
    (hc0 : let c0 := (UInt8.ofNat (v + if odd then 1 else 0)).toNat; c0 - c0 % 2 = v ∧ (c0 % 2 == 1) = odd)
    (hp : p.length = 32) (hq : isOutputKey o p (T.root o) q odd = true) :
    bip341Valid o (controlBlock v odd p path) s q = true := by
  obtain ⟨hroot, hall, _⟩ := paths_spec h32 hm
  obtain ⟨hlen, hint, hcr⟩ := controlRoot_cons o (UInt8.ofNat (v + if odd then 1 else 0)) p path s hp hall
  rw [bip341Valid_eq, show controlBlock v odd p path = _ :: (p ++ path.flatten) from rfl, hint, hcr, List.headD_cons,
    hc0.1, hc0.2, hroot, hlen, show o.tweakCheck q p (o.taggedHash "TapTweak" (p ++ T.root o)) odd = true from hq]
  simp only [Bool.and_true, Bool.and_eq_true, decide_eq_true_eq, beq_iff_eq]
  omega

end Tree

end Btcdeb.Proofs.TapTree
