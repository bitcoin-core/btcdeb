/-
  Positional numerals: value of a digit list (least significant first), canonical numerals (a digit list below the base
  without a zero on top is THE numeral of its value), the multiply-and-add carry loop of base58.cpp in closed form;
  numerals of fixed width (digits below the base are the numeral, of their length, of their value) and byte strings as
  base-256 digits, which Bech32 and ConvertBits rest on.
-/
import Btcdeb.Model.Encodings
import Btcdeb.Spec.Encodings
import BtcdebProofs.Lemmas.ListAux
namespace Btcdeb.Numeral
open Btcdeb ListAux

/-- the value of a digit list read least significant digit first; `Spec.numeralValue` reads most significant first
    (`numeralValue_reverse`, `numeralValue_eq`) -/
def leVal (B : Nat) : List Nat → Nat
  | [] => 0
  | d :: ds => d + B * leVal B ds

theorem numeralValue_append (B : Nat) (ds : List Nat) (d : Nat) :
    Spec.numeralValue B (ds ++ [d]) = Spec.numeralValue B ds * B + d := by
  simp [Spec.numeralValue, List.foldl_append]

theorem numeralValue_reverse (B : Nat) (ds : List Nat) : Spec.numeralValue B ds.reverse = leVal B ds := by
  induction ds with
  | nil => rfl
  | cons d ds ih =>
    rw [List.reverse_cons, numeralValue_append, ih, leVal]
    rw [Nat.mul_comm]; omega

theorem numeralValue_eq (B : Nat) (ds : List Nat) : Spec.numeralValue B ds = leVal B ds.reverse := by
  rw [← numeralValue_reverse, List.reverse_reverse]

/-- every digit is below the base -/
def AllLt (B : Nat) (ds : List Nat) : Prop := ∀ d ∈ ds, d < B

theorem AllLt.tail {B d : Nat} {ds : List Nat} (h : AllLt B (d :: ds)) : AllLt B ds :=
  fun x hx => h x (List.mem_cons_of_mem _ hx)

theorem AllLt.reverse {B : Nat} {ds : List Nat} (h : AllLt B ds) : AllLt B ds.reverse :=
  fun x hx => h x (List.mem_reverse.mp hx)

theorem AllLt.append {B : Nat} {ds es : List Nat} (hd : AllLt B ds) (he : AllLt B es) : AllLt B (ds ++ es) :=
  fun x hx => (List.mem_append.mp hx).elim (hd x) (he x)

theorem AllLt.snoc {B d : Nat} {ds : List Nat} (h : AllLt B ds) (hd : d < B) : AllLt B (ds ++ [d]) :=
  h.append fun _ hx => List.mem_singleton.mp hx ▸ hd

/-- least-significant-first digits whose last (most significant) digit is not zero: together with `AllLt` the canonical
    form of a number, as the carry loop of base58.cpp keeps it (`length` counts the digits in use) -/
def NoTopZero (ds : List Nat) : Prop := ds.getLast? ≠ some 0

theorem extendDigits_eq_numeralLE (B n : Nat) : Model.extendDigits B n = Spec.numeralLE B n := by
  induction n using Nat.strongRecOn with
  | _ n ih =>
    unfold Model.extendDigits Spec.numeralLE
    split
    · rfl
    · rename_i h
      have h1 : n ≠ 0 := fun e => h (Or.inl e)
      have h2 : 2 ≤ B := Nat.le_of_not_lt (fun e => h (Or.inr e))
      rw [ih (n / B) (Nat.div_lt_self (Nat.pos_of_ne_zero h1) h2)]

theorem numeralLE_zero (B : Nat) : Spec.numeralLE B 0 = [] := by rw [Spec.numeralLE, dif_pos (Or.inl rfl)]

theorem numeralLE_of_ne_zero {B n : Nat} (hB : 2 ≤ B) (hn : n ≠ 0) : Spec.numeralLE B n = n % B :: Spec.numeralLE B (n / B) := by
  rw [Spec.numeralLE, dif_neg (by omega)]

theorem noTopZero_cons {x : Nat} {l : List Nat} (h : (l ≠ [] ∧ NoTopZero l) ∨ (l = [] ∧ x ≠ 0)) : NoTopZero (x :: l) := by
  unfold NoTopZero at *
  rw [List.getLast?_cons]
  rcases h with ⟨hne, hn⟩ | ⟨he, hx⟩
  · cases hq : l.getLast? with
    | none => exact absurd (List.getLast?_eq_none_iff.mp hq) hne
    | some y => simp [hq] at hn ⊢; exact hn
  · subst he; simpa using hx

theorem numeralLE_spec (B n : Nat) (hB : 2 ≤ B) :
    leVal B (Spec.numeralLE B n) = n ∧ AllLt B (Spec.numeralLE B n) ∧ NoTopZero (Spec.numeralLE B n) := by
  induction n using Nat.strongRecOn with
  | _ n ih =>
    rw [Spec.numeralLE]
    split
    · rename_i h
      have h0 : n = 0 := h.resolve_right (by omega)
      refine ⟨by simp [leVal, h0], ?_, by simp [NoTopZero]⟩
      intro d hd
      cases hd
    · rename_i h
      have h1 : n ≠ 0 := fun e => h (Or.inl e)
      obtain ⟨iv, il, it⟩ := ih (n / B) (Nat.div_lt_self (Nat.pos_of_ne_zero h1) hB)
      refine ⟨by rw [leVal, iv]; exact Nat.mod_add_div n B, fun d hd => ?_, noTopZero_cons ?_⟩
      · rcases List.mem_cons.mp hd with rfl | e
        · exact Nat.mod_lt _ (by omega)
        · exact il d e
      · by_cases hq : Spec.numeralLE B (n / B) = []
        · -- the quotient has no digits: it is zero, so n < B and n % B = n ≠ 0
          rw [hq] at iv
          have : n < B := (Nat.div_eq_zero_iff.mp iv.symm).resolve_left (by omega)
          exact Or.inr ⟨hq, by rw [Nat.mod_eq_of_lt this]; exact h1⟩
        · exact Or.inl ⟨hq, it⟩

theorem numeralLE_val (B n : Nat) (hB : 2 ≤ B) : leVal B (Spec.numeralLE B n) = n := (numeralLE_spec B n hB).1
theorem numeralLE_allLt (B n : Nat) (hB : 2 ≤ B) : AllLt B (Spec.numeralLE B n) := (numeralLE_spec B n hB).2.1
theorem numeralLE_noTopZero (B n : Nat) (hB : 2 ≤ B) : NoTopZero (Spec.numeralLE B n) := (numeralLE_spec B n hB).2.2

theorem noTopZero_tail {x : Nat} {l : List Nat} (hn : NoTopZero (x :: l)) : NoTopZero l := by
  unfold NoTopZero at *
  rw [List.getLast?_cons] at hn
  cases hq : l.getLast? with
  | none => simp
  | some y => simp [hq] at hn ⊢; exact hn

theorem val_zero_nil (B : Nat) (hB : 1 ≤ B) : ∀ (l : List Nat), NoTopZero l → leVal B l = 0 → l = [] := by
  intro l
  induction l with
  | nil => intros; rfl
  | cons x xs ih =>
    intro hn hv
    simp only [leVal] at hv
    have hx : x = 0 := by omega
    have hxs : leVal B xs = 0 := by
      have : B * leVal B xs = 0 := by omega
      rcases Nat.mul_eq_zero.mp this with h | h
      · omega
      · exact h
    have : xs = [] := ih (noTopZero_tail hn) hxs
    subst this; subst hx
    simp [NoTopZero] at hn

theorem numeralLE_leVal (B : Nat) (hB : 2 ≤ B) : ∀ (ds : List Nat), AllLt B ds → NoTopZero ds → Spec.numeralLE B (leVal B ds) = ds
  | [], _, _ => numeralLE_zero B
  | d :: ds, h, hn => by
    have hd : d < B := h d List.mem_cons_self
    rw [numeralLE_of_ne_zero hB (fun e => nomatch val_zero_nil B (by omega) _ hn e), leVal, Nat.add_mul_mod_self_left,
      Nat.mod_eq_of_lt hd, Nat.add_mul_div_left _ _ (by omega), Nat.div_eq_of_lt hd, Nat.zero_add,
      numeralLE_leVal B hB ds h.tail (noTopZero_tail hn)]

theorem mulAdd_eq (base mul : Nat) (hB : 2 ≤ base) (hm : 1 ≤ mul) : ∀ (ds : List Nat) (carry : Nat), NoTopZero ds →
    Model.mulAdd base mul ds carry = Spec.numeralLE base (carry + mul * leVal base ds)
  | [], carry, _ => by simp [Model.mulAdd, extendDigits_eq_numeralLE, leVal]
  | d :: ds, carry, hn => by
    -- the digits in use do not denote zero, so the numeral on the right has a digit too
    have hv : leVal base (d :: ds) ≠ 0 := fun e => nomatch val_zero_nil base (by omega) _ hn e
    have hne : carry + mul * leVal base (d :: ds) ≠ 0 := by
      have := Nat.mul_pos hm (Nat.pos_of_ne_zero hv); omega
    rw [numeralLE_of_ne_zero hB hne, Model.mulAdd, mulAdd_eq base mul hB hm ds _ (noTopZero_tail hn), leVal, Nat.mul_add,
      ← Nat.add_assoc, Nat.mul_left_comm, Nat.add_mul_mod_self_left, Nat.add_mul_div_left _ _ (by omega)]

theorem mulAdd_length_ge (base mul : Nat) : ∀ (ds : List Nat) (carry : Nat),
    ds.length ≤ (Model.mulAdd base mul ds carry).length := by
  intro ds
  induction ds with
  | nil => intro carry; simp
  | cons d ds ih => intro carry; simp only [Model.mulAdd, List.length_cons]; have := ih ((carry + mul * d) / base); omega

theorem foldl_mulAdd_length_ge (base mul : Nat) (xs : List Nat) : ∀ (acc : List Nat),
    acc.length ≤ (xs.foldl (fun ds x => Model.mulAdd base mul ds x) acc).length := by
  induction xs with
  | nil => intro acc; exact Nat.le_refl _
  | cons x xs ih =>
    intro acc
    exact Nat.le_trans (mulAdd_length_ge base mul acc x) (ih _)

theorem foldl_mulAdd (base mul : Nat) (hB : 2 ≤ base) (hm : 1 ≤ mul) : ∀ (xs : List Nat) (v : Nat),
    xs.foldl (fun ds x => Model.mulAdd base mul ds x) (Spec.numeralLE base v) =
      Spec.numeralLE base (xs.foldl (fun a x => a * mul + x) v)
  | [], _ => rfl
  | x :: xs, v => by
    rw [List.foldl_cons, List.foldl_cons, mulAdd_eq base mul hB hm _ x (numeralLE_noTopZero base v hB), numeralLE_val base v hB,
      Nat.add_comm, Nat.mul_comm, foldl_mulAdd base mul hB hm xs]

theorem foldl_mulAdd_nil (base mul : Nat) (hB : 2 ≤ base) (hm : 1 ≤ mul) (xs : List Nat) :
    xs.foldl (fun ds x => Model.mulAdd base mul ds x) [] = Spec.numeralLE base (Spec.numeralValue mul xs) := by
  rw [← numeralLE_zero base, foldl_mulAdd base mul hB hm]; rfl

theorem numeralValue_numeral (B : Nat) (hB : 2 ≤ B) (n : Nat) : Spec.numeralValue B (Spec.numeral B n) = n := by
  rw [Spec.numeral, numeralValue_reverse, numeralLE_val B n hB]

theorem numeral_allLt (B : Nat) (hB : 2 ≤ B) (n : Nat) : AllLt B (Spec.numeral B n) :=
  (numeralLE_allLt B n hB).reverse

theorem numeral_head (B : Nat) (hB : 2 ≤ B) (n : Nat) : (Spec.numeral B n).head? ≠ some 0 := by
  rw [Spec.numeral, List.head?_reverse]
  exact numeralLE_noTopZero B n hB

theorem numeral_numeralValue (B : Nat) (hB : 2 ≤ B) (ds : List Nat) (h1 : AllLt B ds) (h2 : ds.head? ≠ some 0) :
    Spec.numeral B (Spec.numeralValue B ds) = ds := by
  rw [Spec.numeral, numeralValue_eq, numeralLE_leVal B hB ds.reverse h1.reverse
    (by rw [NoTopZero, List.getLast?_reverse]; exact h2), List.reverse_reverse]

theorem numeralValue_replicate_zero (B k : Nat) (ds : List Nat) :
    Spec.numeralValue B (List.replicate k 0 ++ ds) = Spec.numeralValue B ds := by
  induction k with
  | zero => rfl
  | succ k ih => rw [List.replicate_succ, List.cons_append, ← ih]; simp [Spec.numeralValue]

theorem numeralValue_dropZeros (B : Nat) (ds : List Nat) :
    Spec.numeralValue B ds = Spec.numeralValue B (ds.dropWhile (· == 0)) := by
  conv => lhs; rw [← List.takeWhile_append_dropWhile (p := (· == 0)) (l := ds), takeWhile_beq_eq_replicate 0 ds]
  exact numeralValue_replicate_zero B _ _

theorem zeros_numeral_of_digits (B : Nat) (hB : 2 ≤ B) (ds : List Nat) (h : AllLt B ds) :
    List.replicate (ds.takeWhile (· == 0)).length 0 ++ Spec.numeral B (Spec.numeralValue B ds) = ds := by
  rw [numeralValue_dropZeros, numeral_numeralValue B hB _ (fun d hd => h d (List.dropWhile_subset _ hd)) (head?_dropWhile_beq 0 ds),
    ← takeWhile_beq_eq_replicate, List.takeWhile_append_dropWhile]

theorem digits_of_zeros_numeral (B : Nat) (hB : 2 ≤ B) (z n : Nat) :
    ((List.replicate z 0 ++ Spec.numeral B n).takeWhile (· == 0)).length = z ∧
    Spec.numeralValue B (List.replicate z 0 ++ Spec.numeral B n) = n := by
  rw [takeWhile_replicate_append z 0 _ (numeral_head B hB n), List.length_replicate, numeralValue_replicate_zero,
    numeralValue_numeral B hB]
  exact ⟨rfl, rfl⟩

theorem leVal_lt (B : Nat) : ∀ (ds : List Nat), AllLt B ds → leVal B ds < B ^ ds.length := by
  intro ds
  induction ds with
  | nil => intro _; simp [leVal]
  | cons d ds ih =>
    intro h
    have h1 := ih h.tail
    have h2 : d < B := h d (by simp)
    rw [leVal, List.length_cons, Nat.pow_succ, Nat.mul_comm (B ^ ds.length) B]
    calc d + B * leVal B ds < B + B * leVal B ds := by omega
      _ = B * (leVal B ds + 1) := by rw [Nat.mul_add, Nat.mul_one, Nat.add_comm]
      _ ≤ B * B ^ ds.length := Nat.mul_le_mul_left _ h1

theorem numeralValue_lt (B : Nat) (ds : List Nat) (h : AllLt B ds) : Spec.numeralValue B ds < B ^ ds.length := by
  rw [numeralValue_eq]
  have := leVal_lt B ds.reverse h.reverse
  simpa using this

theorem fixedLE_length (B : Nat) : ∀ (len n : Nat), (Spec.fixedNumeralLE B len n).length = len := by
  intro len
  induction len with
  | zero => intro n; rfl
  | succ len ih => intro n; simp [Spec.fixedNumeralLE, ih]

theorem fixedLE_allLt (B : Nat) (hB : 1 ≤ B) : ∀ (len n : Nat), AllLt B (Spec.fixedNumeralLE B len n) := by
  intro len
  induction len with
  | zero => intro n d hd; simp [Spec.fixedNumeralLE] at hd
  | succ len ih =>
    intro n d hd
    simp only [Spec.fixedNumeralLE, List.mem_cons] at hd
    rcases hd with e | e
    · subst e; exact Nat.mod_lt _ (by omega)
    · exact ih _ d e

theorem fixedLE_val (B : Nat) : ∀ (len n : Nat), n < B ^ len → leVal B (Spec.fixedNumeralLE B len n) = n := by
  intro len
  induction len with
  | zero => intro n h; simp at h; simp [Spec.fixedNumeralLE, leVal, h]
  | succ len ih =>
    intro n h
    have hq : n / B < B ^ len := by
      rw [Nat.pow_succ] at h
      exact Nat.div_lt_of_lt_mul (by rw [Nat.mul_comm]; exact h)
    simp only [Spec.fixedNumeralLE, leVal, ih _ hq]
    exact Nat.mod_add_div n B

theorem numeralValue_fixedNumeral (B len n : Nat) (h : n < B ^ len) : Spec.numeralValue B (Spec.fixedNumeral B len n) = n := by
  rw [Spec.fixedNumeral, numeralValue_reverse, fixedLE_val B len n h]

theorem fixedLE_leVal (B : Nat) : ∀ (ds : List Nat), AllLt B ds → Spec.fixedNumeralLE B ds.length (leVal B ds) = ds := by
  intro ds
  induction ds with
  | nil => intro _; rfl
  | cons d ds ih =>
    intro h
    have hd : d < B := h d List.mem_cons_self
    rw [List.length_cons, Spec.fixedNumeralLE, leVal, Nat.add_mul_mod_self_left, Nat.mod_eq_of_lt hd,
      Nat.add_mul_div_left _ _ (by omega), Nat.div_eq_of_lt hd, Nat.zero_add, ih h.tail]

theorem eq_fixedNumeral (B : Nat) (ds : List Nat) (h : AllLt B ds) :
    ds = Spec.fixedNumeral B ds.length (Spec.numeralValue B ds) := by
  have := fixedLE_leVal B ds.reverse h.reverse
  rw [List.length_reverse, ← numeralValue_eq] at this
  rw [Spec.fixedNumeral, this, List.reverse_reverse]

theorem fixed_unique (B : Nat) (ds es : List Nat) (hl : ds.length = es.length) (hd : AllLt B ds) (he : AllLt B es)
    (hv : Spec.numeralValue B ds = Spec.numeralValue B es) : ds = es := by
  rw [eq_fixedNumeral B ds hd, eq_fixedNumeral B es he, hl, hv]

theorem bytes_allLt (b : Bytes) : AllLt 256 (b.map UInt8.toNat) :=
  List.forall_mem_map.mpr fun x _ => x.toNat_lt

theorem map_ofNat_toNat (b : Bytes) : (b.map UInt8.toNat).map UInt8.ofNat = b := by
  rw [List.map_map]
  exact (List.map_congr_left (fun x _ => UInt8.ofNat_toNat)).trans (List.map_id b)

theorem map_toNat_ofNat (ds : List Nat) (h : AllLt 256 ds) : (ds.map UInt8.ofNat).map UInt8.toNat = ds := by
  rw [List.map_map]
  exact (List.map_congr_left (fun d hd => UInt8.toNat_ofNat_of_lt' (h d hd))).trans (List.map_id ds)

end Btcdeb.Numeral
