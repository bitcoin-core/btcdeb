/-
  No operation of the model ends abnormally — relative to a signature checker that is only required to
  behave on the calls the interpreter can actually make.

  `step_noabn` assumes `CheckerNoAbn cx`: `cx.checkSchnorr` never ends abnormally, whatever the
  signature version and execution data.  The transaction checker of a `--tx` session
  (`GenericTransactionSignatureChecker::CheckSchnorrSignature`) does NOT satisfy that: it asserts
  `sigversion == TAPROOT || TAPSCRIPT`, `m_annex_init`, and for tapscript `m_tapleaf_hash_init` and
  `m_codeseparator_pos_init`.  Here the weaker `CheckerNoAbnOn cx` (no abnormal outcome on calls that satisfy
  `SchnorrReady`) is shown to be enough, under the execution-data facts `EdReady` that `configure_tx_txin` /
  `setup_environment` establish (and that a successful step keeps: `EdReady.of_moved`).
-/
import Btcdeb
import BtcdebProofs.Lemmas.NoAbnormal
import BtcdebProofs.Lemmas.EdFlags
namespace Btcdeb.Model
open Btcdeb

/-- what `SignatureHashSchnorr` / `CheckSchnorrSignature` assert about their arguments -/
def SchnorrReady (sv : SigVersion) (ed : ExecData) : Prop :=
  (sv = .TAPROOT ∨ sv = .TAPSCRIPT) ∧ ed.annexInit = true ∧
  (sv = .TAPSCRIPT → ed.tapleafHashInit = true ∧ ed.codesepPosInit = true)

def CheckerNoAbnOn (cx : Ctx) : Prop :=
  ∀ sig key sv ed, SchnorrReady sv ed → NoAbn (cx.checkSchnorr sig key sv ed)

theorem CheckerNoAbn.on {cx : Ctx} (h : CheckerNoAbn cx) : CheckerNoAbnOn cx :=
  fun sig key sv ed _ => h sig key sv ed

theorem EdReady.schnorrReady {sv : SigVersion} {ed : ExecData} (hr : EdReady sv ed)
    (hsv : sv = .TAPROOT ∨ sv = .TAPSCRIPT) : SchnorrReady sv ed :=
  ⟨hsv, hsv.elim hr.1 fun h => (hr.2 h).1, fun h => ⟨(hr.2 h).2.1, (hr.2 h).2.2.1⟩⟩

theorem evalChecksig_noabn_on (cx : Ctx) (hcx : CheckerNoAbnOn cx) (e : SEE) (sig key : Bytes)
    (hr : EdReady e.sigversion e.execdata) : NoAbn (evalChecksig cx e sig key) :=
  evalChecksig_noabn_of cx e sig key (fun hs => (hr.2 hs).2.2.2)
    fun hsv ed hm => hcx sig key _ ed ((hr.of_moved hm).schnorrReady hsv)

/-- `cx` with a Schnorr check that always answers "false": a context that satisfies `CheckerNoAbn` whatever `cx` is -/
def muteSchnorr (cx : Ctx) : Ctx := { cx with checkSchnorr := fun _ _ _ _ => .error (.script .UNKNOWN_ERROR) }

theorem muteSchnorr_noabn (cx : Ctx) : CheckerNoAbn (muteSchnorr cx) := by
  intro a b c d k h; cases h

theorem checkSignatureEncoding_muteSchnorr (cx : Ctx) (sig : Bytes) (flags : Nat) :
    checkSignatureEncoding (muteSchnorr cx) sig flags = checkSignatureEncoding cx sig flags := rfl

theorem step_noabn_on (cx : Ctx) (hcx : CheckerNoAbnOn cx) (e : SEE) (pc : Bytes)
    (hr : EdReady e.sigversion e.execdata) : NoAbn (step cx e pc) :=
  step_noabn_of cx e pc fun _ sig key => evalChecksig_noabn_on cx hcx _ sig key hr

end Btcdeb.Model
