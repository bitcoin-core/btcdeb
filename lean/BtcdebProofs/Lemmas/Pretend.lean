/-
  The `--pretend-valid` list parser against its specification.  The specification splits the text at commas and each
  item at the colon; the parser reads it field by field.  `specFrom_step` reads the specification the parser's way, one
  field at a time from either kind of position, and `loop_spec` then follows the loop.  Also: the tables the parser
  builds (`pretendInsert`, a set of pairs) hold exactly the listed keys and pairs.
-/
import Btcdeb
import BtcdebProofs.Lemmas.ListAux
namespace Btcdeb.Proofs.Pretend
open Btcdeb Btcdeb.Model

/-- no comma, no colon -/
def NoSep (f : Bytes) : Prop := ∀ c ∈ f, c ≠ 44 ∧ c ≠ 58

def fieldText (f : Bytes) : Option UInt8 → Bytes → Bytes
  | none, _ => f
  | some c, rest => f ++ c :: rest

/-- a byte that belongs to a field: neither `,` (44) nor `:` (58) -/
def inField (c : UInt8) : Bool := !(c == 44 || c == 58)

theorem noSep_iff {f : Bytes} : NoSep f ↔ ∀ c ∈ f, inField c = true := by
  simp [NoSep, inField]

theorem pretendField_eq (t acc : Bytes) :
    pretendField t acc = (acc.reverse ++ t.takeWhile inField, (t.dropWhile inField).head?, (t.dropWhile inField).tail) := by
  induction t generalizing acc with
  | nil => simp [pretendField]
  | cons c t ih =>
    rw [pretendField]
    cases h : (c == 44 || c == 58)
    · have hc : inField c = true := by simp [inField, h]
      simp [ih, List.takeWhile_cons_of_pos hc, List.dropWhile_cons_of_pos hc]
    · have hc : ¬ inField c = true := by simp [inField, h]
      simp [List.takeWhile_cons_of_neg hc, List.dropWhile_cons_of_neg hc]

theorem pretendField_noSep_sep (f rest acc : Bytes) (c : UInt8) (hf : NoSep f) (hc : c = 44 ∨ c = 58) :
    pretendField (f ++ c :: rest) acc = (acc.reverse ++ f, some c, rest) := by
  have hc' : inField c = false := by rcases hc with rfl | rfl <;> rfl
  rw [pretendField_eq, ListAux.takeWhile_append_stop _ f c rest (noSep_iff.1 hf) hc',
    List.dropWhile_append_of_pos (noSep_iff.1 hf), List.dropWhile_cons_of_neg (by simp [hc'])]
  rfl

theorem pretendField_spec (t : Bytes) (hne : t ≠ []) : ∃ f sep rest, pretendField t [] = (f, sep, rest) ∧ NoSep f ∧
    t = fieldText f sep rest ∧ (sep = none ∧ rest = [] ∧ f ≠ [] ∨ sep = some 44 ∨ sep = some 58) := by
  refine ⟨_, _, _, pretendField_eq t [], noSep_iff.2 fun c hc => List.all_eq_true.1 List.all_takeWhile c hc, ?_⟩
  have hsplit := List.takeWhile_append_dropWhile (p := inField) (l := t)
  rw [List.reverse_nil, List.nil_append]
  cases hd : t.dropWhile inField with
  | nil =>
    rw [hd, List.append_nil] at hsplit
    exact ⟨by rw [hsplit]; rfl, Or.inl ⟨rfl, rfl, by rwa [hsplit]⟩⟩
  | cons c r =>
    rw [hd] at hsplit
    have := ListAux.head?_dropWhile _ t c (by rw [hd]; rfl)
    exact ⟨hsplit.symm, Or.inr (by simpa [inField, Decidable.or_iff_not_imp_left] using this)⟩

/-- `Spec.splitAt` is the library's split at a separator (`cur`: the item under construction, reversed): what a
    separator-free front or a separator does to the items are `List.splitOn`'s lemmas -/
theorem splitAt_eq (sep : UInt8) (b cur : Bytes) : Spec.splitAt sep b cur = List.splitOnPPrepend (· == sep) b cur := by
  induction b generalizing cur with
  | nil => rfl
  | cons c b ih => simp only [Spec.splitAt, List.splitOnPPrepend, ih]

theorem splitAt_nil (sep : UInt8) (b : Bytes) : Spec.splitAt sep b [] = b.splitOn sep := splitAt_eq sep b []

theorem splitOn_append_of_not_mem {sep : UInt8} {f : Bytes} (hf : sep ∉ f) (rest : Bytes) :
    (f ++ rest).splitOn sep = (rest.splitOn sep).modifyHead (f ++ ·) := by
  induction f with
  | nil => exact (congrFun List.modifyHead_id _).symm
  | cons c f ih =>
    rw [List.mem_cons, not_or] at hf
    rw [List.cons_append, List.splitOn_cons_eq_if_modifyHead, if_neg (by simpa using Ne.symm hf.1), ih hf.2,
      List.modifyHead_modifyHead]
    rfl

/-- `pretend_valid_pubkeys.insert(key)` -/
def addKey (ks : List Bytes) (k : Bytes) : List Bytes := if ks.contains k then ks else ks ++ [k]

/-- the tables the parser builds from the pair list `ps`, starting from `(m, ks)` -/
def tablesFrom (m : List (Bytes × Bytes)) (ks : List Bytes) (ps : List (Bytes × Bytes)) :
    List (Bytes × Bytes) × List Bytes :=
  (ps.foldl (fun m p => pretendInsert m p.1 p.2) m, ps.foldl (fun ks p => addKey ks p.2) ks)

/-- the tables denoted by a pair list -/
def tablesOf (ps : List (Bytes × Bytes)) : List (Bytes × Bytes) × List Bytes := tablesFrom [] [] ps

section
variable {α β : Type} [BEq α] [LawfulBEq α]

/-- `std::set::insert` (of `pretend_valid_map` and of `pretend_valid_pubkeys`) on a list that keeps insertion order -/
theorem contains_insertNew (l : List α) (a b : α) :
    (if l.contains a then l else l ++ [a]).contains b = (l.contains b || b == a) := by
  split
  · next h =>
    by_cases hba : b = a
    · rw [hba, h, Bool.true_or]
    · rw [beq_eq_false_iff_ne.2 hba, Bool.or_false]
  · rw [List.contains_append, List.contains_cons, List.contains_nil, Bool.or_false]

theorem nodup_insertNew (l : List α) (a : α) (h : l.Nodup) : (if l.contains a then l else l ++ [a]).Nodup := by
  split
  · exact h
  · next hc =>
    refine List.nodup_append.2 ⟨h, by simp, fun x hx y hy hxy => hc ?_⟩
    rw [List.mem_singleton.1 hy] at hxy
    exact List.contains_iff_mem.2 (hxy ▸ hx)

theorem contains_foldl_insertNew (g : β → α) (ps : List β) (l : List α) (b : α) :
    (ps.foldl (fun l p => if l.contains (g p) then l else l ++ [g p]) l).contains b =
      (l.contains b || ps.any (b == g ·)) := by
  induction ps generalizing l with
  | nil => simp
  | cons p ps ih => rw [List.foldl_cons, ih, contains_insertNew, List.any_cons, Bool.or_assoc]

theorem nodup_foldl_insertNew (g : β → α) (ps : List β) (l : List α) (h : l.Nodup) :
    (ps.foldl (fun l p => if l.contains (g p) then l else l ++ [g p]) l).Nodup := by
  induction ps generalizing l with
  | nil => exact h
  | cons p ps ih => exact ih _ (nodup_insertNew l (g p) h)
end

theorem tablesOf_keys (ps : List (Bytes × Bytes)) (key : Bytes) :
    (tablesOf ps).2.contains key = ps.any (fun p => p.2 == key) := by
  refine (contains_foldl_insertNew (fun p : Bytes × Bytes => p.2) ps [] key).trans ?_
  rw [List.contains_nil, Bool.false_or]
  exact congrArg _ (funext fun p => BEq.comm)

theorem tablesOf_pair (ps : List (Bytes × Bytes)) (sig key : Bytes) :
    pretendHas (tablesOf ps).1 sig key = ps.contains (sig, key) := by
  refine (contains_foldl_insertNew id ps [] (sig, key)).trans ?_
  rw [List.contains_nil, Bool.false_or, List.contains_eq_any_beq]; rfl

theorem tablesOf_nodup (ps : List (Bytes × Bytes)) : (tablesOf ps).1.Nodup :=
  nodup_foldl_insertNew id ps [] List.nodup_nil

/-- one item `sig:key` (the function `Spec.pretendPairs` maps over the items) -/
def itemPair (eval : Bytes → Option Bytes) (item : Bytes) : Option (Bytes × Bytes) :=
  match Spec.splitAt 58 item [] with
  | [s, k] => do
    if s.isEmpty || k.isEmpty then none     -- a field is a non-empty expression
    let s ← eval s
    let k ← eval k
    pure (s, k)
  | _ => none

/-- one trailing comma (or the empty text) is tolerated -/
def trim (items : List Bytes) : List Bytes := if items.getLast? == some [] then items.dropLast else items

theorem pretendPairs_eq (eval : Bytes → Option Bytes) (text : Bytes) :
    Spec.pretendPairs eval text = (trim (Spec.splitAt 44 text [])).mapM (itemPair eval) := rfl

theorem trim_single_nil : trim [[]] = [] := rfl

theorem trim_cons (x : Bytes) (tl : List Bytes) (h : x ≠ [] ∨ tl ≠ []) : trim (x :: tl) = x :: trim tl := by
  cases tl with
  | nil =>
    have hx : x ≠ [] := h.resolve_right (· rfl)
    simp [trim, hx]
  | cons y tl =>
    unfold trim
    rw [List.getLast?_cons_cons]
    split <;> simp

def itemKey (eval : Bytes → Option Bytes) (s h : Bytes) : Option (Bytes × Bytes) :=
  match Spec.splitAt 58 h [] with
  | [k] => if k.isEmpty then none else (eval k).map (s, ·)
  | _ => none

theorem NoSep.comma {f : Bytes} (hf : NoSep f) : (44 : UInt8) ∉ f := fun h => (hf _ h).1 rfl
theorem NoSep.colon {f : Bytes} (hf : NoSep f) : (58 : UInt8) ∉ f := fun h => (hf _ h).2 rfl

section
variable (eval : Bytes → Option Bytes) {f : Bytes} (hf : NoSep f)
include hf

theorem itemPair_noSep : itemPair eval f = none := by
  rw [itemPair, splitAt_nil, List.splitOn_eq_singleton hf.colon]

theorem itemKey_noSep (s : Bytes) : itemKey eval s f = if f.isEmpty then none else (eval f).map (s, ·) := by
  rw [itemKey, splitAt_nil, List.splitOn_eq_singleton hf.colon]

theorem itemKey_colon (s h : Bytes) : itemKey eval s (f ++ 58 :: h) = none := by
  obtain ⟨k, tl, e⟩ := List.exists_cons_of_ne_nil (List.splitOn_ne_nil 58 h)
  rw [itemKey, splitAt_nil, List.splitOn_append_cons_self_of_not_mem hf.colon, e]

/-- the specification evaluates the signature of an item after checking both fields for emptiness, the scanner
    field by field: as far as `Option` tells, the same -/
theorem itemPair_colon (h : Bytes) :
    itemPair eval (f ++ 58 :: h) = if f.isEmpty then none else (eval f).bind fun s => itemKey eval s h := by
  obtain ⟨k, tl, e⟩ := List.exists_cons_of_ne_nil (List.splitOn_ne_nil 58 h)
  unfold itemPair itemKey
  rw [splitAt_nil, splitAt_nil, List.splitOn_append_cons_self_of_not_mem hf.colon, e]
  cases tl with
  | nil => cases hfe : f.isEmpty <;> cases hev : eval f <;> simp [hfe, hev, Option.map_eq_bind, Function.comp_def]
  | cons _ _ => cases f.isEmpty <;> simp
omit hf

/-- the specification read from a position: `none` where a signature field is expected, `some s` where the key field of
    signature `s` is -/
def specFrom : Option Bytes → Bytes → Option (List (Bytes × Bytes))
  | none, t => (trim (Spec.splitAt 44 t [])).mapM (itemPair eval)
  | some s, t =>
    match Spec.splitAt 44 t [] with
    | h :: tl => (itemKey eval s h).bind fun p => ((trim tl).mapM (itemPair eval)).map (p :: ·)
    | [] => none

include hf
/-- The specification as a scanner, one field at a time: a field is a non-empty expression; after a signature comes a
    colon, after a key a comma or the end. -/
theorem specFrom_step (pend : Option Bytes) (rest : Bytes) (sep : Option UInt8)
    (hsep : sep = none ∧ rest = [] ∧ f ≠ [] ∨ sep = some 44 ∨ sep = some 58) :
    specFrom eval pend (fieldText f sep rest) =
      if f.isEmpty then none else (eval f).bind fun v =>
        match pend with
        | none => if sep = some 58 then specFrom eval (some v) rest else none
        | some s => if sep = some 58 then none else (specFrom eval none rest).map ((s, v) :: ·) := by
  rcases hsep with ⟨rfl, rfl, hne⟩ | rfl | rfl <;> cases pend <;> simp only [specFrom, fieldText, splitAt_nil]
  · rw [List.splitOn_eq_singleton hf.comma, trim_cons f [] (Or.inl hne), List.mapM_cons, itemPair_noSep eval hf]
    cases f.isEmpty <;> cases eval f <;> rfl
  · simp only [List.splitOn_eq_singleton hf.comma, itemKey_noSep eval hf]
    cases f.isEmpty <;> cases eval f <;> rfl
  · obtain ⟨h, tl, e⟩ := List.exists_cons_of_ne_nil (List.splitOn_ne_nil 44 rest)
    rw [List.splitOn_append_cons_self_of_not_mem hf.comma, e, trim_cons f _ (Or.inr (List.cons_ne_nil _ _)), List.mapM_cons,
      itemPair_noSep eval hf]
    cases f.isEmpty <;> cases eval f <;> rfl
  · simp only [List.splitOn_append_cons_self_of_not_mem hf.comma, itemKey_noSep eval hf]
    cases f.isEmpty <;> cases eval f <;> simp [Option.map_eq_bind, Function.comp_def]
  -- left: `sep = some 58`, for either `pend`; the field and its colon belong to the first comma item of the text
  all_goals
    obtain ⟨h, tl, h1⟩ := List.exists_cons_of_ne_nil (List.splitOn_ne_nil 44 rest)
    have h2 : (f ++ 58 :: rest).splitOn 44 = (f ++ 58 :: h) :: tl := by
      have := splitOn_append_of_not_mem (sep := 44) (f := f ++ [58]) (by simpa using hf.comma) rest
      simpa [h1] using this
  · rw [h2, trim_cons _ tl (Or.inl (by simp)), List.mapM_cons, itemPair_colon eval hf, h1]
    cases f.isEmpty <;> cases eval f <;> simp [Option.map_eq_bind, Function.comp_def]
  · simp only [h2, itemKey_colon eval hf]
    cases f.isEmpty <;> cases eval f <;> rfl
end

/-- one turn of the `while (*c)` loop, with the field split made explicit -/
theorem pretendLoop_step (cx : VCtx) (fuel : Nat) (t : Bytes) (st : PretendState) (f : Bytes) (sep : Option UInt8)
    (rest : Bytes) (hne : t ≠ []) (hpf : pretendField t [] = (f, sep, rest)) (hsep : sep = none ∨ sep = some 44 ∨ sep = some 58) :
    pretendLoop cx (fuel + 1) t st =
      if f.isEmpty then .ok none
      else match valueData cx f with
        | .error x => .error x
        | .ok s =>
          if sep = some 58 then
            (if st.gotSig then .ok none else pretendLoop cx fuel rest { st with sig := s, gotSig := true })
          else
            (if st.gotSig then
               pretendLoop cx fuel rest { st with gotSig := false, map := pretendInsert st.map st.sig s,
                                                  keys := addKey st.keys s }
             else .ok none) := by
  rw [pretendLoop]
  have : t.isEmpty = false := by cases t; exact absurd rfl hne; rfl
  simp only [this, Bool.false_eq_true, if_false, hpf]
  cases hfe : f.isEmpty
  · simp only [Bool.false_eq_true, if_false]
    cases hv : valueData cx f with
    | error x => rfl
    | ok s =>
      rcases hsep with rfl | rfl | rfl <;> cases st.gotSig <;> simp [addKey] <;> rfl
  · rfl

theorem pretendLoop_nil (cx : VCtx) (fuel : Nat) (st : PretendState) : pretendLoop cx fuel [] st = .ok (some st) := by
  cases fuel with
  | zero => rfl
  | succ n => rw [pretendLoop]; rfl

/-- how `parsePretendValidExpr` finishes after the loop: the text must not end inside a pair -/
def loopResult (r : VM (Option PretendState)) : VM (Option (List (Bytes × Bytes) × List Bytes)) :=
  r >>= fun
    | none => pure none
    | some st => if st.gotSig then pure none else pure (some (st.map, st.keys))

theorem parse_eq (cx : VCtx) (text : Bytes) :
    parsePretendValidExpr cx text =
      loopResult (pretendLoop cx ((parsePretendValidExpr.cstr text).length + 1) (parsePretendValidExpr.cstr text) {}) := rfl

/-- The parser's answer `r` for a text the specification reads as `o`: the tables of the pairs; for a text that
    denotes no list a refusal, or no answer at all when a value expression aborts. -/
def Answers (r : VM (Option (List (Bytes × Bytes) × List Bytes))) (o : Option (List (Bytes × Bytes) × List Bytes)) : Prop :=
  match o with
  | some tb => r = .ok (some tb)
  | none => r = .ok none ∨ ∃ x, r = .error x

def pendingSig (st : PretendState) : Option Bytes := if st.gotSig then some st.sig else none

theorem loopResult_ok (st : PretendState) :
    loopResult (.ok (some st)) = if st.gotSig then .ok none else .ok (some (st.map, st.keys)) := rfl

private theorem answers_nil (cx : VCtx) (fuel : Nat) (st : PretendState) :
    Answers (loopResult (pretendLoop cx fuel [] st))
      ((specFrom (fun t => (valueData cx t).toOption) (pendingSig st) []).map (tablesFrom st.map st.keys)) := by
  rw [pretendLoop_nil, loopResult_ok]
  cases hg : st.gotSig
  · simp only [pendingSig, hg, Bool.false_eq_true, if_false]; rfl
  · simp only [pendingSig, hg, if_true]; exact Or.inl rfl

/-- the specification's evaluator is the parser's `valueData`, a thrown error counting as "expression rejected" -/
theorem loop_spec (cx : VCtx) (fuel : Nat) : ∀ (t : Bytes) (st : PretendState), t.length ≤ fuel →
    Answers (loopResult (pretendLoop cx fuel t st))
      ((specFrom (fun t => (valueData cx t).toOption) (pendingSig st) t).map (tablesFrom st.map st.keys)) := by
  induction fuel with
  | zero =>
    intro t st hl
    cases t with
    | nil => exact answers_nil cx 0 st
    | cons _ _ => cases hl
  | succ fuel ih =>
    intro t st hl
    by_cases hne : t = []
    · subst hne; exact answers_nil cx _ st
    obtain ⟨f, sep, rest, hpf, hns, ht, hsep⟩ := pretendField_spec t hne
    have hrl : rest.length ≤ fuel := by
      rcases hsep with ⟨-, rfl, -⟩ | rfl | rfl
      · exact Nat.zero_le _
      all_goals (rw [ht] at hl; simp [fieldText] at hl; omega)
    rw [pretendLoop_step cx fuel t st f sep rest hne hpf (by rcases hsep with ⟨h, -⟩ | h | h <;> simp [h])]
    conv => arg 2; rw [ht, specFrom_step _ hns _ rest sep hsep]
    cases hfe : f.isEmpty
    · cases hv : valueData cx f with
      | error x => simp only [hv, Except.toOption]; exact Or.inr ⟨x, rfl⟩
      | ok v =>
        simp only [hv, Except.toOption, Bool.false_eq_true, if_false, Option.bind_some]
        by_cases h58 : sep = some 58 <;> cases hg : st.gotSig <;> simp only [h58, pendingSig, hg, if_true, if_false, Bool.false_eq_true]
        · exact ih rest { st with sig := v, gotSig := true } hrl
        · exact Or.inl rfl
        · exact Or.inl rfl
        · rw [Option.map_map]
          exact ih rest { st with gotSig := false, map := pretendInsert st.map st.sig v, keys := addKey st.keys v } hrl
    · exact Or.inl rfl
end Btcdeb.Proofs.Pretend
