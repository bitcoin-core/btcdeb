/-
  The state displays (Btcdeb/Model/Display.lean) made ready for C01Display.  The loops of `print_stack` and
  `print_bool_stack` print one list of numbered lines (`numbered`); a line is the specification's (`Spec.itemLine`,
  `Spec.levelLine`) and is read back to what it shows, because the separators the readers look for occur nowhere else in
  it (`Plain`); a condition stack that represents a list of levels is listed by `vfexec` level by level
  (`toList_reverse_of_condRel`).
-/
import Btcdeb
import BtcdebProofs.Refine.Basic
import BtcdebProofs.Lemmas.CondWf
namespace Btcdeb.Display
open Btcdeb Btcdeb.Model


/-- a character that is none of the separators the read-back functions look for -/
def Plain (c : Char) : Prop := c ≠ '\t' ∧ c ≠ '\n' ∧ c ≠ '>'

theorem plain_of_isDigit {c : Char} (h : c.isDigit = true) : Plain c := by
  refine ⟨?_, ?_, ?_⟩ <;> (intro he; subst he; revert h; decide)

theorem hexDigit_plain : ∀ n, n < 16 → Plain (hexDigit n) := by
  unfold Plain; decide

theorem hexVal_hexDigit : ∀ n, n < 16 → hexVal (hexDigit n) = some n := by decide

theorem plain_hexStr (b : Bytes) : ∀ c ∈ hexStr b, Plain c := by
  intro c hc
  simp only [hexStr, List.mem_flatMap, hexOfByte, List.mem_cons, List.not_mem_nil, or_false] at hc
  obtain ⟨x, _, h | h⟩ := hc
  · subst h; exact hexDigit_plain _ (Nat.div_lt_of_lt_mul (by have := x.toNat_lt; omega))
  · subst h; exact hexDigit_plain _ (Nat.mod_lt _ (by decide))

theorem plain_dec02 (n : Nat) : ∀ c ∈ dec02 n, Plain c := by
  intro c hc
  simp only [dec02, List.mem_append, List.mem_replicate] at hc
  rcases hc with ⟨_, h⟩ | h
  · subst h; exact plain_of_isDigit (by decide)
  · exact plain_of_isDigit (Nat.isDigit_of_mem_toDigits (by decide) (by decide) h)


theorem ofHexChars_hexOfByte (x : UInt8) (rest : List Char) :
    ofHexChars (hexOfByte x ++ rest) = (ofHexChars rest).map (x :: ·) := by
  have h1 : x.toNat / 16 < 16 := Nat.div_lt_of_lt_mul (by have := x.toNat_lt; omega)
  have h2 : x.toNat % 16 < 16 := Nat.mod_lt _ (by decide)
  have hx : UInt8.ofNat (x.toNat / 16 * 16 + x.toNat % 16) = x := by
    rw [Nat.div_add_mod' x.toNat 16]; exact UInt8.ofNat_toNat
  simp only [hexOfByte, List.cons_append, List.nil_append, ofHexChars, hexVal_hexDigit _ h1, hexVal_hexDigit _ h2]
  cases ofHexChars rest <;> simp [hx]

theorem ofHexChars_hexStr (b : Bytes) : ofHexChars (hexStr b) = some b := by
  induction b with
  | nil => rfl
  | cons x xs ih =>
    have : hexStr (x :: xs) = hexOfByte x ++ hexStr xs := by simp [hexStr]
    rw [this, ofHexChars_hexOfByte, ih]; rfl


theorem splitLinesAux_eq (t cur : List Char) :
    splitLinesAux t cur = (List.splitOnPPrepend (· == '\n') t cur).dropLast := by
  induction t generalizing cur with
  | nil => rfl
  | cons c t ih =>
    rw [splitLinesAux, List.splitOnPPrepend_cons_eq_if, ih, ih]
    split <;> simp [List.dropLast_cons_of_ne_nil]

theorem splitLines_unlines (ls : List (List Char)) (h : ∀ l ∈ ls, ∀ c ∈ l, c ≠ '\n') :
    splitLines (unlines ls) = ls := by
  induction ls with
  | nil => rfl
  | cons l rest ih =>
    rw [splitLines, splitLinesAux_eq] at ih ⊢
    rw [show unlines (l :: rest) = l ++ '\n' :: unlines rest by simp [unlines], List.splitOnPPrepend_nil_right,
      ← List.splitOn_eq_splitOnP, List.splitOn_append_cons_self_of_not_mem (fun hm => h l (by simp) _ hm rfl),
      List.dropLast_cons_of_ne_nil (List.splitOn_ne_nil _ _)]
    exact congrArg _ (ih fun l' hl' => h l' (by simp [hl']))

/-- the lines `line (i + 1) x₀`, `line (i + 2) x₁`, …: what the loops of `print_stack` and `print_bool_stack` print, for
    the items from the top down resp. the levels from the innermost out -/
def numbered {α} (line : Nat → α → List Char) (i : Nat) (xs : List α) : List (List Char) :=
  (xs.zipIdx (i + 1)).map fun p => line p.2 p.1

theorem numbered_cons {α} (line : Nat → α → List Char) (i : Nat) (x : α) (xs : List α) :
    numbered line i (x :: xs) = line (i + 1) x :: numbered line (i + 1) xs := rfl

theorem forall_numbered {α} {line : Nat → α → List Char} {P : List Char → Prop} (h : ∀ i x, P (line i x))
    (xs : List α) (i : Nat) : ∀ l ∈ numbered line i xs, P l :=
  List.forall_mem_map.2 fun _ _ => h _ _

theorem numbered_getElem? {α} (line : Nat → α → List Char) (xs : List α) (i k : Nat) (h : k < xs.length) :
    (numbered line i xs)[k]? = some (line (i + k + 1) xs[k]) := by
  simp [numbered, h, Nat.add_right_comm]

theorem mapM_numbered {α} {line : Nat → α → List Char} {read : List Char → Option α}
    (h : ∀ i x, read (line i x) = some x) (xs : List α) (i : Nat) : (numbered line i xs).mapM read = some xs := by
  induction xs generalizing i with
  | nil => rfl
  | cons x rest ih => simp [numbered_cons, List.mapM_cons, h, ih (i + 1)]

/-- numbered lines start with `<`, the line announcing an empty stack with `-` -/
theorem numbered_ne_emptyLine {α} {line : Nat → α → List Char} (h : ∀ i x, (line i x).head? = some '<') (xs : List α) (i : Nat) :
    (numbered line i xs == [emptyStackLine]) = false := by
  cases xs with
  | nil => rfl
  | cons x rest =>
    have hne : line (i + 1) x ≠ emptyStackLine := fun he => by have := h (i + 1) x; rw [he] at this; cases this
    simp [numbered_cons, hne]

theorem unlines_numbered {α} {line : Nat → α → List Char} {g : α → Nat → List Char}
    (h : ∀ i x, line i x ++ ['\n'] = g x i) (xs : List α) (i : Nat) :
    unlines (numbered line i xs) = (xs.zipIdx (i + 1)).flatMap (fun p => g p.1 p.2) := by
  simp [unlines, numbered, List.flatMap_map, h]

theorem zipIdx_map_range {β} (f : Nat → β) (n i : Nat) :
    ((List.range n).map f).zipIdx i = (List.range n).map (fun k => (f k, i + k)) := by
  apply List.ext_getElem?
  intro k
  by_cases h : k < n <;> simp [h]


theorem stackLoop_eq (stack : List Bytes) : ∀ (n i : Nat), n ≤ stack.length →
    stackLoop stack n i = numbered stackLine i (stack.take n).reverse := by
  intro n
  induction n with
  | zero => intro i _; simp [stackLoop, numbered]
  | succ n ih =>
    intro i hn
    have hlt : n < stack.length := by omega
    have htake : (stack.take (n + 1)).reverse = stack[n] :: (stack.take n).reverse := by
      rw [List.take_succ_eq_append_getElem hlt]; simp
    have hget : stack.getD n [] = stack[n] := by simp [List.getD, hlt]
    rw [htake, stackLoop, numbered_cons, ih (i + 1) (by omega), hget]

theorem printStack_numbered (stack : List Bytes) :
    printStack stack false =
      if stack = [] then unlines [emptyStackLine] else unlines (numbered stackLine 0 stack.reverse) := by
  unfold printStack
  simp only [Bool.false_eq_true, if_false]
  rw [stackLoop_eq stack stack.length 0 (Nat.le_refl _), List.take_length]
  cases stack with
  | nil => simp [numbered]
  | cons a as => simp

theorem boolLoop_eq (c : CondStack) : ∀ (n i : Nat),
    boolLoop c n i = numbered boolLine i ((List.range n).map c.atIdx).reverse := by
  intro n
  induction n with
  | zero => intro i; simp [boolLoop, numbered]
  | succ n ih =>
    intro i
    rw [List.range_succ, List.map_append, List.reverse_append]
    simp only [List.map_cons, List.map_nil, List.reverse_cons, List.reverse_nil, List.nil_append, List.cons_append]
    rw [boolLoop, numbered_cons, ih (i + 1)]

theorem printBoolStack_eq (c : CondStack) :
    printBoolStack c =
      if c.size = 0 then unlines [emptyStackLine] else unlines (numbered boolLine 0 c.toList.reverse) := by
  unfold printBoolStack CondStack.toList
  rw [boolLoop_eq c c.size 0]
  by_cases h : c.size = 0
  · simp [h, numbered]
  · simp [h]


theorem line_no_newline (i : Nat) (body : List Char) (h : ∀ c ∈ body, c ≠ '\n') :
    ∀ c ∈ ['<'] ++ dec02 i ++ ['>', '\t'] ++ body, c ≠ '\n' := by
  intro c hc
  simp only [List.mem_append, List.mem_cons, List.not_mem_nil, or_false] at hc
  rcases hc with ((h1 | h1) | h1 | h1) | h1
  · subst h1; decide
  · exact (plain_dec02 i c h1).2.1
  · subst h1; decide
  · subst h1; decide
  · exact h c h1

theorem stackLine_no_newline (i : Nat) (it : Bytes) : ∀ c ∈ stackLine i it, c ≠ '\n' := by
  unfold stackLine
  rw [List.append_assoc (['<'] ++ dec02 i ++ ['>', '\t'])]
  refine line_no_newline i _ fun c hc => ?_
  rcases List.mem_append.mp hc with h | h
  · exact (plain_hexStr it c h).2.1
  · have : ∀ c ∈ topMark, c ≠ '\n' := by decide
    split at h
    · exact this c h
    · cases h

theorem boolLine_no_newline (i : Nat) (b : Bool) : ∀ c ∈ boolLine i b, c ≠ '\n' :=
  line_no_newline i _ (by cases b <;> decide)

theorem emptyStackLine_no_newline : ∀ c ∈ emptyStackLine, c ≠ '\n' := by decide

theorem after_tab (i : Nat) (rest : List Char) :
    ((['<'] ++ dec02 i ++ ['>', '\t'] ++ rest).dropWhile (· != '\t')).drop 1 = rest := by
  have : ['<'] ++ dec02 i ++ ['>', '\t'] ++ rest = (['<'] ++ dec02 i ++ ['>']) ++ ('\t' :: rest) := by simp
  rw [this, List.dropWhile_append_of_pos]
  · simp
  · intro c hc
    simp only [List.mem_append, List.mem_cons, List.not_mem_nil, or_false] at hc
    rcases hc with (h | h) | h
    · subst h; decide
    · exact bne_iff_ne.mpr (plain_dec02 i c h).1
    · subst h; decide

theorem readItem_stackLine (i : Nat) (it : Bytes) : readItem (stackLine i it) = some it := by
  unfold readItem stackLine
  rw [List.append_assoc (['<'] ++ dec02 i ++ ['>', '\t']), after_tab]
  have hall : ∀ c ∈ hexStr it, (c != '\t') = true := fun c hc => bne_iff_ne.mpr (plain_hexStr it c hc).1
  rw [List.takeWhile_append_of_pos hall]
  have : (if (i == 1) = true then topMark else []).takeWhile (· != '\t') = [] := by
    split <;> simp [topMark]
  rw [this, List.append_nil, ofHexChars_hexStr]

theorem readBool_boolLine (i : Nat) (b : Bool) : readBool (boolLine i b) = some b := by
  unfold readBool boolLine
  rw [after_tab]
  cases b <;> simp [hex02Bool]

theorem eq_of_read {α β} {read : β → Option α} {a b : α} {x y : β}
    (ha : read x = some a) (hb : read y = some b) (h : x = y) : a = b :=
  Option.some.inj (ha.symm.trans ((congrArg read h).trans hb))

/-- the first false position of the displayed levels (outermost first) is the stored one when that lies inside the stack -/
theorem findIdx_atIdx (p : Nat) : ∀ n, ((List.range n).map (fun j => decide (p > j))).findIdx? (fun b => !b) =
    if p < n then some p else none := by
  intro n
  induction n with
  | zero => simp
  | succ n ih =>
    rw [List.range_succ, List.map_append, List.findIdx?_append, ih]
    by_cases h : p < n
    · have : p < n + 1 := by omega
      simp [h, this]
    · by_cases h2 : p = n
      · subst h2; simp
      · have h3 : ¬ p < n + 1 := by omega
        have h4 : p > n := by omega
        simp [h, h3, h4]

theorem findIdx_toList (c : CondStack) :
    c.toList.findIdx? (fun b => !b) = match c.firstFalse with
      | none => none
      | some p => if p < c.size then some p else none := by
  unfold CondStack.toList
  cases hf : c.firstFalse with
  | none =>
    have : (List.range c.size).map c.atIdx = (List.range c.size).map (fun _ => true) := by
      apply List.map_congr_left; intro j _; simp [CondStack.atIdx, hf]
    rw [this]
    simp [List.findIdx?_eq_none_iff]
  | some p =>
    have : (List.range c.size).map c.atIdx = (List.range c.size).map (fun j => decide (p > j)) := by
      apply List.map_congr_left; intro j _; simp [CondStack.atIdx, hf]
    rw [this, findIdx_atIdx]



/-- `%02d` is "decimal, at least two digits" -/
theorem dec02_eq_lineNumber (n : Nat) : dec02 n = Spec.lineNumber n := by
  unfold dec02 Spec.lineNumber
  by_cases h : n < 10
  · simp [h, Nat.toDigits_of_lt_base h]
  · have hlen : ¬ (Nat.toDigits 10 n).length ≤ 1 := by
      rw [Nat.length_toDigits_le_iff (by decide) (by decide)]; simpa using h
    have : 2 - (Nat.toDigits 10 n).length = 0 := by omega
    simp [h, this]

theorem stackLine_eq_itemLine (i : Nat) (it : Bytes) : stackLine i it ++ ['\n'] = Spec.itemLine it i := by
  unfold stackLine Spec.itemLine
  rw [dec02_eq_lineNumber]
  by_cases h : i = 1 <;> simp [h, hexStr, Spec.showHex, topMark]

theorem boolLine_eq_levelLine (i : Nat) (b : Bool) : boolLine i b ++ ['\n'] = Spec.levelLine b i := by
  unfold boolLine Spec.levelLine hex02Bool
  rw [dec02_eq_lineNumber]

theorem all_take_findIdx : ∀ (xs : List Bool) (m : Nat),
    (xs.take m).all id = match xs.findIdx? (fun b => !b) with
      | none => true
      | some p => decide (m ≤ p) := by
  intro xs
  induction xs with
  | nil => intro m; simp
  | cons x rest ih =>
    intro m
    cases m with
    | zero => cases x <;> simp [List.findIdx?_cons] <;> (cases rest.findIdx? (fun b => !b) <;> simp)
    | succ m =>
      cases x
      · simp [List.findIdx?_cons]
      · simp only [List.take_succ_cons, List.all_cons, id, Bool.true_and, List.findIdx?_cons, Bool.not_true,
          Bool.false_eq_true, if_false, ih m]
        cases rest.findIdx? (fun b => !b) <;> simp

/-- level `k` from the inside executes exactly when the first false level (from the outside) lies further in -/
theorem all_drop_firstFalse (l : List Bool) (k : Nat) (hk : k < l.length) :
    (l.drop k).all id = match Refine.firstFalseOuter l with
      | none => true
      | some p => decide (p > l.length - 1 - k) := by
  rw [← List.all_reverse, List.reverse_drop, all_take_findIdx]
  unfold Refine.firstFalseOuter
  cases l.reverse.findIdx? (fun b => !b) with
  | none => rfl
  | some p => simp only [decide_eq_decide]; omega

/-- what `vfexec` lists, innermost level first, for a condition stack representing `l` -/
theorem toList_reverse_of_condRel {c : CondStack} {l : List Bool} (h : Refine.CondRel c l) :
    c.toList.reverse = (List.range l.length).map (fun k => (l.drop k).all id) := by
  obtain ⟨h1, h2, _⟩ := h
  apply List.ext_getElem
  · simp [CondStack.toList, h1]
  · intro k hk1 hk2
    have hk : k < l.length := by simpa using hk2
    simp only [CondStack.toList, List.getElem_reverse, List.getElem_map, List.getElem_range, List.length_map,
      List.length_range]
    rw [all_drop_firstFalse l k hk, ← h2, h1]
    cases hf : c.firstFalse <;> simp [CondStack.atIdx, hf]

end Btcdeb.Display

namespace Btcdeb.Refine
open Btcdeb.Model in
theorem CondRel.wf {c : CondStack} {l : List Bool} (h : CondRel c l) : c.Wf := h.2.2
end Btcdeb.Refine
