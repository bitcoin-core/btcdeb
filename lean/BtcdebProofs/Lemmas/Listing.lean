/-
  The model's instruction listing (`decodeFrom`, by `getOp`) is the specification's (`Spec.planFrom`, by `Spec.decodeOne`),
  line for line; `advanceOps k s`, the position reached from `s` by decoding `k` instructions; and what an instruction
  of a push-only script does when executed: it pushes its `payloadOf` (for the P2SH hand-over, `Side` in Lemmas/Marker.lean).
-/
import Btcdeb
import BtcdebProofs.Lemmas.Frame
import BtcdebProofs.Lemmas.Instr
import BtcdebProofs.Properties.C18
namespace Btcdeb.Model
open Btcdeb

/-- a model line seen as a line of the execution plan (the section label is dropped) -/
def Line.plan (l : Line) : Spec.PlanLine := ⟨l.kind == .header, l.offset, l.text⟩

def advanceOps : Nat → Bytes → Option Bytes
  | 0, s => some s
  | k + 1, s => match getOp s with
    | some g => advanceOps k g.rest
    | none => none

theorem decodeFrom_some {pc : Bytes} {g : GotOp} (h : getOp pc = some g) :
    decodeFrom pc = (pc.length, g) :: decodeFrom g.rest := by
  rw [decodeFrom]; split
  · rename_i h'; rw [h] at h'; cases h'
  · rename_i g' h'; rw [h] at h'; cases h'; rfl

theorem decodeFrom_none {pc : Bytes} (h : getOp pc = none) : decodeFrom pc = [] := by
  rw [decodeFrom]; split
  · rfl
  · rename_i g' h'; rw [h] at h'; cases h'

theorem opText_instrText (g : GotOp) : Spec.instrText ⟨g.opcode, g.data⟩ = opText g := by
  unfold Spec.instrText opText opNameOf
  cases hd : g.data with
  | nil => simp
  | cons a b => simp

theorem planFrom_eq (total : Nat) : ∀ (fuel : Nat) (s : Bytes), s.length ≤ fuel →
    Spec.planFrom total fuel s = (decodeFrom s).map (fun p => (⟨false, total - p.1, opText p.2⟩ : Spec.PlanLine)) := by
  intro fuel
  induction fuel with
  | zero =>
    intro s hs
    have : s = [] := List.length_eq_zero_iff.mp (by omega)
    subst this
    rw [decodeFrom_none (by rfl)]; rfl
  | succ fuel ih =>
    intro s hs
    simp only [Spec.planFrom]
    cases hg : getOp s with
    | none =>
      have hgo := Refine.getOp_decodeOne s
      rw [hg] at hgo
      rw [← hgo, decodeFrom_none hg]; rfl
    | some g =>
      rw [Refine.getOp_eq_some_iff.mp hg, decodeFrom_some hg]
      have hlt := getOp_rest_lt hg
      simp only [List.map_cons]
      rw [ih g.rest (by omega), opText_instrText]

theorem planOf_eq (s : Bytes) :
    Spec.planOf s = (decodeFrom s).map (fun p => (⟨false, s.length - p.1, opText p.2⟩ : Spec.PlanLine)) :=
  planFrom_eq s.length s.length s (Nat.le_refl _)

theorem opLinesFrom_plan (sect : Sect) (total : Nat) (it : Bytes) :
    (opLinesFrom sect total it).map Line.plan = Spec.planFrom total it.length it := by
  rw [planFrom_eq total it.length it (Nat.le_refl _), opLinesFrom, List.map_map]
  apply List.map_congr_left
  intro p _
  simp [Line.plan]

theorem opLines_plan (sect : Sect) (s : Bytes) : (opLines sect s).map Line.plan = Spec.planOf s :=
  opLinesFrom_plan sect s.length s

theorem decodeFrom_advance : ∀ (k : Nat) (s pc : Bytes), advanceOps k s = some pc →
    ∃ pre, decodeFrom s = pre ++ decodeFrom pc ∧ pre.length = k := by
  intro k
  induction k with
  | zero => intro s pc h; simp [advanceOps] at h; subst h; exact ⟨[], rfl, rfl⟩
  | succ k ih =>
    intro s pc h
    simp only [advanceOps] at h
    cases hg : getOp s with
    | none => simp [hg] at h
    | some g =>
      simp only [hg] at h
      obtain ⟨pre, h1, h2⟩ := ih g.rest pc h
      exact ⟨(s.length, g) :: pre, by rw [decodeFrom_some hg, h1]; rfl, by simp [h2]⟩

theorem advanceOps_succ {k : Nat} {s pc : Bytes} {g : GotOp} (h : advanceOps k s = some pc) (hg : getOp pc = some g) :
    advanceOps (k + 1) s = some g.rest := by
  induction k generalizing s with
  | zero => simp [advanceOps] at h; subst h; simp [advanceOps, hg]
  | succ k ih =>
    simp only [advanceOps] at h ⊢
    cases hs : getOp s with
    | none => simp [hs] at h
    | some g' => simp only [hs] at h ⊢; exact ih h

theorem advanceOps_length {k : Nat} {s pc : Bytes} (h : advanceOps k s = some pc) : pc.length + k ≤ s.length := by
  induction k generalizing s with
  | zero => simp [advanceOps] at h; subst h; omega
  | succ k ih =>
    simp only [advanceOps] at h
    cases hs : getOp s with
    | none => simp [hs] at h
    | some g => simp only [hs] at h; have := ih h; have := getOp_rest_lt hs; omega

theorem smallInt_ofNat : ∀ n : Nat, n < 97 → 78 < n → n ≠ 80 →
    Spec.smallInt (Opcode.ofNat n) = some ((n : Int) - 80) := by decide

/-- `OP_1NEGATE`, `OP_1` … `OP_16` push the number they stand for; `OP_RESERVED`, which lies between them, fails -/
theorem execOpcode_smallInt_ofNat (cx : Ctx) (e : SEE) (fExec : Bool) (pc : Bytes) (n : Nat)
    (hlo : Op.OP_PUSHDATA4 < n) (hhi : n ≤ Op.OP_16) :
    execOpcode cx e (Opcode.ofNat n) fExec pc =
      if n = 80 then fail .BAD_OPCODE else sizeCheck { e with stack := e.stack ++ [serialize ((n : Int) - 80)] } := by
  by_cases h80 : n = 80
  · subst h80; rfl
  · simp only [Op.OP_PUSHDATA4, Op.OP_16] at hlo hhi
    rw [if_neg h80, Refine.execOpcode_smallInt (smallInt_ofNat n (by omega) (by omega) h80)]

theorem payloadOf_smallInt (g : GotOp) (hlo : 78 < g.opcode) (hhi : g.opcode ≤ 96) (h80 : g.opcode ≠ 80) :
    payloadOf g = serialize ((g.opcode : Int) - 80) := by
  unfold payloadOf
  simp only [Op.OP_1, Op.OP_16, Op.OP_1NEGATE]
  by_cases h : 81 ≤ g.opcode
  · rw [if_pos (by simp; omega), show ((g.opcode : Int) - 80) = ((g.opcode - 80 : Nat) : Int) by omega,
      Proofs.C18.serialize_small _ (by omega), if_neg (by omega)]
  · rw [if_neg (by simp; omega), if_pos (by simp; omega), show ((g.opcode : Int) - 80) = -1 by omega,
      Proofs.C18.serialize_neg_one]

theorem payloadOf_push (g : GotOp) (h : g.opcode ≤ 78) : payloadOf g = g.data := by
  unfold payloadOf
  simp only [Op.OP_1, Op.OP_16, Op.OP_1NEGATE]
  rw [if_neg (by simp; omega), if_neg (by simp; omega)]

theorem step_pushonly (cx : Ctx) (e : SEE) (pc : Bytes) (g : GotOp) (hg : getOp pc = some g) (hall : e.cond.allTrue = true)
    (hop : g.opcode ≤ Op.OP_16) :
    Post (step cx e pc) (fun r => r.1.stack = e.stack ++ [payloadOf g] ∧ r.1.cond = e.cond) := by
  by_cases hlo : g.opcode ≤ Op.OP_PUSHDATA4
  · refine post_mono (step_push_exec hg hlo hall) fun r ⟨n, hr⟩ => ?_
    rw [hr, payloadOf_push g hlo]
    exact ⟨rfl, rfl⟩
  · rw [Refine.step_eq hg]
    refine post_ite _ _ _ _ (post_fail _ _) (post_bind_ok fun e1 h1 => ?_)
    obtain ⟨n, rfl⟩ := Refine.countOp_ok_cases h1
    refine post_ite _ _ _ _ (post_fail _ _) (post_ite _ _ _ _ (post_fail _ _) ?_)
    simp only [Op.OP_PUSHDATA4, Op.OP_16, hall, Bool.true_and, Bool.true_or, if_true, decide_eq_true_eq] at hop hlo ⊢
    rw [if_neg hlo, execOpcode_smallInt_ofNat cx _ true g.rest g.opcode (by simp only [Op.OP_PUSHDATA4]; omega) hop]
    by_cases h80 : g.opcode = 80
    · rw [if_pos h80]; exact post_fail _ _
    · rw [if_neg h80, payloadOf_smallInt g (by omega) hop h80]
      exact post_bind _ (post_sizeCheck _ (· = _) rfl) fun e' he' => post_pure _ _ (by subst he'; exact ⟨rfl, rfl⟩)

theorem isPushOnly_ops (s : Bytes) : isPushOnly s = true → ∀ p ∈ decodeFrom s, p.2.opcode ≤ Op.OP_16 := by
  induction s using decodeFrom.induct with
  | case1 s hg => intro _ p hp; rw [decodeFrom_none hg] at hp; cases hp
  | case2 s g hg ih =>
    intro hv p hp
    rw [isPushOnly] at hv
    rw [decodeFrom_some hg] at hp
    split at hv
    · rename_i h; rw [hg] at h; cases h
    · rename_i g' hg'
      obtain rfl : g = g' := Option.some.inj (hg.symm.trans hg')
      split at hv
      · cases hv
      · rcases List.mem_cons.mp hp with rfl | hp'
        · simp only; omega
        · exact ih hv p hp'

end Btcdeb.Model
