/-
  The transaction signature checker of a `--tx` session (`TransactionSignatureChecker(tx, nIn, amount, txdata,
  MissingDataBehavior::FAIL)`) never ends abnormally on the calls the interpreter makes in a session:
  `SignatureHashSchnorr` asserts the signature version, `in_pos < vin.size()`, `m_annex_init`, and for tapscript
  `m_tapleaf_hash_init` / `m_codeseparator_pos_init`; `HandleMissingData(FAIL)` returns false.  That is `CheckerNoAbnOn`
  (`txCheckerWith_noabn`); `CheckerNoAbn` of NoAbnormal.lean, which asks it of every call, this checker does not satisfy.
-/
import Btcdeb
import BtcdebProofs.Lemmas.NoAbnormalOn
namespace Btcdeb.Model
open Btcdeb

theorem schnorrSighashM_noabn (cr : SigCrypto) (ed : ExecData) (tx : Tx) (nIn ht : Nat) (sv : SigVersion)
    (cache : PrecomputedTxData) (hin : nIn < tx.vin.length) (hr : SchnorrReady sv ed) :
    NoAbn (schnorrSighashM cr ed tx nIn ht sv cache .fail) := by
  obtain ⟨hsv, ha, ht'⟩ := hr
  have h2 : ¬ (nIn ≥ tx.vin.length) := by omega
  unfold schnorrSighashM
  rcases hsv with rfl | rfl
  · simp only [ne_eq, not_true_eq_false, false_and, if_false, h2, handleMissingData, ha, Bool.not_true,
      Bool.false_eq_true, show (SigVersion.TAPROOT == SigVersion.TAPSCRIPT) = false from rfl]
    repeat' (first | apply noabn_ok | apply noabn_ite)
  · obtain ⟨hl, hc⟩ := ht' rfl
    simp only [ne_eq, not_true_eq_false, and_false, if_false, h2, handleMissingData, ha, hl, hc, Bool.not_true,
      Bool.false_eq_true, show (SigVersion.TAPSCRIPT == SigVersion.TAPSCRIPT) = true from rfl, if_true]
    repeat' (first | apply noabn_ok | apply noabn_ite)

theorem checkSchnorrSignatureM_noabn (cr : SigCrypto) (tx : Tx) (nIn : Nat) (txdata : PrecomputedTxData)
    (sig key : Bytes) (sv : SigVersion) (ed : ExecData) (hin : nIn < tx.vin.length) (hr : SchnorrReady sv ed) :
    NoAbn (checkSchnorrSignatureM cr tx nIn txdata .fail sig key sv ed) := by
  have h1 : ¬ (sv ≠ .TAPROOT ∧ sv ≠ .TAPSCRIPT) := by
    rcases hr.1 with h | h <;> simp [h]
  unfold checkSchnorrSignatureM
  simp only [h1, if_false]
  apply noabn_ite; · exact noabn_exc _
  apply noabn_ite; · exact noabn_fail _
  apply noabn_ite; · exact noabn_fail _
  have hs := schnorrSighashM_noabn cr ed tx nIn (if sig.length = 65 then (sig.getLast?.getD 0).toNat else Gen.SIGHASH_DEFAULT)
    sv txdata hin hr
  intro k h
  split at h
  · rename_i e he
    cases h
    exact hs k he
  · cases h
  · repeat' (split at h)
    all_goals (first | cases h | (simp [fail] at h))

theorem txCheckerWith_noabn (cr : SigCrypto) (base : Ctx) (tx : Tx) (nIn : Nat) (amount : Int) (txdata : PrecomputedTxData)
    (hin : nIn < tx.vin.length) : CheckerNoAbnOn (txCheckerWith cr base tx nIn amount txdata) := by
  intro sig key sv ed hr
  exact checkSchnorrSignatureM_noabn cr tx nIn txdata sig key sv ed hin hr

/-- the ECDSA side of the checker, unabridged (`checkECDSASignatureM`; the `Ctx` field is its Boolean answer):
    `SignatureHash` asserts `nIn < vin.size()` and nothing else -/
theorem checkECDSASignatureM_noabn (cr : SigCrypto) (tx : Tx) (nIn : Nat) (amount : Int) (txdata : PrecomputedTxData)
    (sig key code : Bytes) (sv : SigVersion) (hin : nIn < tx.vin.length) :
    NoAbn (checkECDSASignatureM cr tx nIn amount txdata .fail sig key code sv) := by
  intro k h
  unfold checkECDSASignatureM at h
  split at h
  · cases h
  · split at h
    · cases h
    · split at h
      · simp [handleMissingData] at h
      · unfold signatureHash at h
        have h2 : ¬ (nIn ≥ tx.vin.length) := by omega
        simp only [h2, if_false] at h
        split at h
        · rename_i hq; split at hq <;> cases hq
        · cases h

end Btcdeb.Model
