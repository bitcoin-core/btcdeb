/-
  Lemmas for the transaction part of C06, in two namespaces.
  `TapSpend.M`, the model side: the signature hash `Tap.calcSighash` reports for a single-input spend of a P2TR output (key path,
  script path; what `configure_tx_txin` answers on them is `Shapes.configureTxTxin_native` with `configureWitness_keypath` /
  `configureWitness_tapscript`), as the BIP341/342 digest.
  `TapSpend.S`, the specification side: the P2TR output script, the key path and a `<32-byte key> OP_CHECKSIG` leaf under `Spec.verifyScript`.
-/
import Btcdeb.Model.Tap
import Btcdeb.Spec.Verify
import Btcdeb.Spec.TxOracle
import BtcdebProofs.Properties.Sighash
import BtcdebProofs.Lemmas.SpecVerify
import BtcdebProofs.Lemmas.Tce
namespace Btcdeb.Proofs.TapSpend.M
open Btcdeb Btcdeb.Model Btcdeb.Model.Tap

theorem looksTaproot_p2tr (spent : TxOut) (key : Bytes) (hspk : spent.scriptPubKey = 0x51 :: 0x20 :: key) (hk : key.length = 32) :
    looksTaproot spent = true := by
  simp [looksTaproot, hspk, hk, Gen.WITNESS_V1_TAPROOT_SIZE, byteAt, Op.OP_1]

/-- `calc_sighash` on a single-input spend with an empty scriptSig and witness data for which `configure_tx_txin` (here
    `configureWitness` on the scriptPubKey) answered `c`, with a taproot signature version and execution data that match the
    message extension `ext`: the BIP341 digest, hash type 0x00, over the one spent output -/
theorem calcSighash_configured (h : HashCtx) (tc : TapCtx) (cr : SigCrypto) (tx txin : Tx) (inp : TxIn) (vout : Nat) (spent : TxOut)
    (wlast : Bytes) (c : Configured) (ext : Option Spec.TapExt)
    (hv : tx.vin = [inp]) (hs : txin.vout[vout]? = some spent) (hss : inp.scriptSig = []) (hw : inp.witness.getLast? = some wlast)
    (hc : Shapes.configureWitness h tc inp.witness wlast spent.value spent.scriptPubKey = some c)
    (hr : c.hasPreamble = true ∨ (inp.witness ≠ [] ∧ looksTaproot spent = true))
    (hp : Btcdeb.Proofs.Sighash.SchnorrPre cr { c.execdata with codesepPos := 0xFFFFFFFF, codesepPosInit := true } tx 0 none ext
      c.sigver) :
    calcSighash h tc cr tx txin 0 vout = .ok (Spec.bip341Digest cr.sha256 tx 0 0 [spent] none ext) := by
  have hsv : (if (c.sigver == SigVersion.BASE) = true then SigVersion.TAPROOT else c.sigver) = c.sigver := by
    have := hp.extOk
    cases ext <;> simp only at this <;> simp [this]
  unfold calcSighash
  rw [Shapes.configureTxTxin_native (by rw [hv]; rfl) hs hss hw, hc]
  simp only [List.getD_eq_getElem?_getD, hs, Option.getD_some]
  rw [if_neg (by simp [hv])]
  obtain ⟨d, hd, r1, r2, hso, hcoh⟩ := Btcdeb.Proofs.Sighash.precomputeInit_single_input_ready cr tx inp spent c.hasPreamble hv hr
  unfold calcSighashTxData
  rw [hd]
  simp only [hsv]
  obtain ⟨oh, hsig, _⟩ := Btcdeb.Proofs.Sighash.schnorrSighashM_eq_spec cr _ tx 0 0 c.sigver d .fail none ext (by simp [hv])
    hcoh r1 r2 hp
  rw [hsig, if_pos (Sighash.bip341Defined_default tx 0), hso]

theorem calcSighash_keypath (h : HashCtx) (tc : TapCtx) (cr : SigCrypto) (tx txin : Tx) (inp : TxIn) (vout : Nat) (spent : TxOut)
    (key sig : Bytes) (hv : tx.vin = [inp]) (hss : inp.scriptSig = []) (hw : inp.witness = [sig])
    (hs : txin.vout[vout]? = some spent) (hspk : spent.scriptPubKey = 0x51 :: 0x20 :: key) (hk : key.length = 32) :
    calcSighash h tc cr tx txin 0 vout = .ok (Spec.bip341Digest cr.sha256 tx 0 0 [spent] none none) :=
  calcSighash_configured h tc cr tx txin inp vout spent sig _ none hv hs hss (by rw [hw]; rfl)
    (by rw [hspk]; exact Shapes.configureWitness_keypath h tc key sig sig _ _ hk (by rw [hw]; rfl)) (Or.inl rfl)
    ⟨rfl, by rw [hw]; rfl, (by intro a ha; cases ha), rfl, Or.inl rfl⟩

theorem calcSighash_scriptpath (h : HashCtx) (tc : TapCtx) (cr : SigCrypto) (tx txin : Tx) (inp : TxIn) (vout : Nat) (spent : TxOut)
    (key : Bytes) (pre : List Bytes) (script control : Bytes)
    (hv : tx.vin = [inp]) (hss : inp.scriptSig = []) (hw : inp.witness = pre ++ [script, control])
    (hs : txin.vout[vout]? = some spent) (hspk : spent.scriptPubKey = 0x51 :: 0x20 :: key) (hk : key.length = 32)
    (m : Nat) (hcl : control.length = 33 + 32 * m) (hm : m ≤ 128)
    (hc0 : byteAt control 0 = 0xc0 ∨ byteAt control 0 = 0xc1)
    (hpl : pre.length ≤ 1000) (hpi : ∀ x ∈ pre, x.length ≤ 520) (hvo : hasValidOps script = true) :
    calcSighash h tc cr tx txin 0 vout =
      .ok (Spec.bip341Digest cr.sha256 tx 0 0 [spent] none
            (some { leafHash := (Tce.init tc control key script).leaf, codesepPos := 0xFFFFFFFF })) := by
  have hann : Shapes.hasAnnexM inp.witness control = false := by
    rcases hc0 with h0 | h0 <;> simp [Shapes.hasAnnexM, h0, Gen.ANNEX_TAG]
  have hmask : (byteAt control 0 &&& Gen.TAPROOT_LEAF_MASK != Gen.TAPROOT_LEAF_TAPSCRIPT) = false := by
    rcases hc0 with h0 | h0 <;> rw [h0] <;> decide
  have hany : (pre.any fun i => decide (i.length > Gen.MAX_SCRIPT_ELEMENT_SIZE)) = false := by
    simp [Gen.MAX_SCRIPT_ELEMENT_SIZE]; exact hpi
  have hc := Shapes.configureWitness_tapscript h tc key control control script inp.witness (pre ++ [script, control]) spent.value hk
    (by rw [hann, hw]; rfl) (by simp) (by simp)
  -- none of the refusals of `configure_tx_txin` fires: control size, leaf version, number and size of the items, `HasValidOps`
  have hdl : ((pre ++ [script, control]).dropLast).dropLast = pre := by simp
  simp only [(C05.C05_gate_bool control.length).2 ⟨m, hm, hcl⟩, hmask, hany, hvo, hann, hdl, Gen.MAX_STACK_SIZE,
    show ¬ pre.length > 1000 by omega, Bool.false_eq_true, Bool.not_true, if_false] at hc
  exact calcSighash_configured h tc cr tx txin inp vout spent control _ _ hv hs hss (by rw [hw]; simp) (by rw [hspk]; exact hc)
    (Or.inr ⟨by rw [hw]; simp, looksTaproot_p2tr spent key hspk hk⟩)
    ⟨rfl, rfl, (by intro a ha; cases ha), ⟨rfl, rfl, rfl, rfl, rfl⟩, Or.inl rfl⟩

/-- For a P2TR output spent with an empty scriptSig, `configure_tx_txin` answers with one of three sessions, and the
    execution data carry the initialisation flags `SignatureHashSchnorr` asserts for that signature version: a legacy
    session only without witness data (and then without preamble), else key path (annex fields set) or script path
    (annex fields and leaf hash set). -/
theorem configure_p2tr_execdata_ready (h : HashCtx) (tc : TapCtx) (tx txin : Tx) (idx vout : Nat) (sv0 : SigVersion)
    (inp : TxIn) (spent : TxOut) (key : Bytes)
    (hi : tx.vin[idx]? = some inp) (hss : inp.scriptSig = []) (hs : txin.vout[vout]? = some spent)
    (hspk : spent.scriptPubKey = 0x51 :: 0x20 :: key) (c : Configured)
    (hc : configureTxTxin h tc tx txin idx vout sv0 = some c) :
    (c.sigver = .BASE ∧ inp.witness = [] ∧ c.hasPreamble = false) ∨
    (c.sigver = .TAPROOT ∧ c.execdata.annexInit = true) ∨
    (c.sigver = .TAPSCRIPT ∧ c.execdata.annexInit = true ∧ c.execdata.tapleafHashInit = true) := by
  obtain ⟨inp', spent', hinp', hspent', ⟨hw, _, rfl⟩ | ⟨wlast, v, prog, hwl, hv, hcases⟩⟩ := Shapes.configureTxTxin_cases hc
  · rw [hi] at hinp'; cases hinp'
    exact Or.inl ⟨rfl, hw, rfl⟩
  rw [hi] at hinp'; cases hinp'
  rw [hs] at hspent'; cases hspent'
  rw [hss, Shapes.validationScript_nil, hspk] at hv
  cases hv
  rcases hcases with ⟨h0 | h0, _⟩ | ⟨_, _, hct⟩
  · cases h0
  · cases h0
  rcases Shapes.configureTaproot_some hct _ _ rfl rfl with ⟨_, rfl⟩ | ⟨_, _, _, _, _, _, _, _, _, _, rfl⟩
  · exact Or.inr (Or.inl ⟨rfl, rfl⟩)
  · exact Or.inr (Or.inr ⟨rfl, rfl, rfl⟩)

theorem calcSighash_never_abnormal_p2tr (h : HashCtx) (tc : TapCtx) (cr : SigCrypto) (tx txin : Tx) (idx vout : Nat)
    (inp : TxIn) (spent : TxOut) (key : Bytes)
    (hi : tx.vin[idx]? = some inp) (hss : inp.scriptSig = []) (hs : txin.vout[vout]? = some spent)
    (hspk : spent.scriptPubKey = 0x51 :: 0x20 :: key) (k : String) :
    calcSighash h tc cr tx txin idx vout ≠ .error (.step (.abnormal k)) := by
  unfold calcSighash
  cases hcfg : configureTxTxin h tc tx txin idx vout (if hasWitness tx then .WITNESS_V0 else .BASE) with
  | none => simp
  | some c =>
    have facts := configure_p2tr_execdata_ready h tc tx txin idx vout _ inp spent key hi hss hs hspk c hcfg
    simp only
    by_cases hn : tx.vin.length ≠ 1
    · rw [if_pos hn]; simp
    · rw [if_neg hn]
      obtain ⟨i0, hv⟩ := List.length_eq_one_iff.mp (Decidable.not_not.mp hn)
      rw [hv] at hi
      obtain ⟨rfl, rfl⟩ : idx = 0 ∧ i0 = inp := by
        cases idx with
        | zero => simpa using hi
        | succ n => simp at hi
      rw [List.getD_eq_getElem?_getD, hs, Option.getD_some]
      obtain ⟨d, hd⟩ := (Btcdeb.Proofs.Sighash.precomputeInit_ok cr tx [spent] c.hasPreamble).mpr (Or.inr (by simp [hv]))
      obtain ⟨_, f2, _, f4⟩ := Btcdeb.Proofs.Sighash.precomputeInit_flags cr tx [spent] c.hasPreamble d hd
      unfold calcSighashTxData
      rw [hd]
      simp only
      rcases facts with ⟨s1, s2, s3⟩ | ⟨s1, s2⟩ | ⟨s1, s2, s3⟩
      · -- legacy: nothing is ready, `SignatureHashSchnorr` returns false
        have hnr : d.bip341TaprootReady = false := by
          rw [f4, s3, hv]; simp [Btcdeb.Proofs.Sighash.uses341, s2]
        simp [s1, Btcdeb.Proofs.Sighash.schnorrSighashM_not_ready cr _ tx 0 0 .TAPROOT d (by simp) (by simp [hv]) (by simp [hnr])]
      · -- key path, and below script path: what `SignatureHashSchnorr` asserts are the initialisation flags of the execution
        -- data, which `configure_tx_txin` has set (`s2`, `s3`); every other way out is an ordinary failure or a digest
        simp only [s1]
        unfold schnorrSighashM
        by_cases hr : (d.bip341TaprootReady = false ∨ d.spentOutputsReady = false) <;>
          simp [hv, s2, handleMissingData, hr, Gen.SIGHASH_DEFAULT, Gen.SIGHASH_ALL, Gen.SIGHASH_SINGLE]
      · simp only [s1]
        unfold schnorrSighashM
        by_cases hr : (d.bip341TaprootReady = false ∨ d.spentOutputsReady = false) <;>
          simp [hv, s2, s3, handleMissingData, hr, Gen.SIGHASH_DEFAULT, Gen.SIGHASH_ALL, Gen.SIGHASH_SINGLE]

end Btcdeb.Proofs.TapSpend.M

namespace Btcdeb.Proofs.TapSpend.S
open Btcdeb Btcdeb.Spec Btcdeb.Proofs.Shapes Btcdeb.Proofs.SpecCore Btcdeb.Proofs.SpecEval

theorem keypath_roundtrip (p : Prims) (flags : Nat) (tx : Model.Tx) (spent : Model.TxOut) (q sig : Bytes)
    (hw : hasFlag flags Flag.WITNESS = true) (ht : hasFlag flags Flag.TAPROOT = true)
    (hq : q.length = 32) (hnz : toBool q = true) (hsl : sig.length = 64)
    (hver : p.schnorrVerify q (bip341Digest p.sha256 tx 0 0x00 [spent] none none) sig = true) :
    verifyScript (spendCtx p tx 0 spent.value [spent]) flags [] (0x51 :: 0x20 :: q) [sig] = .ok () := by
  have e3 : (((spendCtx p tx 0 spent.value [spent]).oracleFor .TAPROOT none none).schnorr sig q .TAPROOT 0xFFFFFFFF) = .ok () :=
    (Sighash.schnorrSigValid_64 _ _ _ _ _ _ _ sig q hsl).trans (if_pos hver)
  rw [C03.verify_native_prog _ flags 0x51 0x20 1 q [sig] (Or.inr ⟨rfl, rfl⟩) (by rw [hq]; rfl) (Or.inr hq) hw hnz,
    C03.vwp_keypath _ flags q sig sig [sig] hq ht rfl rfl]
  simp only [show C03.hasAnnexS [sig] sig = false from rfl, Bool.false_eq_true, if_false, e3]

theorem decode_pkchecksig (k : Bytes) (hk : k.length = 32) :
    decodePrefix (0x20 :: (k ++ [0xac])).length (0x20 :: (k ++ [0xac])) =
      ([(⟨0x20, k⟩, [0xac]), (⟨0xac, []⟩, [])], true) := by
  rw [Refine.decodePrefix_step (Refine.decodeOne_push 0x20 k [0xac] (by decide) (by rw [hk]; rfl)),
    Refine.decodePrefix_step (Refine.decodeOne_op 0xac [] (by decide)), decodePrefix_nil]
  rfl

theorem eval_pkchecksig (cfg : Cfg) (k sig : Bytes) (w : Int) (hk : k.length = 32) (hsv : cfg.sigversion = .TAPSCRIPT)
    (hpre : cfg.pretend = []) (hsig : sig ≠ []) (hwt : 50 ≤ w)
    (hor : cfg.oracle.schnorr sig k .TAPSCRIPT 0xFFFFFFFF = .ok ()) :
    (evalScript cfg (0x20 :: (k ++ [0xac])) { stack := [sig], weightLeft := w, weightInit := true }).result =
      .ok { codeFrom := 0x20 :: (k ++ [0xac]), stack := [[1]], weightLeft := w - 50, weightInit := true } := by
  have hne : sig.isEmpty = false := by cases sig <;> simp_all
  have hkne : k.isEmpty = false := by cases k <;> simp_all
  have hw2 : ¬ (w - 50 < 0) := by omega
  rw [evalScript_result, if_neg (by rw [hsv]; exact Bool.false_ne_true),
    evalFrom_push cfg 0x20 k [0xac] _ _ (by decide) (by rw [hk]; rfl) rfl
      (by have := minimalPush_direct k (by omega) (by omega); rw [hk] at this; exact this) (Nat.le_of_ble_eq_true rfl),
    evalFrom_op cfg 0xac [] _ _ (by decide) rfl (by decide) (by decide),
    show countOp cfg (0xac : UInt8).toNat _ = .ok _ from if_neg (by simp [hsv]), Btcdeb.ok_bind,
    show Opcode.ofNat (0xac : UInt8).toNat = .OP_CHECKSIG by decide, Refine.execOp_CHECKSIG]
  -- the signature check of tapscript: no mock signature (`hpre`); a non-empty signature takes 50 from the budget, which is
  -- there (`hw2`); the key has 32 bytes, so the oracle is asked (`hor`)
  simp only [checkSig, mockHit, pairListed, hpre, List.contains_nil, hsv, Bool.false_eq_true, if_false, hne, Bool.not_false,
    if_true, hw2, hkne, hk, pure_bind, hor, Btcdeb.ok_bind]
  rw [checkSize_of_le (Nat.le_of_ble_eq_true rfl), Btcdeb.ok_bind, evalFrom_nil]
  rfl

theorem executeWitnessScript_pkchecksig (cx : SpendCtx) (flags : Nat) (leaf k sig : Bytes) (w : Int) (hk : k.length = 32) (hsl : sig.length = 64)
    (hwt : 50 ≤ w)
    (hor : (cx.oracleFor .TAPSCRIPT none (some leaf)).schnorr sig k .TAPSCRIPT 0xFFFFFFFF = .ok ()) :
    executeWitnessScript cx flags .TAPSCRIPT none (some leaf) [sig] (0x20 :: (k ++ [0xac])) w = .ok () := by
  have hdec := decode_pkchecksig k hk
  have e3 := eval_pkchecksig (C03.specCfg cx flags .TAPSCRIPT none (some leaf)) k sig w hk rfl rfl
    (by intro h0; subst h0; simp at hsl) hwt hor
  -- `ExecuteWitnessScript` in normal form: none of its refusals fires (the script decodes, has no OP_SUCCESS, and there is one
  -- item of 64 bytes); the script leaves `[1]` (`e3`), one true element, which `ewsFinal` accepts
  rw [C03.ews_eq cx flags .TAPSCRIPT none (some leaf) [sig] _ w (Or.inr rfl)
      (fun _ => by unfold hasOpSuccess; rw [hdec]; simp [isOpSuccess]), hdec, C03.runScript_eq]
  simp [maxStackSize, maxElementSize, hsl, e3, C03.ewsFinal, show toBool [1] = true by decide]

theorem scriptpath_roundtrip (p : Prims) (flags : Nat) (tx : Model.Tx) (spent : Model.TxOut) (q k sig control : Bytes)
    (hw : hasFlag flags Flag.WITNESS = true) (ht : hasFlag flags Flag.TAPROOT = true)
    (hq : q.length = 32) (hnz : toBool q = true) (hk : k.length = 32) (hsl : sig.length = 64)
    (hc0 : (control.headD 0).toNat = 0xc0 ∨ (control.headD 0).toNat = 0xc1)
    (hvalid : bip341Valid p.tap control (0x20 :: (k ++ [0xac])) q = true)
    (hver : p.schnorrVerify k (bip341Digest p.sha256 tx 0 0x00 [spent] none
              (some { leafHash := tapLeafHash p.tap 0xc0 (0x20 :: (k ++ [0xac])), codesepPos := 0xFFFFFFFF })) sig = true) :
    verifyScript (spendCtx p tx 0 spent.value [spent]) flags [] (0x51 :: 0x20 :: q) [sig, 0x20 :: (k ++ [0xac]), control] = .ok () := by
  have hsz : (decide (control.length < 33) || decide (control.length > 33 + 32 * 128) || (control.length - 33) % 32 != 0) = false := by
    rw [TapTree.bip341Valid_eq] at hvalid
    simp only [Bool.and_eq_true, decide_eq_true_eq, beq_iff_eq] at hvalid
    have := hvalid.1
    simp only [Bool.or_eq_false_iff, decide_eq_false_iff_not, bne_eq_false_iff_eq]
    omega
  have hann : C03.hasAnnexS [sig, 0x20 :: (k ++ [0xac]), control] control = false := by
    cases control with
    | nil => rfl
    | cons c0 rest =>
      have : c0 ≠ 0x50 := by rintro rfl; rcases hc0 with h | h <;> cases h
      simp [C03.hasAnnexS, this]
  have hlv : ((control.headD 0).toNat - (control.headD 0).toNat % 2 == 0xc0) = true := by
    rcases hc0 with h | h <;> rw [h] <;> rfl
  rw [C03.verify_native_prog _ flags 0x51 0x20 1 q _ (Or.inr ⟨rfl, rfl⟩) (by rw [hq]; rfl) (Or.inr hq) hw hnz,
    C03.vwp_tapscript _ flags q control control (0x20 :: (k ++ [0xac])) _ [sig, 0x20 :: (k ++ [0xac]), control]
      hq ht rfl (by rw [hann]; rfl) rfl rfl]
  have htap : (spendCtx p tx 0 spent.value [spent]).tap = p.tap := rfl
  simp only [hsz, htap, hvalid, hlv, hann, Bool.not_true, Bool.false_eq_true, if_false, if_true]
  have hlv' : (control.headD 0).toNat - (control.headD 0).toNat % 2 = 0xc0 := by simpa using hlv
  rw [hlv']
  exact executeWitnessScript_pkchecksig (spendCtx p tx 0 spent.value [spent]) flags _ k sig _ hk hsl (by omega)
    ((Sighash.schnorrSigValid_64 _ _ _ _ _ _ _ sig k hsl).trans (if_pos hver))

end Btcdeb.Proofs.TapSpend.S
