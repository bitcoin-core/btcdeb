/-
  Well-formedness of the compressed condition stack (`m_first_false_pos < m_stack_size` whenever there is a
  false entry) is kept by every `CondStack.Moved` (Frame.lean: all an operation does to it).  Consequence used for C15:
  an empty condition stack means "executing" (`allTrue`), so the first operation of a script that starts right after a
  hand-over is really executed.
-/
import Btcdeb
import BtcdebProofs.Lemmas.Frame
namespace Btcdeb.Model
open Btcdeb

def CondStack.Wf (c : CondStack) : Prop := ∀ p, c.firstFalse = some p → p < c.size

theorem CondStack.wf_default : ({} : CondStack).Wf := by intro p h; cases h

theorem CondStack.allTrue_of_empty {c : CondStack} (hw : c.Wf) (he : c.empty = true) : c.allTrue = true := by
  cases hf : c.firstFalse with
  | none => simp [CondStack.allTrue, hf]
  | some p =>
    have := hw p hf
    simp [CondStack.empty] at he
    omega

theorem CondStack.pushBack_wf (c : CondStack) (f : Bool) (hw : c.Wf) : (c.pushBack f).Wf := by
  intro p hp
  simp only [CondStack.pushBack] at hp ⊢
  split at hp
  · cases hp; omega
  · have := hw p hp; omega

theorem CondStack.popBack_wf (c : CondStack) (hw : c.Wf) : c.popBack.Wf := by
  intro p hp
  simp only [CondStack.popBack] at hp ⊢
  split at hp
  · cases hp
  · rename_i hne
    have := hw p hp
    have : p ≠ c.size - 1 := by
      intro h; apply hne; rw [hp, h]; simp
    omega

theorem CondStack.toggleTop_wf (c : CondStack) (hw : c.Wf) (hne : c.empty = false) : c.toggleTop.Wf := by
  have hpos : 0 < c.size := by
    simp [CondStack.empty] at hne; omega
  intro p hp
  unfold CondStack.toggleTop at hp ⊢
  split at hp
  · simp only at hp ⊢; cases hp; omega
  · rename_i q hq
    split at hp
    · simp only at hp; cases hp
    · rename_i hne2
      split
      · rename_i h; exact absurd h hne2
      · exact hw p hp

theorem CondStack.Moved.wf {c c' : CondStack} (h : c.Moved c') (hw : c.Wf) : c'.Wf := by
  cases h with
  | same => exact hw
  | push f => exact c.pushBack_wf f hw
  | pop => exact c.popBack_wf hw
  | toggle hne => exact c.toggleTop_wf hw hne

end Btcdeb.Model
