/-
  The initialisation flags of `ScriptExecutionData` (`m_tapleaf_hash_init`, `m_codeseparator_pos_init`,
  `m_annex_init`, `m_validation_weight_left_init`) are never changed by an operation: a successful step only
  changes `codesepPos` and `weightLeft`.  So whatever `configure_tx_txin` / `setup_environment` initialised
  stays initialised (`EdReady.of_moved`).  In particular the `assert` on `m_validation_weight_left_init` in
  `EvalChecksigTapscript` can only fire if the session was set up without the signature budget: the hypothesis
  `e.sigversion = .TAPSCRIPT → weightInit = true` of the refinement lemmas.
-/
import Btcdeb
import BtcdebProofs.Lemmas.Frame
namespace Btcdeb.Model
open Btcdeb

/-- what `SignatureHashSchnorr` (annex; for a tapscript also leaf hash and code separator position) and
    `EvalChecksigTapscript` (signature budget) `assert` to be initialised; a `BASE` / `WITNESS_V0` session reaches
    none of these assertions -/
def EdReady (sv : SigVersion) (ed : ExecData) : Prop :=
  (sv = .TAPROOT → ed.annexInit = true) ∧
  (sv = .TAPSCRIPT → ed.annexInit = true ∧ ed.tapleafHashInit = true ∧ ed.codesepPosInit = true ∧ ed.weightInit = true)

theorem edReady_base (ed : ExecData) : EdReady .BASE ed := ⟨nofun, nofun⟩

theorem EdReady.of_moved {sv : SigVersion} {ed ed' : ExecData} (h : EdReady sv ed) (hm : ed.Moved ed') :
    EdReady sv ed' := by
  obtain ⟨_, _, rfl⟩ := hm
  exact h

theorem step_weightInit (cx : Ctx) (e : SEE) (pc : Bytes) :
    Post (step cx e pc) (fun r => r.1.execdata.weightInit = e.execdata.weightInit) :=
  post_mono (step_changes cx e pc) fun _ h => by
    obtain ⟨_, _, h⟩ := h.execdata
    rw [h]

end Btcdeb.Model
