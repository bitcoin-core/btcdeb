/-
  Small facts about the shapes `configure_tx_txin` / `setup_environment` / `VerifyScript` look at:
  push-only scripts, the P2SH pattern, what `setup_environment` builds; and `configure_tx_txin` itself, cut into the
  choice of the script that carries the witness program (`validationScript`) and what is configured for that
  program (`configureWitness`, `configureTaproot`), with what each computes on the programs it accepts and the
  converse (`configureTxTxin_some`); and what `parse_input_transaction` answers with (`parseInputTransaction_some`).  The
  comparisons of the model's scans with the specification go along `GetScriptOp` (`decodePrefix_getOp`, `getOp_induction` in
  Lemmas/Instr.lean).
-/
import Btcdeb
import BtcdebProofs.Properties.Tables
import BtcdebProofs.Lemmas.Instr
import BtcdebProofs.Lemmas.Session
import BtcdebProofs.Refine.Encodings
namespace Btcdeb.Proofs.Shapes
open Btcdeb Btcdeb.Model Btcdeb.Refine

theorem isPushOnly_eq (s : Bytes) : Model.isPushOnly s = Spec.isPushOnly s := by
  have key : ∀ s, Model.isPushOnly s = ((Spec.decodePrefix s.length s).2 &&
      (Spec.decodePrefix s.length s).1.all (fun p => decide (p.1.opcode ≤ 0x60))) := by
    refine getOp_induction fun s ih => ?_
    rw [Model.isPushOnly, decodePrefix_getOp]
    cases hg : getOp s with
    | none => simp
    | some g =>
      simp only [List.all_cons]
      rw [ih g hg]
      by_cases h1 : g.opcode > Op.OP_16
      · have : ¬ g.opcode ≤ 0x60 := by simp [Op.OP_16] at h1; omega
        simp [h1, this]
      · have : g.opcode ≤ 0x60 := by simp [Op.OP_16] at h1; omega
        simp [h1, this]
  rw [key]
  unfold Spec.isPushOnly Spec.decode Spec.decodeWithRest
  cases hd : (Spec.decodePrefix s.length s).2
  · simp [hd]
  · simp [hd, List.all_map]; rfl

theorem isPayToScriptHash_eq (s : Bytes) : isPayToScriptHash s = Spec.isP2SH s := rfl

theorem byteAt_eq (s : Bytes) (i : Nat) (b : UInt8) (h : s[i]? = some b) : byteAt s i = b.toNat := by
  simp [byteAt, h]

/-- what `setup_environment` builds for a session without mock signatures and without re-enabled opcodes -/
def setupEnv (stack : List Bytes) (script : Bytes) (flags : Nat) (sv : SigVersion) (succ : Bytes) (ed : ExecData)
    (tce : Option Tce) : IEnv :=
  { see := { script := script, pbegincodehash := script, stack := stack, flags := flags, sigversion := sv,
             requireMinimal := hasFlag flags Flag.MINIMALDATA, allowDisabled := false, execdata := ed,
             pretendMap := [], pretendKeys := [] },
    pc := script, done := script.isEmpty && succ.isEmpty && tce.isNone,
    isP2sh := sv == .BASE && p2shPattern flags script,
    p2shStack := if (sv == .BASE && p2shPattern flags script) = true then stack else [],
    successor := succ, tce := tce }

theorem setup_eq (stack : List Bytes) (script : Bytes) (flags : Nat) (sv : SigVersion) (succ : Bytes) (ed : ExecData)
    (tce : Option Tce) :
    setupEnvironment stack script flags sv succ false ed tce [] [] =
      if (sv != .TAPSCRIPT && decide (script.length > Gen.MAX_SCRIPT_SIZE)) = true then .error .SCRIPT_SIZE
      else if (!succ.isEmpty && hasFlag flags Flag.SIGPUSHONLY && !isPushOnly script) = true then .error .SIG_PUSHONLY
      else if (sv == .TAPSCRIPT && scanOpSuccess false script) = true then .error .DISCOURAGE_OP_SUCCESS
      else .ok (setupEnv stack script flags sv succ ed tce) :=
  setupEnvironment_eq ..

theorem setup_ok {stack : List Bytes} {script : Bytes} {flags : Nat} {sv : SigVersion} {succ : Bytes} {ed : ExecData}
    {tce : Option Tce} {e0 : IEnv}
    (h : setupEnvironment stack script flags sv succ false ed tce [] [] = .ok e0) :
    (sv != .TAPSCRIPT && decide (script.length > Gen.MAX_SCRIPT_SIZE)) = false ∧
    (!succ.isEmpty && hasFlag flags Flag.SIGPUSHONLY && !isPushOnly script) = false ∧
    (sv == .TAPSCRIPT && scanOpSuccess false script) = false ∧
    e0 = setupEnv stack script flags sv succ ed tce :=
  setupEnvironment_ok h

theorem isP2SH_head (s : Bytes) (h : Spec.isP2SH s = true) : ∃ rest, s = 0xa9 :: rest :=
  let ⟨_, hs, _⟩ := isP2SH_form s h; ⟨_, hs⟩

theorem isP2SH_length (s : Bytes) (h : Spec.isP2SH s = true) : s.length = 23 := by
  obtain ⟨hh, rfl, hl⟩ := isP2SH_form s h
  simp [hl]

theorem isP2SH_not_witprog (spk : Bytes) (h : Spec.isP2SH spk = true) : Spec.witnessProgram spk = none := by
  obtain ⟨rest, rfl⟩ := isP2SH_head spk h
  unfold Spec.witnessProgram
  cases rest with
  | nil => rfl
  | cons l prog =>
    simp only
    split
    · rfl
    · simp

theorem opSuccess_eq (i : Nat) : Gen.opSuccess.getD i false = Spec.isOpSuccess i := by
  obtain ⟨hlen, hall⟩ := Tables.op_success_table
  by_cases hi : i < 256
  · have := List.all_eq_true.mp hall i (List.mem_range.mpr hi)
    simpa using this
  · have h1 : Gen.opSuccess.getD i false = false := by
      rw [List.getD_eq_getElem?_getD, List.getElem?_eq_none (by omega)]; rfl
    rw [h1]
    unfold Spec.isOpSuccess
    have a : ¬ i = 80 := by omega
    have b : ¬ i = 98 := by omega
    simp [a, b]
    omega

theorem scanOpSuccess_eq (s : Bytes) : scanOpSuccess false s = Spec.hasOpSuccess false s := by
  unfold Spec.hasOpSuccess
  induction s using getOp_induction with
  | step s ih =>
    rw [scanOpSuccess, decodePrefix_getOp]
    cases hg : getOp s with
    | none => simp
    | some g =>
      simp only [List.any_cons, opSuccess_eq, Bool.false_and, Bool.not_false, Bool.and_true]
      rw [ih g hg]
      cases Spec.isOpSuccess g.opcode <;> simp

/-- the script `configure_tx_txin` reads the witness program from (its `validation`): the scriptPubKey, or — behind a
    scriptSig — the one push of the scriptSig that a pay-to-script-hash scriptPubKey commits to -/
def validationScript (h : HashCtx) (scriptSig scriptPubKey : Bytes) : Option Bytes :=
  if scriptSig.length > 0 then
    match getOp scriptSig with
    | none => none
    | some g1 =>
      if g1.data.length == 0 then none
      else if !g1.rest.isEmpty || scriptSig != pushData g1.data then none
      else
        match getOp scriptPubKey with
        | none => none
        | some s1 =>
          if s1.opcode != Op.OP_HASH160 || !isPayToScriptHash scriptPubKey then none
          else
            match getOp s1.rest with
            | none => none
            | some s2 =>
              if s2.data.length != 20 then none
              else if h.hash160 g1.data != s2.data then none
              else some g1.data
  else some scriptPubKey

/-- the annex test of `configure_tx_txin` -/
def hasAnnexM (w : List Bytes) (wlast : Bytes) : Bool :=
  w.length ≥ 2 && !wlast.isEmpty && byteAt wlast 0 == Gen.ANNEX_TAG

/-- the taproot branch of `configure_tx_txin`: key path or script path on the witness without its annex -/
def configureTaproot (h : HashCtx) (tc : TapCtx) (wstack : List Bytes) (wlast : Bytes) (amount : Int) (program : Bytes) :
    Option Configured :=
  let hasAnnex := hasAnnexM wstack wlast
  let stack := if hasAnnex then wstack.dropLast else wstack
  let ed : ExecData :=
    { annexInit := true, annexPresent := hasAnnex,
      annexHash := if hasAnnex then h.sha256 (compactSize wlast.length ++ wlast) else [] }
  if stack.length == 1 then
    let validation' := pushProgram program ++ [UInt8.ofNat Op.OP_CHECKSIG]
    if !hasValidOps validation' then none
    else some { sigver := .TAPROOT, script := validation', stack := wstack.take stack.length, amount := amount,
                execdata := ed, hasPreamble := true }
  else
    match stack.getLast?, stack.dropLast.getLast? with
    | some control, some leafScript =>
      let rest := stack.dropLast.dropLast
      if control.length < Gen.TAPROOT_CONTROL_BASE_SIZE || control.length > Gen.TAPROOT_CONTROL_MAX_SIZE ||
         (control.length - Gen.TAPROOT_CONTROL_BASE_SIZE) % Gen.TAPROOT_CONTROL_NODE_SIZE != 0 then none
      else
        let tce := Tce.init tc control program leafScript
        if (byteAt control 0) &&& Gen.TAPROOT_LEAF_MASK != Gen.TAPROOT_LEAF_TAPSCRIPT then none
        else if rest.length > Gen.MAX_STACK_SIZE then none
        else if rest.any (fun i => i.length > Gen.MAX_SCRIPT_ELEMENT_SIZE) then none
        else if !hasValidOps leafScript then none
        else
          let ed' := { ed with tapleafHash := tce.leaf, tapleafHashInit := true,
                               weightLeft := (witnessSerializeSize wstack + Gen.VALIDATION_WEIGHT_OFFSET : Nat),
                               weightInit := true }
          some { sigver := .TAPSCRIPT, script := leafScript, stack := wstack.take rest.length, amount := amount,
                 execdata := ed', tce := some tce }
    | _, _ => none

/-- `configure_tx_txin` once the script carrying the witness program is known -/
def configureWitness (h : HashCtx) (tc : TapCtx) (wstack : List Bytes) (wlast : Bytes) (amount : Int) (validation : Bytes) :
    Option Configured :=
  if validation.length != 22 && validation.length != 34 then none
  else
    let wsh := validation.length == 34
    match getOp validation with
    | none => none
    | some v1 =>
      if v1.opcode != Op.OP_0 && v1.opcode != Op.OP_1 then none
      else
        let witprogver := if v1.opcode == Op.OP_0 then 0 else 1
        match getOp v1.rest with
        | none => none
        | some v2 =>
          let program := v2.data
          if program.length != (if wsh then 32 else 20) then none
          else if witprogver == 0 then
            let hashOk := if wsh then h.sha256 wlast == program else h.hash160 wlast == program
            if !hashOk then none
            else
              let (validation', toStack, pre) :=
                if !wsh then
                  (([Op.OP_DUP, Op.OP_HASH160].map UInt8.ofNat) ++ pushProgram program ++ ([Op.OP_EQUALVERIFY, Op.OP_CHECKSIG].map UInt8.ofNat),
                   wstack.length, true)
                else (wlast, wstack.length - 1, false)
              if (wstack.take toStack).any (fun i => i.length > Gen.MAX_SCRIPT_ELEMENT_SIZE) then none
              else if !hasValidOps validation' then none
              else some { sigver := .WITNESS_V0, script := validation', stack := wstack.take toStack, amount := amount,
                          hasPreamble := pre }
          else if program.length != 32 then none
          else configureTaproot h tc wstack wlast amount program

theorem configureTxTxin_eq (h : HashCtx) (tc : TapCtx) (tx txin : Tx) (idx vout : Nat) (sv0 : SigVersion) :
    configureTxTxin h tc tx txin idx vout sv0 =
      match tx.vin[idx]?, txin.vout[vout]? with
      | some inp, some spent =>
        match inp.witness.getLast? with
        | none =>
          if hasValidOps inp.scriptSig then
            some { sigver := .BASE, script := inp.scriptSig, successor := spent.scriptPubKey, amount := spent.value }
          else none
        | some wlast =>
          (validationScript h inp.scriptSig spent.scriptPubKey).bind
            (configureWitness h tc inp.witness wlast spent.value)
      | _, _ => none := by
  unfold configureTxTxin
  cases tx.vin[idx]? with
  | none => rfl
  | some inp =>
    cases txin.vout[vout]? with
    | none => rfl
    | some spent =>
      simp only
      cases inp.witness.getLast? with
      | none => simp only; cases hasValidOps inp.scriptSig <;> rfl
      | some wlast =>
        simp only
        show (match validationScript h inp.scriptSig spent.scriptPubKey with
          | none => none
          | some validation => _) = _
        cases validationScript h inp.scriptSig spent.scriptPubKey with
        | none => rfl
        | some v => simp only [Option.bind]; rfl

theorem hasValidOps_nil : hasValidOps [] = true := by
  rw [hasValidOps]; simp [getOp]

theorem hasValidOps_op (b : UInt8) (rest : Bytes) (h : 0x4e < b.toNat) (hmax : b.toNat ≤ Gen.MAX_OPCODE) :
    hasValidOps (b :: rest) = hasValidOps rest := by
  rw [hasValidOps, getOp_op b rest h]
  have : ¬ (b.toNat > Gen.MAX_OPCODE ∨ 0 > Gen.MAX_SCRIPT_ELEMENT_SIZE) := by
    simp [Gen.MAX_SCRIPT_ELEMENT_SIZE]; omega
  simp only [List.length_nil, Bool.or_eq_true, decide_eq_true_eq, this, if_false]

theorem hasValidOps_push (b : UInt8) (data rest : Bytes) (h : b.toNat < 0x4c) (hl : data.length = b.toNat) :
    hasValidOps (b :: (data ++ rest)) = hasValidOps rest := by
  rw [hasValidOps, getOp_push_direct b data rest h hl]
  have : ¬ (b.toNat > Gen.MAX_OPCODE ∨ data.length > Gen.MAX_SCRIPT_ELEMENT_SIZE) := by
    simp [Gen.MAX_SCRIPT_ELEMENT_SIZE, Gen.MAX_OPCODE]; omega
  simp only [Bool.or_eq_true, decide_eq_true_eq, this, if_false]

theorem hasValidOps_p2pkh (prog : Bytes) (hp : prog.length = 20) : hasValidOps (Spec.p2pkhScript prog) = true := by
  show hasValidOps (0x76 :: 0xa9 :: 0x14 :: (prog ++ [0x88, 0xac])) = true
  rw [hasValidOps_op _ _ (by decide) (by decide), hasValidOps_op _ _ (by decide) (by decide),
    hasValidOps_push 0x14 prog _ (by decide) (by rw [hp]; rfl), hasValidOps_op _ _ (by decide) (by decide),
    hasValidOps_op _ _ (by decide) (by decide), hasValidOps_nil]

theorem hasValidOps_keypath (prog : Bytes) (hp : prog.length = 32) : hasValidOps (0x20 :: (prog ++ [0xac])) = true := by
  rw [hasValidOps_push 0x20 prog _ (by decide) (by rw [hp]; rfl), hasValidOps_op _ _ (by decide) (by decide), hasValidOps_nil]

/-- the script `configure_tx_txin` generates for P2WPKH is validation's implied script -/
theorem p2pkh_model_eq (prog : Bytes) (hp : prog.length = 20) :
    (([Op.OP_DUP, Op.OP_HASH160].map UInt8.ofNat) ++ pushProgram prog ++ ([Op.OP_EQUALVERIFY, Op.OP_CHECKSIG].map UInt8.ofNat)) =
      Spec.p2pkhScript prog := by
  simp [pushProgram, Spec.p2pkhScript, hp, Op.OP_DUP, Op.OP_HASH160, Op.OP_EQUALVERIFY, Op.OP_CHECKSIG]

theorem keypath_script_eq (prog : Bytes) (hp : prog.length = 32) :
    pushProgram prog ++ [UInt8.ofNat Op.OP_CHECKSIG] = 0x20 :: (prog ++ [0xac]) := by
  simp [pushProgram, hp, Op.OP_CHECKSIG]

theorem configureWitness_p2wsh (h : HashCtx) (tc : TapCtx) (wstack : List Bytes) (wlast : Bytes) (amount : Int)
    (prog : Bytes) (hp : prog.length = 32) :
    configureWitness h tc wstack wlast amount (0x00 :: 0x20 :: prog) =
      if h.sha256 wlast != prog then none
      else if wstack.dropLast.any (fun i => i.length > Gen.MAX_SCRIPT_ELEMENT_SIZE) then none
      else if !hasValidOps wlast then none
      else some { sigver := .WITNESS_V0, script := wlast, stack := wstack.dropLast, amount := amount } := by
  have g1 : getOp (0x00 :: 0x20 :: prog) = some { opcode := 0, data := [], rest := 0x20 :: prog } :=
    getOp_push_direct 0 [] (0x20 :: prog) (by decide) rfl
  have g2 : getOp (0x20 :: prog) = some { opcode := 0x20, data := prog, rest := [] } :=
    getOp_push_end 0x20 prog (by decide) (by rw [hp]; rfl)
  simp [configureWitness, g1, g2, hp, Op.OP_0, List.dropLast_eq_take]

theorem configureWitness_p2wpkh (h : HashCtx) (tc : TapCtx) (wstack : List Bytes) (wlast : Bytes) (amount : Int)
    (prog : Bytes) (hp : prog.length = 20) :
    configureWitness h tc wstack wlast amount (0x00 :: 0x14 :: prog) =
      if h.hash160 wlast != prog then none
      else if wstack.any (fun i => i.length > Gen.MAX_SCRIPT_ELEMENT_SIZE) then none
      else some { sigver := .WITNESS_V0, script := Spec.p2pkhScript prog, stack := wstack, amount := amount,
                  hasPreamble := true } := by
  have g1 : getOp (0x00 :: 0x14 :: prog) = some { opcode := 0, data := [], rest := 0x14 :: prog } :=
    getOp_push_direct 0 [] (0x14 :: prog) (by decide) rfl
  have g2 : getOp (0x14 :: prog) = some { opcode := 0x14, data := prog, rest := [] } :=
    getOp_push_end 0x14 prog (by decide) (by rw [hp]; rfl)
  have hm : UInt8.ofNat Op.OP_DUP :: UInt8.ofNat Op.OP_HASH160 ::
      (pushProgram prog ++ [UInt8.ofNat Op.OP_EQUALVERIFY, UInt8.ofNat Op.OP_CHECKSIG]) = Spec.p2pkhScript prog :=
    p2pkh_model_eq prog hp
  simp [configureWitness, g1, g2, hp, Op.OP_0, hm, hasValidOps_p2pkh prog hp]

theorem configureWitness_taproot (h : HashCtx) (tc : TapCtx) (wstack : List Bytes) (wlast : Bytes) (amount : Int)
    (prog : Bytes) (hp : prog.length = 32) :
    configureWitness h tc wstack wlast amount (0x51 :: 0x20 :: prog) = configureTaproot h tc wstack wlast amount prog := by
  have g1 : getOp (0x51 :: 0x20 :: prog) = some { opcode := 0x51, data := [], rest := 0x20 :: prog } :=
    getOp_op 0x51 _ (by decide)
  have g2 : getOp (0x20 :: prog) = some { opcode := 0x20, data := prog, rest := [] } :=
    getOp_push_end 0x20 prog (by decide) (by rw [hp]; rfl)
  simp [configureWitness, g1, g2, hp, Op.OP_0, Op.OP_1]

theorem configureWitness_tapscript (h : HashCtx) (tc : TapCtx) (prog wlast control leafScript : Bytes)
    (witness stack : List Bytes) (amount : Int) (hp : prog.length = 32)
    (hstack : stack = if hasAnnexM witness wlast then witness.dropLast else witness)
    (hctl : stack.getLast? = some control) (hleaf : stack.dropLast.getLast? = some leafScript) :
    configureWitness h tc witness wlast amount (0x51 :: 0x20 :: prog) =
      if (control.length < Gen.TAPROOT_CONTROL_BASE_SIZE || control.length > Gen.TAPROOT_CONTROL_MAX_SIZE ||
          (control.length - Gen.TAPROOT_CONTROL_BASE_SIZE) % Gen.TAPROOT_CONTROL_NODE_SIZE != 0) then none
      else if (byteAt control 0) &&& Gen.TAPROOT_LEAF_MASK != Gen.TAPROOT_LEAF_TAPSCRIPT then none
      else if stack.dropLast.dropLast.length > Gen.MAX_STACK_SIZE then none
      else if stack.dropLast.dropLast.any (fun i => i.length > Gen.MAX_SCRIPT_ELEMENT_SIZE) then none
      else if !hasValidOps leafScript then none
      else some { sigver := .TAPSCRIPT, script := leafScript, stack := stack.dropLast.dropLast, amount := amount,
                  execdata := { annexInit := true, annexPresent := hasAnnexM witness wlast,
                                annexHash := if hasAnnexM witness wlast then h.sha256 (compactSize wlast.length ++ wlast) else [],
                                tapleafHash := (Tce.init tc control prog leafScript).leaf, tapleafHashInit := true,
                                weightLeft := (witnessSerializeSize witness + Gen.VALIDATION_WEIGHT_OFFSET : Nat),
                                weightInit := true },
                  tce := some (Tce.init tc control prog leafScript) } := by
  have hl2 : (stack.length == 1) = false := by
    match stack, hleaf with
    | [a], hleaf => simp at hleaf
    | [], _ => rfl
    | _ :: _ :: _, _ => rfl
  have htake : witness.take stack.dropLast.dropLast.length = stack.dropLast.dropLast := by
    rw [hstack]
    split <;> simp [List.dropLast_eq_take, List.take_take] <;> omega
  rw [configureWitness_taproot _ _ _ _ _ _ hp]
  unfold configureTaproot
  simp only [← hstack, hl2, hctl, hleaf, htake]
  simp

theorem configureWitness_keypath (h : HashCtx) (tc : TapCtx) (prog wlast sg : Bytes) (witness : List Bytes) (amount : Int) (hp : prog.length = 32)
    (hstack : (if hasAnnexM witness wlast then witness.dropLast else witness) = [sg]) :
    configureWitness h tc witness wlast amount (0x51 :: 0x20 :: prog) =
      some { sigver := .TAPROOT, script := 0x20 :: (prog ++ [0xac]), stack := [sg], amount := amount,
             execdata := { annexInit := true, annexPresent := hasAnnexM witness wlast,
                           annexHash := if hasAnnexM witness wlast then h.sha256 (compactSize wlast.length ++ wlast) else [] },
             hasPreamble := true } := by
  have htake : witness.take 1 = [sg] := by
    split at hstack
    · rw [List.dropLast_eq_take] at hstack
      have hl : (witness.take (witness.length - 1)).length = 1 := by rw [hstack]; rfl
      simp only [List.length_take] at hl
      rwa [show witness.length - 1 = 1 by omega] at hstack
    · rw [hstack]; rfl
  rw [configureWitness_taproot _ _ _ _ _ _ hp]
  unfold configureTaproot
  simp only [hstack]
  simp [keypath_script_eq prog hp, hasValidOps_keypath prog hp, htake]

theorem pushOf_short (data : Bytes) (h75 : data.length ≤ 75) : Spec.pushOf data = UInt8.ofNat data.length :: data := by
  unfold Spec.pushOf
  have : data.length < 0x4c := by omega
  simp [this]

theorem isP2SH_of_bytes (hh : Bytes) (hl : hh.length = 20) : Spec.isP2SH (0xa9 :: 0x14 :: (hh ++ [0x87])) = true := by
  unfold Spec.isP2SH
  simp [hl]

theorem validationScript_nil (h : HashCtx) (spk : Bytes) : validationScript h [] spk = some spk := rfl

theorem configureTxTxin_legacy {h : HashCtx} {tc : TapCtx} {tx txin : Tx} {idx vout : Nat} {sv0 : SigVersion} {inp : TxIn}
    {spent : TxOut} (hinp : tx.vin[idx]? = some inp) (hspent : txin.vout[vout]? = some spent) (hw : inp.witness = []) :
    configureTxTxin h tc tx txin idx vout sv0 =
      if hasValidOps inp.scriptSig then
        some { sigver := .BASE, script := inp.scriptSig, successor := spent.scriptPubKey, amount := spent.value }
      else none := by
  rw [configureTxTxin_eq]
  simp only [hinp, hspent, hw, List.getLast?_nil]

theorem configureTxTxin_native {h : HashCtx} {tc : TapCtx} {tx txin : Tx} {idx vout : Nat} {sv0 : SigVersion} {inp : TxIn}
    {spent : TxOut} {wlast : Bytes} (hinp : tx.vin[idx]? = some inp) (hspent : txin.vout[vout]? = some spent)
    (hsig : inp.scriptSig = []) (hw : inp.witness.getLast? = some wlast) :
    configureTxTxin h tc tx txin idx vout sv0 = configureWitness h tc inp.witness wlast spent.value spent.scriptPubKey := by
  rw [configureTxTxin_eq]
  simp only [hinp, hspent, hw, hsig, validationScript_nil, Option.bind_some]

theorem validationScript_p2sh (h : HashCtx) (redeem hh : Bytes) (h0 : redeem ≠ []) (h75 : redeem.length ≤ 75)
    (hl : hh.length = 20) :
    validationScript h (Spec.pushOf redeem) (0xa9 :: 0x14 :: (hh ++ [0x87])) =
      if h.hash160 redeem != hh then none else some redeem := by
  have hb : (UInt8.ofNat redeem.length).toNat = redeem.length := by
    simp [UInt8.toNat_ofNat']; omega
  have hlen : redeem.length ≠ 0 := fun hz => h0 (List.length_eq_zero_iff.mp hz)
  have g0 : getOp (UInt8.ofNat redeem.length :: redeem) = some { opcode := redeem.length, data := redeem, rest := [] } := by
    have := getOp_push_end (UInt8.ofNat redeem.length) redeem (by rw [hb]; omega) hb.symm
    rwa [hb] at this
  have hpd : pushData redeem = UInt8.ofNat redeem.length :: redeem := by rw [pushData_eq, pushOf_short redeem h75]
  have gs1 : getOp (0xa9 :: 0x14 :: (hh ++ [0x87])) = some { opcode := 0xa9, data := [], rest := 0x14 :: (hh ++ [0x87]) } :=
    getOp_op 0xa9 _ (by decide)
  have gs2 : getOp (0x14 :: (hh ++ [0x87])) = some { opcode := 0x14, data := hh, rest := [0x87] } :=
    getOp_push_direct 0x14 hh [0x87] (by decide) (by rw [hl]; rfl)
  have hpat : isPayToScriptHash (0xa9 :: 0x14 :: (hh ++ [0x87])) = true := isP2SH_of_bytes hh hl
  simp [validationScript, pushOf_short redeem h75, g0, hpd, gs1, gs2, hpat, hl, hlen, Op.OP_HASH160]

theorem getOp_push_inv {s : Bytes} {g : GotOp} {n : Nat} (h : getOp s = some g) (hd : g.data.length = n)
    (hs : s.length = n + 1) (hn : 0 < n) :
    s = UInt8.ofNat n :: g.data ∧ g.rest = [] ∧ n < 0x4c := by
  have h := getOp_eq_some_iff.mp h
  cases s with
  | nil => cases h
  | cons b rest =>
    by_cases hle : b.toNat ≤ 0x4e
    · -- no room for a length field, nor for anything behind the data
      obtain ⟨lf, rfl, -, hlf, hdl⟩ := (decodeOne_push_iff hle).mp h
      simp only [List.length_cons, List.length_append, hd] at hs hdl
      obtain rfl : lf = [] := List.length_eq_zero_iff.mp (by omega)
      have hr : g.rest = [] := List.length_eq_zero_iff.mp (by omega)
      rw [List.length_nil, if_pos rfl] at hdl
      exact ⟨by rw [hdl, u8_ofNat_toNat, hr]; simp, hr, hdl ▸ pushLenBytes_eq_zero.mp hlf.symm⟩
    · rw [decodeOne_op b rest (by omega)] at h
      cases g
      cases h
      simp at hd
      omega

theorem validationScript_some {h : HashCtx} {sig spk v : Bytes} (hv : validationScript h sig spk = some v) :
    (sig = [] ∧ v = spk) ∨
    (sig ≠ [] ∧ sig = Spec.pushOf v ∧ v ≠ [] ∧
      ∃ hh, spk = 0xa9 :: 0x14 :: (hh ++ [0x87]) ∧ hh.length = 20 ∧ h.hash160 v = hh) := by
  unfold validationScript at hv
  by_cases hlen : sig.length > 0
  · rw [if_pos hlen] at hv
    right
    have hne : sig ≠ [] := by intro h0; rw [h0] at hlen; simp at hlen
    split at hv
    · cases hv
    next g1 hg1 =>
      split at hv
      · cases hv
      next hd0 =>
        split at hv
        · cases hv
        next hpush =>
          split at hv
          · cases hv
          next s1 hs1 =>
            split at hv
            · cases hv
            next hop =>
              split at hv
              · cases hv
              next s2 hs2 =>
                split at hv
                · cases hv
                next h20 =>
                  split at hv
                  · cases hv
                  next hhash =>
                    cases hv
                    simp only [Bool.or_eq_true, Bool.not_eq_true', bne_iff_ne, ne_eq, not_or, Decidable.not_not] at hpush
                    simp only [Bool.or_eq_true, Bool.not_eq_true', not_or, Bool.not_eq_false] at hop
                    obtain ⟨hh, hform, hhl⟩ := isP2SH_form _ hop.2
                    rw [hform, getOp_op 0xa9 _ (by decide)] at hs1
                    cases hs1
                    rw [getOp_push_direct 0x14 hh [0x87] (by decide) (by rw [hhl]; rfl)] at hs2
                    cases hs2
                    refine ⟨hne, by rw [hpush.2, pushData_eq], ?_, hh, hform, hhl, by simpa using hhash⟩
                    intro h0; rw [h0] at hd0; simp at hd0
  · rw [if_neg hlen] at hv
    exact Or.inl ⟨List.length_eq_zero_iff.mp (by omega), (Option.some.inj hv).symm⟩

theorem configureWitness_some {h : HashCtx} {tc : TapCtx} {wstack : List Bytes} {wlast : Bytes} {amount : Int}
    {v : Bytes} {c : Configured} (hc : configureWitness h tc wstack wlast amount v = some c) :
    ∃ prog, (v = 0x00 :: 0x14 :: prog ∧ prog.length = 20) ∨ (v = 0x00 :: 0x20 :: prog ∧ prog.length = 32) ∨
      (v = 0x51 :: 0x20 :: prog ∧ prog.length = 32) := by
  unfold configureWitness at hc
  by_cases hvlen : (v.length != 22 && v.length != 34) = true
  · rw [if_pos hvlen] at hc; cases hc
  rw [if_neg hvlen] at hc
  simp only [Bool.and_eq_true, bne_iff_ne, ne_eq, not_and, Decidable.not_not] at hvlen
  extract_lets wsh at hc
  split at hc
  · cases hc
  next v1 hv1 =>
    split at hc
    · cases hc
    next hop =>
      simp only [Bool.and_eq_true, bne_iff_ne, ne_eq, not_and, Decidable.not_not] at hop
      extract_lets witprogver at hc
      split at hc
      · cases hc
      next v2 hv2 =>
        extract_lets program at hc
        by_cases hpl : (program.length != if wsh = true then 32 else 20) = true
        · rw [if_pos hpl] at hc; cases hc
        rw [if_neg hpl] at hc
        have hprog : v2.data.length = if v.length = 34 then 32 else 20 := by
          have : ¬ (v2.data.length != if (v.length == 34) = true then 32 else 20) = true := hpl
          simpa only [bne_iff_ne, ne_eq, Decidable.not_not, beq_iff_eq] using this
        cases v with
        | nil => simp at hvlen
        | cons b vrest =>
          have hd1 := getOp_eq_some_iff.mp hv1
          have ho1 : v1.opcode = b.toNat := decodeOne_opcode hd1
          have hb01 : b.toNat = 0 ∨ b.toNat = 0x51 := by
            rw [← ho1]
            by_cases h0 : v1.opcode = Op.OP_0
            · exact Or.inl h0
            · exact Or.inr (hop h0)
          -- OP_0 and OP_1 take one byte
          have hr1 : v1.rest = vrest := by
            have := hd1.symm.trans (hb01.elim (fun h0 => decodeOne_push b [] vrest (by omega) (by simp [h0]))
              fun h1 => decodeOne_op b vrest (by omega))
            simp only [Option.some.injEq, Prod.mk.injEq] at this
            exact this.2
          rw [hr1] at hv2
          simp only [List.length_cons] at hvlen hprog
          have hvl : vrest.length = v2.data.length + 1 := by split at hprog <;> omega
          obtain ⟨hvr, _, _⟩ := getOp_push_inv hv2 rfl hvl (by split at hprog <;> omega)
          refine ⟨v2.data, ?_⟩
          rw [hvr]
          have hb : b = UInt8.ofNat b.toNat := (u8_ofNat_toNat b).symm
          by_cases h34 : vrest.length + 1 = 34
          · rw [if_pos h34] at hprog
            rcases hb01 with h0 | h1
            · right; left; rw [hb, h0, hprog]; exact ⟨rfl, rfl⟩
            · right; right; rw [hb, h1, hprog]; exact ⟨rfl, rfl⟩
          · rw [if_neg h34] at hprog
            rcases hb01 with h0 | h1
            · left; rw [hb, h0, hprog]; exact ⟨rfl, rfl⟩
            · -- version 1 with a 20-byte program is refused
              exfalso
              have hw1 : (witprogver == 0) = false := by
                show ((if (v1.opcode == Op.OP_0) = true then 0 else 1) == 0) = false
                rw [ho1, h1]; rfl
              have h32 : (program.length != 32) = true := by
                show (v2.data.length != 32) = true
                rw [hprog]; rfl
              rw [if_neg (by simp [hw1]), if_pos h32] at hc
              cases hc

/-- **what `configure_tx_txin` accepts.**  An input without witness data whose scriptSig passes `HasValidOps` (the legacy
    session: scriptSig, then scriptPubKey); or one with witness data whose witness program — read from the scriptPubKey,
    or from the one push of the scriptSig behind a pay-to-script-hash scriptPubKey (`validationScript_some`) — is
    `OP_0 <20 bytes>`, `OP_0 <32 bytes>` or `OP_1 <32 bytes>`; what is configured then is said by
    `configureWitness_p2wpkh`, `configureWitness_p2wsh` and `configureWitness_taproot`. -/
theorem configureTxTxin_some {h : HashCtx} {tc : TapCtx} {tx txin : Tx} {idx vout : Nat} {sv0 : SigVersion} {c : Configured}
    (hc : configureTxTxin h tc tx txin idx vout sv0 = some c) :
    ∃ inp spent, tx.vin[idx]? = some inp ∧ txin.vout[vout]? = some spent ∧
      ((inp.witness = [] ∧ hasValidOps inp.scriptSig = true ∧
        c = { sigver := .BASE, script := inp.scriptSig, successor := spent.scriptPubKey, amount := spent.value }) ∨
       ∃ wlast v prog, inp.witness.getLast? = some wlast ∧
         validationScript h inp.scriptSig spent.scriptPubKey = some v ∧
         configureWitness h tc inp.witness wlast spent.value v = some c ∧
         ((v = 0x00 :: 0x14 :: prog ∧ prog.length = 20) ∨ (v = 0x00 :: 0x20 :: prog ∧ prog.length = 32) ∨
          (v = 0x51 :: 0x20 :: prog ∧ prog.length = 32))) := by
  rw [configureTxTxin_eq] at hc
  split at hc
  next inp spent hinp hspent =>
    refine ⟨inp, spent, hinp, hspent, ?_⟩
    split at hc
    next hwl =>
      left
      split at hc
      next hvo => exact ⟨List.getLast?_eq_none_iff.1 hwl, hvo, (Option.some.inj hc).symm⟩
      · cases hc
    next wlast hwl =>
      right
      cases hv : validationScript h inp.scriptSig spent.scriptPubKey with
      | none => rw [hv] at hc; cases hc
      | some v =>
        rw [hv] at hc
        obtain ⟨prog, hform⟩ := configureWitness_some hc
        exact ⟨wlast, v, prog, hwl, rfl, hc, hform⟩
  · cases hc

/-- **what `configureTaproot` configures.**  With `stack` the witness without its annex: for one item the key-path session
    (`<program> OP_CHECKSIG`, the annex fields set); otherwise the script-path session for the last two items `leafScript`,
    `control` — the control block passed the size gate and the leaf-version check, the arguments the stack limits, the
    script `HasValidOps` — with the commitment environment of (control, program, leafScript), whose leaf hash is already in
    the execution data. -/
theorem configureTaproot_some {h : HashCtx} {tc : TapCtx} {wstack : List Bytes} {wlast : Bytes} {amount : Int}
    {program : Bytes} {c : Configured} (hc : configureTaproot h tc wstack wlast amount program = some c)
    (hasAnnex : Bool) (stack : List Bytes)
    (hA : hasAnnex = hasAnnexM wstack wlast)
    (hS : stack = if hasAnnex then wstack.dropLast else wstack) :
    (stack.length = 1 ∧
      c = { sigver := .TAPROOT, script := pushProgram program ++ [UInt8.ofNat Op.OP_CHECKSIG],
            stack := wstack.take stack.length, amount := amount, hasPreamble := true,
            execdata := { annexInit := true, annexPresent := hasAnnex,
                          annexHash := if hasAnnex then h.sha256 (compactSize wlast.length ++ wlast) else [] } }) ∨
    (∃ control leafScript, stack.length ≠ 1 ∧ stack.getLast? = some control ∧ stack.dropLast.getLast? = some leafScript ∧
      (decide (control.length < Gen.TAPROOT_CONTROL_BASE_SIZE) || decide (control.length > Gen.TAPROOT_CONTROL_MAX_SIZE) ||
        (control.length - Gen.TAPROOT_CONTROL_BASE_SIZE) % Gen.TAPROOT_CONTROL_NODE_SIZE != 0) = false ∧
      byteAt control 0 &&& Gen.TAPROOT_LEAF_MASK = Gen.TAPROOT_LEAF_TAPSCRIPT ∧
      stack.dropLast.dropLast.length ≤ Gen.MAX_STACK_SIZE ∧
      (stack.dropLast.dropLast.any fun i => decide (i.length > Gen.MAX_SCRIPT_ELEMENT_SIZE)) = false ∧
      hasValidOps leafScript = true ∧
      c = { sigver := .TAPSCRIPT, script := leafScript, stack := wstack.take stack.dropLast.dropLast.length, amount := amount,
            tce := some (Tce.init tc control program leafScript),
            execdata := { annexInit := true, annexPresent := hasAnnex,
                          annexHash := if hasAnnex then h.sha256 (compactSize wlast.length ++ wlast) else [],
                          tapleafHash := (Tce.init tc control program leafScript).leaf, tapleafHashInit := true,
                          weightLeft := (witnessSerializeSize wstack + Gen.VALIDATION_WEIGHT_OFFSET : Nat),
                          weightInit := true } }) := by
  subst hA hS
  unfold configureTaproot at hc
  extract_lets hasAnnex stack ed at hc
  by_cases h1 : (stack.length == 1) = true
  · rw [if_pos h1] at hc
    by_cases h2 : (!hasValidOps (pushProgram program ++ [UInt8.ofNat Op.OP_CHECKSIG])) = true
    · rw [if_pos h2] at hc; cases hc
    · rw [if_neg h2] at hc
      exact Or.inl ⟨beq_iff_eq.mp h1, (Option.some.inj hc).symm⟩
  · rw [if_neg h1] at hc
    right
    cases hctl : stack.getLast? with
    | none => rw [hctl] at hc; cases hc
    | some control =>
      cases hleaf : stack.dropLast.getLast? with
      | none => rw [hctl, hleaf] at hc; cases hc
      | some leafScript =>
        rw [hctl, hleaf] at hc
        simp only at hc
        by_cases hgate : (decide (control.length < Gen.TAPROOT_CONTROL_BASE_SIZE) || decide (control.length > Gen.TAPROOT_CONTROL_MAX_SIZE) ||
            (control.length - Gen.TAPROOT_CONTROL_BASE_SIZE) % Gen.TAPROOT_CONTROL_NODE_SIZE != 0) = true
        · rw [if_pos hgate] at hc; cases hc
        rw [if_neg hgate] at hc
        by_cases hlv : (byteAt control 0 &&& Gen.TAPROOT_LEAF_MASK != Gen.TAPROOT_LEAF_TAPSCRIPT) = true
        · rw [if_pos hlv] at hc; cases hc
        rw [if_neg hlv] at hc
        by_cases hrl : stack.dropLast.dropLast.length > Gen.MAX_STACK_SIZE
        · rw [if_pos hrl] at hc; cases hc
        rw [if_neg hrl] at hc
        by_cases hany : (stack.dropLast.dropLast.any fun i => decide (i.length > Gen.MAX_SCRIPT_ELEMENT_SIZE)) = true
        · rw [if_pos hany] at hc; cases hc
        rw [if_neg hany] at hc
        by_cases hvo : (!hasValidOps leafScript) = true
        · rw [if_pos hvo] at hc; cases hc
        rw [if_neg hvo] at hc
        exact ⟨control, leafScript, fun h => h1 (beq_iff_eq.mpr h), rfl, rfl, eq_false_of_ne_true hgate,
          by simpa using hlv, Nat.le_of_not_gt hrl, eq_false_of_ne_true hany, by simpa using hvo, (Option.some.inj hc).symm⟩

theorem configureWitness_v0 {h : HashCtx} {tc : TapCtx} {wstack : List Bytes} {wlast : Bytes} {amount : Int} {rest : Bytes}
    {c : Configured} (hc : configureWitness h tc wstack wlast amount (0x00 :: rest) = some c) :
    c.sigver = .WITNESS_V0 ∧ c.successor = [] ∧ c.execdata = {} ∧ c.tce = none ∧ hasValidOps c.script = true := by
  obtain ⟨prog, ⟨hv, hp⟩ | ⟨hv, hp⟩ | ⟨hv, _⟩⟩ := configureWitness_some hc
  · rw [hv, configureWitness_p2wpkh _ _ _ _ _ _ hp] at hc
    split at hc; · cases hc
    split at hc; · cases hc
    cases hc
    exact ⟨rfl, rfl, rfl, rfl, hasValidOps_p2pkh prog hp⟩
  · rw [hv, configureWitness_p2wsh _ _ _ _ _ _ hp] at hc
    split at hc; · cases hc
    split at hc; · cases hc
    split at hc; · cases hc
    cases hc
    exact ⟨rfl, rfl, rfl, rfl, by simp_all⟩
  · cases hv

/-- **`configure_tx_txin` by signature version.**  Legacy without witness data; segwit v0 for `OP_0 <20 | 32 bytes>`, with
    fresh execution data and no commitment environment; or `configureTaproot` on `OP_1 <32 bytes>`. -/
theorem configureTxTxin_cases {h : HashCtx} {tc : TapCtx} {tx txin : Tx} {idx vout : Nat} {sv0 : SigVersion} {c : Configured}
    (hc : configureTxTxin h tc tx txin idx vout sv0 = some c) :
    ∃ inp spent, tx.vin[idx]? = some inp ∧ txin.vout[vout]? = some spent ∧
      ((inp.witness = [] ∧ hasValidOps inp.scriptSig = true ∧
        c = { sigver := .BASE, script := inp.scriptSig, successor := spent.scriptPubKey, amount := spent.value }) ∨
       ∃ wlast v prog, inp.witness.getLast? = some wlast ∧ validationScript h inp.scriptSig spent.scriptPubKey = some v ∧
         (((v = 0x00 :: 0x14 :: prog ∨ v = 0x00 :: 0x20 :: prog) ∧
            c.sigver = .WITNESS_V0 ∧ c.execdata = {} ∧ c.tce = none) ∨
          (v = 0x51 :: 0x20 :: prog ∧ prog.length = 32 ∧
            configureTaproot h tc inp.witness wlast spent.value prog = some c))) := by
  obtain ⟨inp, spent, hinp, hspent, hb | ⟨wlast, v, prog, hwl, hv, hcw, hform⟩⟩ := configureTxTxin_some hc
  · exact ⟨inp, spent, hinp, hspent, Or.inl hb⟩
  refine ⟨inp, spent, hinp, hspent, Or.inr ⟨wlast, v, prog, hwl, hv, ?_⟩⟩
  rcases hform with ⟨rfl, _⟩ | ⟨rfl, _⟩ | ⟨rfl, hp⟩
  · obtain ⟨hsv, _, hed, htce, _⟩ := configureWitness_v0 hcw
    exact Or.inl ⟨Or.inl rfl, hsv, hed, htce⟩
  · obtain ⟨hsv, _, hed, htce, _⟩ := configureWitness_v0 hcw
    exact Or.inl ⟨Or.inr rfl, hsv, hed, htce⟩
  · rw [configureWitness_taproot _ _ _ _ _ _ hp] at hcw
    exact Or.inr ⟨rfl, hp, hcw⟩

theorem parseInputTransaction_some {h : HashCtx} {tx txin : Tx} {select : Int} {k n : Nat}
    (hp : parseInputTransaction h tx txin select = some (k, n)) :
    ∃ inp spent, tx.vin[k]? = some inp ∧ txin.vout[n]? = some spent ∧ inp.prevout.hash = txHash h.hash256 txin ∧
      inp.prevout.n = n := by
  unfold parseInputTransaction at hp
  simp only at hp
  split at hp
  · cases hp
  · rename_i k' n' hfound
    split at hp
    · cases hp
    · rename_i hlt
      cases hp
      have hlt' : n < txin.vout.length := by omega
      split at hfound
      · split at hfound
        · cases hfound
        · rename_i i hv
          split at hfound
          · cases hfound
          · rename_i hh
            cases hfound
            exact ⟨i, txin.vout[i.prevout.n], hv, by simp [hlt'], by simpa using hh, rfl⟩
      · split at hfound
        · cases hfound
        · rename_i k2 hf
          cases hv : tx.vin[k2]? with
          | none => rw [hv] at hfound; cases hfound
          | some i =>
            rw [hv] at hfound
            simp only [Option.map_some, Option.some.injEq, Prod.mk.injEq] at hfound
            obtain ⟨rfl, rfl⟩ := hfound
            have := List.findIdx?_eq_some_iff_getElem.mp hf
            obtain ⟨hk, hpk, _⟩ := this
            have hi : tx.vin[k2] = i := by
              have := List.getElem?_eq_getElem hk
              rw [this] at hv; exact Option.some.inj hv
            rw [hi] at hpk
            exact ⟨i, txin.vout[i.prevout.n], hv, by simp [hlt'], by simpa using hpk, rfl⟩

end Btcdeb.Proofs.Shapes
