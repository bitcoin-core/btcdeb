/-
  The scratch buffers of base58.cpp are large enough: `size = len * 138 / 100 + 1` base-58 digits hold every number of
  `len` bytes (256^100 < 58^138), `size = len * 733 / 1000 + 1` bytes hold every number of `len` base-58 digits
  (58^1000 < 256^733).  Hence the carry loops never reach `rend()` with a carry left: `assert(carry == 0)` cannot fail.
-/
import BtcdebProofs.Lemmas.Base58
namespace Btcdeb.Base58
open Btcdeb Numeral

theorem pow_le_of_numeralLE (B : Nat) (hB : 2 ≤ B) : ∀ n, n ≠ 0 → B ^ ((Spec.numeralLE B n).length - 1) ≤ n := by
  intro n
  induction n using Nat.strongRecOn with
  | _ n ih =>
    intro hn
    rw [numeralLE_of_ne_zero hB hn, List.length_cons, Nat.add_sub_cancel]
    by_cases hq : n / B = 0
    · rw [hq, numeralLE_zero]; simp; omega
    · have ih' := ih (n / B) (Nat.div_lt_self (Nat.pos_of_ne_zero hn) hB) hq
      rw [numeralLE_of_ne_zero hB hq, List.length_cons, Nat.add_sub_cancel] at ih'
      rw [numeralLE_of_ne_zero hB hq, List.length_cons, Nat.pow_succ]
      exact Nat.le_trans (Nat.mul_le_mul_right _ ih') (Nat.div_mul_le_self n B)

theorem digits_bound (B C p q : Nat) (hB : 2 ≤ B) (hq : 0 < q) (hpow : C ^ q < B ^ p) (n V : Nat) (hV : V < C ^ n) :
    (Spec.numeralLE B V).length ≤ n * p / q + 1 := by
  by_cases hV0 : V = 0
  · subst hV0; rw [numeralLE_zero]; simp
  · apply Nat.le_of_not_lt
    intro hL
    have h1 := pow_le_of_numeralLE B hB V hV0
    have hm : B ^ (n * p / q + 1) ≤ B ^ ((Spec.numeralLE B V).length - 1) :=
      Nat.pow_le_pow_right (by omega) (by omega)
    have h2 : B ^ (n * p / q + 1) < C ^ n := Nat.lt_of_le_of_lt (Nat.le_trans hm h1) hV
    -- to the `q`-th power: B^(n·p) ≤ (B^(n·p/q+1))^q < (C^q)^n ≤ (B^p)^n = B^(n·p)
    have h3 : (B ^ (n * p / q + 1)) ^ q < (C ^ n) ^ q := Nat.pow_lt_pow_left h2 (by omega)
    have h4 : (C ^ n) ^ q = (C ^ q) ^ n := by rw [← Nat.pow_mul, ← Nat.pow_mul, Nat.mul_comm]
    have h5 : (C ^ q) ^ n ≤ (B ^ p) ^ n := Nat.pow_le_pow_left (Nat.le_of_lt hpow) n
    have h6 : (B ^ p) ^ n = B ^ (n * p) := by rw [← Nat.pow_mul, Nat.mul_comm]
    have h7 : n * p ≤ (n * p / q + 1) * q := by
      have := Nat.div_add_mod (n * p) q
      have hr := Nat.mod_lt (n * p) hq
      rw [Nat.add_mul, Nat.one_mul, Nat.mul_comm (n * p / q) q]
      omega
    have h8 : B ^ (n * p) ≤ (B ^ (n * p / q + 1)) ^ q := by
      rw [← Nat.pow_mul]; exact Nat.pow_le_pow_right (by omega) h7
    rw [h4] at h3
    rw [h6] at h5
    exact Nat.lt_irrefl _ (Nat.lt_of_lt_of_le h3 (Nat.le_trans h5 h8))

/-- 138/100 and 733/1000 are the factors base58.cpp sizes `b58` and `b256` with (base58.cpp:97, :52): upper bounds of
    log 256 / log 58 and log 58 / log 256 -/
theorem pow_256_58 : (256 : Nat) ^ 100 < 58 ^ 138 := by decide +kernel
theorem pow_58_256 : (58 : Nat) ^ 1000 < 256 ^ 733 := by decide +kernel

theorem beValue_lt (b : Bytes) : Spec.beValue b < 256 ^ b.length := by
  have := Numeral.numeralValue_lt 256 (b.map UInt8.toNat) (bytes_allLt b)
  simpa [Spec.beValue] using this

theorem encode_digits_fit (b : Bytes) : (Spec.numeralLE 58 (Spec.beValue b)).length ≤ b.length * 138 / 100 + 1 :=
  digits_bound 58 256 138 100 (by decide) (by decide) pow_256_58 b.length _ (beValue_lt b)

theorem decode_bytes_fit (ds : List Nat) (h : AllLt 58 ds) :
    (Spec.numeralLE 256 (Spec.numeralValue 58 ds)).length ≤ ds.length * 733 / 1000 + 1 :=
  digits_bound 256 58 733 1000 (by decide) (by decide) pow_58_256 ds.length _ (Numeral.numeralValue_lt 58 ds h)

/-- at every round of the encoder's loop (after any prefix `p` of the bytes `rest` that follow the leading zeros) the digits in
    use fit the buffer `b58` of `rest.length * 138 / 100 + 1` places: the loop never stops at `rend()` with a carry -/
theorem encode_loop_fits (p q : Bytes) :
    (p.foldl (fun ds ch => Model.mulAdd 58 256 ds ch.toNat) []).length ≤ (p ++ q).length * 138 / 100 + 1 := by
  rw [encode_loop]
  refine Nat.le_trans (encode_digits_fit p) ?_
  have : p.length * 138 / 100 ≤ (p ++ q).length * 138 / 100 := by
    apply Nat.div_le_div_right
    simp only [List.length_append]
    omega
  omega

/-- the same for the decoder's loop over the base-58 digits `p ++ q` of the body: `b256` has `(p ++ q).length * 733 / 1000 + 1` places -/
theorem decode_loop_fits (p q : List Nat) (h : AllLt 58 p) :
    (p.foldl (fun a d => Model.mulAdd 256 58 a d) []).length ≤ (p ++ q).length * 733 / 1000 + 1 := by
  rw [foldl_mulAdd_nil 256 58 (by decide) (by decide)]
  refine Nat.le_trans (decode_bytes_fit p h) ?_
  have : p.length * 733 / 1000 ≤ (p ++ q).length * 733 / 1000 := by
    apply Nat.div_le_div_right
    simp only [List.length_append]
    omega
  omega

end Btcdeb.Base58
