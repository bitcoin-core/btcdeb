/-
  Base58: the model of base58.cpp computes the specification's numerals; round trip and soundness.
-/
import BtcdebProofs.Lemmas.Numeral
import BtcdebProofs.Lemmas.CharTable
namespace Btcdeb.Base58
open Btcdeb Numeral ListAux CharTable

theorem mapBase58_rev : revCheck (Model.pszBase58.map UInt8.toNat) id Model.mapBase58 = true := by decide +kernel
theorem mapBase58_length : Model.mapBase58.length = 256 := by decide +kernel
theorem alphabet : Alphabet Spec.base58Alphabet Model.pszBase58 := ⟨by decide, revCheck_nodup mapBase58_rev⟩
theorem psz_not_blank : ∀ c ∈ Model.pszBase58, Model.isSpaceB c = false ∧ c ≠ 0 := by decide

theorem mapBase58_spec (c : UInt8) :
    Model.mapBase58.getD c.toNat (-1) = (match Spec.base58Digit c with | some d => (d : Int) | none => -1) :=
  alphabet.revCheck_digit (nb := id) (fun _ => rfl) mapBase58_rev c (mapBase58_length ▸ c.toNat_lt)

theorem psz_char {d : Nat} (h : d < 58) : Model.pszBase58.getD d 0 = Spec.base58Char d :=
  (alphabet.char_eq_getD '1' 0 h).symm

theorem mapM_digit_iff (s : Bytes) (ds : List Nat) :
    s.mapM Spec.base58Digit = some ds ↔ AllLt 58 ds ∧ s = ds.map Spec.base58Char :=
  alphabet.mapM_digit_eq_some '1' s ds

theorem char_not_blank {d : Nat} (h : d < 58) : Model.isSpaceB (Spec.base58Char d) = false ∧ Spec.base58Char d ≠ 0 :=
  psz_not_blank _ (alphabet.char_mem '1' h)

theorem beq_zero_comp_toNat : ((· == 0) ∘ UInt8.toNat) = (fun x : UInt8 => x == 0) := by
  funext x
  rw [Function.comp_apply, Bool.eq_iff_iff, beq_iff_eq, beq_iff_eq, ← UInt8.toNat_inj]
  rfl

theorem leadingZeros_toNat (b : Bytes) : ((b.map UInt8.toNat).takeWhile (· == 0)).length = Spec.leadingZeros b := by
  rw [List.takeWhile_map, List.length_map, beq_zero_comp_toNat, Spec.leadingZeros]

theorem bytes_of_value (b : Bytes) :
    List.replicate (Spec.leadingZeros b) 0 ++ (Spec.numeral 256 (Spec.beValue b)).map UInt8.ofNat = b := by
  have := congrArg (List.map UInt8.ofNat) (zeros_numeral_of_digits 256 (by decide) _ (bytes_allLt b))
  rwa [leadingZeros_toNat, map_ofNat_toNat, List.map_append, List.map_replicate] at this

theorem value_of_bytes (z n : Nat) :
    Spec.leadingZeros (List.replicate z 0 ++ (Spec.numeral 256 n).map UInt8.ofNat) = z ∧
    Spec.beValue (List.replicate z 0 ++ (Spec.numeral 256 n).map UInt8.ofNat) = n := by
  have e : (List.replicate z (0 : UInt8) ++ (Spec.numeral 256 n).map UInt8.ofNat).map UInt8.toNat =
      List.replicate z 0 ++ Spec.numeral 256 n := by
    rw [List.map_append, List.map_replicate, map_toNat_ofNat _ (numeral_allLt 256 (by decide) n)]
    rfl
  rw [← leadingZeros_toNat, Spec.beValue, e]
  exact digits_of_zeros_numeral 256 (by decide) z n

theorem encode_loop (rest : Bytes) :
    rest.foldl (fun ds ch => Model.mulAdd 58 256 ds ch.toNat) [] = Spec.numeralLE 58 (Spec.beValue rest) := by
  rw [Spec.beValue, ← foldl_mulAdd_nil 58 256 (by decide) (by decide), List.foldl_map]

theorem beValue_dropZeros (b : Bytes) : Spec.beValue b = Spec.beValue (b.dropWhile (· == 0)) := by
  rw [Spec.beValue, Spec.beValue, numeralValue_dropZeros, List.dropWhile_map, beq_zero_comp_toNat]

theorem encode_eq_spec (b : Bytes) : Model.encodeBase58 b = Spec.base58Encode b := by
  unfold Model.encodeBase58 Spec.base58Encode Spec.leadingZeros Spec.numeral
  simp only []
  rw [encode_loop, ← beValue_dropZeros,
    List.dropWhile_beq_eq_self_of_head?_ne (by rw [List.head?_reverse]; exact numeralLE_noTopZero 58 _ (by decide))]
  congr 1
  exact List.map_congr_left (fun d hd => psz_char ((numeralLE_allLt 58 _ (by decide)).reverse d hd))

theorem spec_encode_eq (b : Bytes) :
    Spec.base58Encode b = (List.replicate (Spec.leadingZeros b) 0 ++ Spec.numeral 58 (Spec.beValue b)).map Spec.base58Char ∧
    AllLt 58 (List.replicate (Spec.leadingZeros b) 0 ++ Spec.numeral 58 (Spec.beValue b)) := by
  exact ⟨by rw [Spec.base58Encode, List.map_append, List.map_replicate],
    AllLt.append (fun _ hd => (List.mem_replicate.mp hd).2 ▸ by decide) (numeral_allLt 58 (by decide) _)⟩

theorem spec_decode_encode (b : Bytes) : Spec.base58Decode (Spec.base58Encode b) = some b := by
  obtain ⟨hs, hall⟩ := spec_encode_eq b
  obtain ⟨hz, hv⟩ := digits_of_zeros_numeral 58 (by decide) (Spec.leadingZeros b) (Spec.beValue b)
  rw [Spec.base58Decode, hs, (mapM_digit_iff _ _).2 ⟨hall, rfl⟩]
  simp only [hz, hv, bytes_of_value]

theorem spec_decode_sound (s b : Bytes) (h : Spec.base58Decode s = some b) : Spec.base58Encode b = s := by
  unfold Spec.base58Decode at h
  cases hm : s.mapM Spec.base58Digit with
  | none => simp [hm] at h
  | some ds =>
    simp only [hm, Option.some.injEq] at h
    obtain ⟨hall, hs⟩ := (mapM_digit_iff s ds).1 hm
    obtain ⟨hz, hv⟩ := value_of_bytes (ds.takeWhile (· == 0)).length (Spec.numeralValue 58 ds)
    rw [(spec_encode_eq b).1, ← h, hz, hv, zeros_numeral_of_digits 58 (by decide) ds hall, hs]

/-- the character loop: all characters must be digits; the length test inside the loop amounts to a test of the
    final length because the digit count never shrinks -/
theorem decodeLoop_eq (max z : Nat) : ∀ (cs : Bytes) (acc : List Nat), acc.length + z ≤ max →
    Model.decodeBase58Loop max z cs acc =
      match cs.mapM Spec.base58Digit with
      | none => none
      | some ds =>
        if (ds.foldl (fun a d => Model.mulAdd 256 58 a d) acc).length + z ≤ max
        then some (ds.foldl (fun a d => Model.mulAdd 256 58 a d) acc) else none := by
  intro cs
  induction cs with
  | nil => intro acc hacc; simp [Model.decodeBase58Loop, List.mapM_nil, hacc]
  | cons c cs ih =>
    intro acc hacc
    rw [Model.decodeBase58Loop, List.mapM_cons, mapBase58_spec]
    cases hc : Spec.base58Digit c with
    | none => simp
    | some d =>
      simp only [natCast_beq_neg_one, Bool.false_eq_true, ↓reduceIte, Int.toNat_natCast]
      by_cases hlen : (Model.mulAdd 256 58 acc d).length + z > max
      · simp only [hlen, ↓reduceIte]
        cases hm : cs.mapM Spec.base58Digit with
        | none => simp
        | some ds =>
          have := foldl_mulAdd_length_ge 256 58 ds (Model.mulAdd 256 58 acc d)
          have h2 : ¬ ((ds.foldl (fun a d => Model.mulAdd 256 58 a d) (Model.mulAdd 256 58 acc d)).length + z ≤ max) := by omega
          simp [h2]
      · simp only [hlen, ↓reduceIte]
        rw [ih _ (by omega)]
        cases hm : cs.mapM Spec.base58Digit with
        | none => simp
        | some ds => simp only [Option.bind_some, Option.pure_def, Option.bind_eq_bind]; rfl

/-- the run of non-blank characters after the leading blanks -/
def core (s : Bytes) : Bytes := (s.dropWhile Model.isSpaceB).takeWhile (fun c => !Model.isSpaceB c)
/-- nothing but blanks after that run -/
def blankTail (s : Bytes) : Bool := (((s.dropWhile Model.isSpaceB).dropWhile (fun c => !Model.isSpaceB c)).dropWhile Model.isSpaceB).isEmpty

theorem decodePsz_eq (s : Bytes) (max : Nat) :
    Model.decodeBase58Psz s max =
      if blankTail s then (Spec.base58Decode (core s)).filter (fun b => decide (b.length ≤ max)) else none := by
  have hpq : ∀ x : UInt8, (x == 49) = true → (!Model.isSpaceB x) = true := by
    intro x hx
    rw [eq_of_beq hx]; decide
  unfold Model.decodeBase58Psz blankTail core
  simp only []
  generalize s.dropWhile Model.isSpaceB = p1
  -- the '1's are part of the non-blank run: split it into them and the body
  rw [dropWhile_split _ _ hpq p1, takeWhile_split _ _ hpq p1, takeWhile_beq_eq_replicate 49 p1]
  generalize (p1.takeWhile (· == 49)).length = z
  rw [List.length_replicate]
  have hbody : ((p1.dropWhile (· == 49)).takeWhile (fun c => !Model.isSpaceB c)).head? ≠ some 49 :=
    fun hc => head?_dropWhile_beq 49 p1 (head?_takeWhile _ _ _ hc)
  generalize (p1.dropWhile (· == 49)).takeWhile (fun c => !Model.isSpaceB c) = body at hbody
  generalize ((p1.dropWhile (· == 49)).dropWhile (fun c => !Model.isSpaceB c)).dropWhile Model.isSpaceB = tail
  rw [Spec.base58Decode, mapM_option_replicate_append _ (show Spec.base58Digit 49 = some 0 by decide)]
  by_cases hzm : z > max
  · -- too many zeros already: whatever the body decodes to is too long
    rw [if_pos hzm]
    cases hm : body.mapM Spec.base58Digit with
    | none => simp
    | some ds =>
      have hk : z ≤ ((List.replicate z 0 ++ ds).takeWhile (· == 0)).length := by
        rw [List.takeWhile_append_of_pos (by simp)]; simp
      split
      · rw [Option.map_some, Option.filter_some, if_neg (by simp only [List.length_append, List.length_replicate, decide_eq_true_eq]; omega)]
      · rfl
  · rw [if_neg hzm, decodeLoop_eq max z body [] (by simp; omega)]
    cases hm : body.mapM Spec.base58Digit with
    | none => simp
    | some ds =>
      have hhead : ds.head? ≠ some 0 := by
        obtain ⟨_, hbs⟩ := (mapM_digit_iff body ds).1 hm
        cases ds with
        | nil => simp
        | cons d ds' =>
          intro e
          have e' : d = 0 := by simpa using e
          subst e'
          exact hbody (by rw [hbs]; rfl)
      obtain ⟨hz, hv⟩ : ((List.replicate z 0 ++ ds).takeWhile (· == 0)).length = z ∧
          Spec.numeralValue 58 (List.replicate z 0 ++ ds) = Spec.numeralValue 58 ds :=
        ⟨by rw [takeWhile_replicate_append z 0 ds hhead, List.length_replicate], numeralValue_replicate_zero 58 z ds⟩
      simp only [Option.map_some, hz, hv, foldl_mulAdd_nil 256 58 (by decide) (by decide) ds, Spec.numeral]
      generalize Spec.numeralLE 256 (Spec.numeralValue 58 ds) = bs
      cases tail.isEmpty <;> by_cases hc : bs.length + z ≤ max <;> simp [hc, Option.filter_some] <;> omega

theorem core_of_digits (s : Bytes) (h : ∀ c ∈ s, Model.isSpaceB c = false) : core s = s ∧ blankTail s = true := by
  unfold core blankTail
  rw [dropWhile_none _ s h]
  have hq : ∀ c ∈ s, (!Model.isSpaceB c) = true := by intro c hc; simp [h c hc]
  rw [takeWhile_all _ s hq, dropWhile_all _ s hq]
  exact ⟨rfl, rfl⟩

theorem spec_decode_length (b : Bytes) : ∀ s, Spec.base58Decode s = some b → True := fun _ _ => trivial

theorem encode_chars (b : Bytes) :
    (∀ c ∈ Model.encodeBase58 b, Model.isSpaceB c = false) ∧ (Model.encodeBase58 b).any (· == 0) = false := by
  obtain ⟨hs, hall⟩ := spec_encode_eq b
  have key : ∀ c ∈ Model.encodeBase58 b, Model.isSpaceB c = false ∧ c ≠ 0 := by
    intro c hc
    rw [encode_eq_spec, hs] at hc
    obtain ⟨d, hd, rfl⟩ := List.mem_map.mp hc
    exact char_not_blank (hall d hd)
  refine ⟨fun c hc => (key c hc).1, ?_⟩
  rw [List.any_eq_false]
  intro c hc
  simpa using (key c hc).2

/-- decoding what the encoder produced gives the bytes back (within the length the caller allows) -/
theorem decode_encode (b : Bytes) (max : Nat) (h : b.length ≤ max) :
    Model.decodeBase58 (Model.encodeBase58 b) max = some b := by
  obtain ⟨h1, h2⟩ := encode_chars b
  obtain ⟨h3, h4⟩ := core_of_digits _ h1
  rw [Model.decodeBase58, h2, if_neg (by decide), decodePsz_eq, h4, h3, encode_eq_spec, spec_decode_encode]
  simp [h]

theorem decode_sound (s b : Bytes) (max : Nat) (h : Model.decodeBase58 s max = some b) :
    Model.encodeBase58 b = core s ∧ b.length ≤ max := by
  unfold Model.decodeBase58 at h
  split at h
  · simp at h
  · rw [decodePsz_eq] at h
    split at h
    · cases hd : Spec.base58Decode (core s) with
      | none => simp [hd] at h
      | some b' =>
        rw [hd, Option.filter_some] at h
        split at h
        · simp at h; subst h
          rename_i hl
          exact ⟨by rw [encode_eq_spec]; exact spec_decode_sound _ _ hd, by simpa using hl⟩
        · simp at h
    · simp at h

theorem check_decode_encode (hash : Bytes → Bytes) (hlen : ∀ m, 4 ≤ (hash m).length) (p : Bytes) (max : Nat)
    (h : p.length ≤ max) (hint : p.length + 4 ≤ 2147483647) :
    Model.decodeBase58Check hash (Model.encodeBase58Check hash p) max = some p := by
  unfold Model.decodeBase58Check Model.encodeBase58Check
  have hck : ((hash p).take 4).length = 4 := by simp [List.length_take]; have := hlen p; omega
  rw [decode_encode _ _ (by simp only [List.length_append, hck]; split <;> omega)]
  simp only [List.length_append, hck]
  have e1 : p.length + 4 - 4 = p.length := by omega
  rw [e1, List.take_left', List.drop_left']
  · simp
  · rfl
  · rfl

theorem check_decode_sound (hash : Bytes → Bytes) (s p : Bytes) (max : Nat)
    (h : Model.decodeBase58Check hash s max = some p) :
    Model.encodeBase58Check hash p = core s ∧ p.length ≤ max := by
  unfold Model.decodeBase58Check at h
  generalize hin : (if max > 2147483647 - 4 then 2147483647 else max + 4) = inner at h
  cases hd : Model.decodeBase58 s inner with
  | none => simp [hd] at h
  | some vch =>
    rw [hd] at h
    simp only [] at h
    split at h
    · simp at h
    · rename_i hl
      split at h
      · simp at h
      · rename_i hck
        simp at h
        subst h
        obtain ⟨e1, e2⟩ := decode_sound s vch inner hd
        have hv : vch = vch.take (vch.length - 4) ++ (hash (vch.take (vch.length - 4))).take 4 := by
          have : (hash (vch.take (vch.length - 4))).take 4 = vch.drop (vch.length - 4) := by simpa using hck
          rw [this, List.take_append_drop]
        unfold Model.encodeBase58Check
        rw [← hv]
        refine ⟨e1, ?_⟩
        simp only [List.length_take]
        split at hin <;> omega

end Btcdeb.Base58
