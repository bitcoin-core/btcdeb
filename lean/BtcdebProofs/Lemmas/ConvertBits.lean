/-
  `ConvertBits<frombits, tobits, pad>`: the digits handed to the output function denote the same number as the
  input digits (shifted by the padding), for every pair of widths; round trip.  Writing `f`, `t` for the two
  widths: the input is a numeral in base `2^f`, the output a numeral in base `2^t`.
-/
import BtcdebProofs.Lemmas.Numeral
namespace Btcdeb.ConvertBits
open Btcdeb Numeral

theorem emit_lt (tobits acc bits : Nat) (out : List Nat) (h : bits < tobits) :
    Model.convertBitsEmit tobits acc bits out = (bits, out) := by
  unfold Model.convertBitsEmit
  simp [h]

theorem emit_ge (tobits acc bits : Nat) (out : List Nat) (h0 : tobits ≠ 0) (h : tobits ≤ bits) :
    Model.convertBitsEmit tobits acc bits out =
      Model.convertBitsEmit tobits acc (bits - tobits) (out ++ [(acc >>> (bits - tobits)) % 2 ^ tobits]) := by
  rw [Model.convertBitsEmit]
  have : ¬ (tobits = 0 ∨ bits < tobits) := by omega
  simp [this]

/-- bits `b .. b+t-1` of `acc` are the next base-`2^t` digit of `W`, if `acc` agrees with `W` on the bits below `b+t` -/
theorem next_digit (acc W b t : Nat) (h : acc % 2 ^ (b + t) = W % 2 ^ (b + t)) :
    W / 2 ^ (b + t) * 2 ^ t + (acc >>> b) % 2 ^ t = W / 2 ^ b := by
  rw [Nat.shiftRight_eq_div_pow, ← Nat.mod_mul_right_div_self, ← Nat.pow_add, h, Nat.pow_add, Nat.mod_mul_right_div_self,
    ← Nat.div_div_eq_div_mul]
  exact Nat.div_add_mod' _ _

/-- The emit loop, started with `bits` bits of `W` not yet written out (`out` denotes `W` without them, and the
    accumulator agrees with `W` on them), writes digits until fewer than `t` bits are left. -/
theorem emit_inv {t : Nat} (ht : t ≠ 0) (acc W : Nat) : ∀ (bits : Nat) (out : List Nat),
    acc % 2 ^ bits = W % 2 ^ bits → Spec.numeralValue (2 ^ t) out = W / 2 ^ bits → AllLt (2 ^ t) out →
    let r := Model.convertBitsEmit t acc bits out
    r.1 < t ∧ r.2.length * t + r.1 = out.length * t + bits ∧ Spec.numeralValue (2 ^ t) r.2 = W / 2 ^ r.1 ∧
      AllLt (2 ^ t) r.2 := by
  intro bits
  induction bits using Nat.strongRecOn with
  | _ bits ih =>
    intro out hacc hval hlt
    by_cases hb : bits < t
    · rw [emit_lt t acc bits out hb]
      exact ⟨hb, rfl, hval, hlt⟩
    · rw [emit_ge t acc bits out ht (by omega)]
      obtain ⟨b, rfl⟩ : ∃ b, bits = b + t := ⟨bits - t, by omega⟩
      rw [Nat.add_sub_cancel]
      have := ih b (by omega) (out ++ [(acc >>> b) % 2 ^ t])
        (by rw [← Nat.mod_mod_of_dvd acc (Nat.pow_dvd_pow 2 (Nat.le_add_right b t)), hacc,
              Nat.mod_mod_of_dvd W (Nat.pow_dvd_pow 2 (Nat.le_add_right b t))])
        (by rw [numeralValue_append, hval, next_digit acc W b t hacc])
        (hlt.snoc (Nat.mod_lt _ (Nat.pow_pos (by decide))))
      rw [List.length_append, List.length_singleton, Nat.add_mul, Nat.one_mul] at this
      exact ⟨this.1, by omega, this.2.2⟩

/-- After `n` input digits denoting `V`: the output digits denote `V` without its low `bits` bits, of which there are
    fewer than `t`; the accumulator holds `V` cut to `f + t - 1` bits (`max_acc`), which covers them. -/
structure Inv (f t : Nat) (s : Model.ConvState) (n V : Nat) : Prop where
  bits_lt : s.bits < t
  len : s.out.length * t + s.bits = n * f
  acc : s.acc = V % 2 ^ (f + t - 1)
  val : Spec.numeralValue (2 ^ t) s.out = V / 2 ^ s.bits
  lt : AllLt (2 ^ t) s.out

theorem Inv.step {f t : Nat} {s : Model.ConvState} {n V : Nat} (ht : t ≠ 0) (v : Nat) (hv : v < 2 ^ f) (h : Inv f t s n V) :
    Inv f t (Model.convertBitsStep f t s v) (n + 1) (V * 2 ^ f + v) := by
  obtain ⟨h1, h2, h3, h4, h5⟩ := h
  have hacc : ((s.acc <<< f) ||| v) % 2 ^ (f + t - 1) = (V * 2 ^ f + v) % 2 ^ (f + t - 1) := by
    rw [Nat.shiftLeft_eq, Nat.mul_comm, ← Nat.two_pow_add_eq_or_of_lt hv, Nat.mul_comm, h3, Nat.add_mod, Nat.mul_mod,
      Nat.mod_mod, ← Nat.mul_mod, ← Nat.add_mod]
  have hval : Spec.numeralValue (2 ^ t) s.out = (V * 2 ^ f + v) / 2 ^ (s.bits + f) := by
    rw [h4, Nat.add_comm s.bits, Nat.pow_add, ← Nat.div_div_eq_div_mul, Nat.add_comm, Nat.add_mul_div_right _ _ (Nat.pow_pos (by decide)),
      Nat.div_eq_of_lt hv, Nat.zero_add]
  obtain ⟨e1, e2, e3, e4⟩ := emit_inv ht ((V * 2 ^ f + v) % 2 ^ (f + t - 1)) (V * 2 ^ f + v) (s.bits + f) s.out
    (Nat.mod_mod_of_dvd _ (Nat.pow_dvd_pow 2 (by omega))) hval h5
  unfold Model.convertBitsStep
  rw [hacc]
  exact ⟨e1, by rw [Nat.add_mul, Nat.one_mul]; exact e2.trans (by omega), rfl, e3, e4⟩

theorem Inv.init (f t : Nat) (ht : t ≠ 0) : Inv f t {} 0 0 :=
  ⟨Nat.pos_of_ne_zero ht, by simp, by simp, by simp [Spec.numeralValue], by intro d hd; simp at hd⟩

theorem Inv.fold {f t : Nat} (ht : t ≠ 0) : ∀ (xs : List Nat) (s : Model.ConvState) (n V : Nat), AllLt (2 ^ f) xs → Inv f t s n V →
    Inv f t (xs.foldl (Model.convertBitsStep f t) s) (n + xs.length) (xs.foldl (fun a x => a * 2 ^ f + x) V) := by
  intro xs
  induction xs with
  | nil => intro s n V _ h; exact h
  | cons x xs ih =>
    intro s n V hx h
    rw [List.foldl_cons, List.foldl_cons, List.length_cons, ← Nat.add_assoc, Nat.add_right_comm]
    exact ih _ (n + 1) _ hx.tail (h.step ht x (hx x List.mem_cons_self))

theorem inv_final {f t : Nat} (ht : t ≠ 0) (xs : List Nat) (hx : AllLt (2 ^ f) xs) :
    Inv f t (xs.foldl (Model.convertBitsStep f t) {}) xs.length (Spec.numeralValue (2 ^ f) xs) := by
  have := Inv.fold ht xs {} 0 0 hx (Inv.init f t ht)
  rwa [Nat.zero_add] at this

/-- the padding digit: the bits left in the accumulator, moved to the top of a digit -/
theorem Inv.pad_digit {f t : Nat} {s : Model.ConvState} {n V : Nat} (h : Inv f t s n V) :
    (s.acc <<< (t - s.bits)) % 2 ^ t = V % 2 ^ s.bits * 2 ^ (t - s.bits) := by
  have e : 2 ^ t = 2 ^ s.bits * 2 ^ (t - s.bits) := by rw [← Nat.pow_add]; congr 1; have := h.bits_lt; omega
  rw [Nat.shiftLeft_eq, e, Nat.mul_mod_mul_right, h.acc, Nat.mod_mod_of_dvd _ (Nat.pow_dvd_pow 2 (by have := h.bits_lt; omega))]

theorem convert_pad (f t : Nat) (ht : t ≠ 0) (xs : List Nat) (hx : AllLt (2 ^ f) xs) :
    let r := (Model.convertBits f t true xs).1
    ∃ p, p < t ∧ r.length * t = xs.length * f + p ∧ AllLt (2 ^ t) r ∧
      Spec.numeralValue (2 ^ t) r = Spec.numeralValue (2 ^ f) xs * 2 ^ p := by
  have h := inv_final ht xs hx
  have hp := h.pad_digit
  obtain ⟨h1, h2, _, h4, h5⟩ := h
  unfold Model.convertBits
  simp only [↓reduceIte]
  generalize xs.foldl (Model.convertBitsStep f t) {} = s at *
  generalize Spec.numeralValue (2 ^ f) xs = V at *
  by_cases hb : s.bits = 0
  · simp only [hb, bne_self_eq_false, Bool.false_eq_true, ↓reduceIte]
    rw [hb] at h2 h4
    exact ⟨0, Nat.pos_of_ne_zero ht, h2, h5, by rw [h4]; simp⟩
  · have hb' : (s.bits != 0) = true := by simpa using hb
    simp only [hb', ↓reduceIte]
    refine ⟨t - s.bits, by omega, ?_, h5.snoc (Nat.mod_lt _ (Nat.pow_pos (by decide))), ?_⟩
    · rw [List.length_append, List.length_singleton, Nat.add_mul, Nat.one_mul]; omega
    · have e : 2 ^ t = 2 ^ s.bits * 2 ^ (t - s.bits) := by rw [← Nat.pow_add]; congr 1; omega
      rw [numeralValue_append, h4, hp, e, ← Nat.mul_assoc, ← Nat.add_mul, Nat.div_add_mod']

theorem convert_nopad (f t : Nat) (ht : t ≠ 0) (ys : List Nat) (hy : AllLt (2 ^ f) ys) :
    let r := Model.convertBits f t false ys
    ∃ b, b < t ∧ r.1.length * t + b = ys.length * f ∧ AllLt (2 ^ t) r.1 ∧
      Spec.numeralValue (2 ^ t) r.1 = Spec.numeralValue (2 ^ f) ys / 2 ^ b ∧
      (r.2 = true ↔ (b < f ∧ Spec.numeralValue (2 ^ f) ys % 2 ^ b = 0)) := by
  have h := inv_final ht ys hy
  have hp := h.pad_digit
  obtain ⟨h1, h2, _, h4, h5⟩ := h
  unfold Model.convertBits
  simp only [Bool.false_eq_true, ↓reduceIte, hp]
  generalize ys.foldl (Model.convertBitsStep f t) {} = s at *
  generalize Spec.numeralValue (2 ^ f) ys = W at *
  have hz : W % 2 ^ s.bits * 2 ^ (t - s.bits) = 0 ↔ W % 2 ^ s.bits = 0 := by
    simp [Nat.mul_eq_zero]
  refine ⟨s.bits, h1, ?_⟩
  split <;> rename_i hc <;>
    simp only [Bool.or_eq_true, decide_eq_true_eq, bne_iff_ne, ne_eq, hz, not_or, Decidable.not_not] at hc
  · exact ⟨h2, h5, h4, by simp only [Bool.false_eq_true, false_iff]; omega⟩
  · exact ⟨h2, h5, h4, by simp only [true_iff]; omega⟩

theorem div_of_mul_add {k t r m : Nat} (h : k * t + r = m) (hr : r < t) : m / t = k := by
  rw [← h, Nat.add_comm, Nat.add_mul_div_right _ _ (by omega), Nat.div_eq_of_lt hr, Nat.zero_add]

/-- Regrouping to a width that is not larger and back loses nothing: the padding is shorter than an input digit, so it
    is recognised as surplus and dropped. -/
theorem roundtrip_of_le (f t : Nat) (ht : t ≠ 0) (htf : t ≤ f) (xs : List Nat) (hx : AllLt (2 ^ f) xs) :
    Model.convertBits t f false (Model.convertBits f t true xs).1 = (xs, true) := by
  obtain ⟨p, hp, a2, a1, a3⟩ := convert_pad f t ht xs hx
  obtain ⟨b, hb, b2, b1, b3, b4⟩ := convert_nopad t f (by omega) _ a1
  generalize (Model.convertBits f t true xs).1 = r at *
  generalize Model.convertBits t f false r = o at *
  have hol : o.1.length = xs.length := by
    rw [← div_of_mul_add b2 hb, a2]; exact div_of_mul_add rfl (by omega)
  have hbp : b = p := by rw [hol] at b2; omega
  subst hbp
  rw [a3, Nat.mul_div_cancel _ (Nat.pow_pos (by decide))] at b3
  rw [a3, Nat.mul_mod_left] at b4
  have h1 : o.1 = xs := fixed_unique _ _ _ hol b1 hx b3
  have h2 : o.2 = true := b4.mpr ⟨by omega, rfl⟩
  rw [← h1, ← h2]

/-- `ConvertBits<5,8,false>` undoes `ConvertBits<8,5,true>` -/
theorem roundtrip (xs : List Nat) (hx : AllLt 256 xs) :
    Model.convertBits 5 8 false (Model.convertBits 8 5 true xs).1 = (xs, true) :=
  roundtrip_of_le 8 5 (by decide) (by decide) xs hx

theorem convert_pad_spec (f t : Nat) (ht : t ≠ 0) (xs : List Nat) (hx : AllLt (2 ^ f) xs) :
    (Model.convertBits f t true xs).1 = Spec.regroupPad f t xs := by
  obtain ⟨p, hp, a2, a1, a3⟩ := convert_pad f t ht xs hx
  generalize (Model.convertBits f t true xs).1 = r at *
  have hl : (xs.length * f + t - 1) / t = r.length := div_of_mul_add (r := t - 1 - p) (by omega) (by omega)
  rw [eq_fixedNumeral _ r a1, a3, Spec.regroupPad, hl, a2, Nat.add_sub_cancel_left]

theorem convert_nopad_spec (f t : Nat) (ht : t ≠ 0) (ys : List Nat) (hy : AllLt (2 ^ f) ys) :
    (Model.convertBits f t false ys).2 = (Spec.regroupNoPad f t ys).isSome ∧
    ∀ o, Spec.regroupNoPad f t ys = some o → (Model.convertBits f t false ys).1 = o := by
  obtain ⟨b, hb, b2, b1, b3, b4⟩ := convert_nopad f t ht ys hy
  generalize Model.convertBits f t false ys = r at *
  have hl : ys.length * f / t = r.1.length := div_of_mul_add b2 hb
  have hrem : ys.length * f - r.1.length * t = b := by omega
  rw [eq_fixedNumeral _ r.1 b1, b3]
  simp only [Spec.regroupNoPad, hl, hrem]
  by_cases hc : b < f ∧ Spec.numeralValue (2 ^ f) ys % 2 ^ b = 0
  · rw [if_neg (by simp only [Bool.or_eq_true, decide_eq_true_eq, bne_iff_ne, ne_eq]; omega)]
    exact ⟨b4.mpr hc, fun o ho => Option.some.inj ho⟩
  · rw [if_pos (by simp only [Bool.or_eq_true, decide_eq_true_eq, bne_iff_ne, ne_eq]; omega)]
    exact ⟨by simpa using mt b4.mp hc, fun o ho => nomatch ho⟩

end Btcdeb.ConvertBits
