/-
  C07, lexical layer: the tokenizer.  The index loop of `Value::parse_args(const char*, size_t)` (model `tokenize`,
  `bracketScan`, `skipLine`) against the list recursion `Spec.splitWords`, and the grouping of command-line words
  by `parse_args(vector)` against `Spec.groupWords`.
-/
import Btcdeb
namespace Btcdeb.Proofs.C07Lexer
open Btcdeb Btcdeb.Model

/-- the specification's separators: blank, tab, line feed, carriage return -/
def isBlank (c : UInt8) : Bool := c.toNat == 32 || c.toNat == 9 || c.toNat == 10 || c.toNat == 13
/-- a comment runs on over this character: neither line feed nor carriage return -/
def notNl (x : UInt8) : Bool := x.toNat != 10 && x.toNat != 13
/-- the bracket depth behind `c`, inside a group (`d > 0`) -/
def nextDepth (c : UInt8) (d : Nat) : Nat := if c.toNat == 91 then d + 1 else if c.toNat == 93 then d - 1 else d

/-- the word in progress ends: it joins the words found, unless it is empty -/
def push (cur : Bytes) (acc : List Bytes) : List Bytes := if cur.isEmpty then acc else cur :: acc

theorem push_nil (acc : List Bytes) : push [] acc = acc := rfl

theorem splitWords_end (k : Nat) (cur : Bytes) (acc : List Bytes) :
    Spec.splitWords (k + 1) [] cur 0 acc = some (push cur acc).reverse := by
  rw [Spec.splitWords]; rfl

theorem splitWords_inside (k : Nat) (c : UInt8) (rest cur : Bytes) (d : Nat) (acc : List Bytes) (hd : d > 0) :
    Spec.splitWords (k + 1) (c :: rest) cur d acc = Spec.splitWords k rest (cur ++ [c]) (nextDepth c d) acc := by
  rw [Spec.splitWords]; simp only [hd, if_true]; rfl

theorem splitWords_step (k : Nat) (c : UInt8) (rest cur : Bytes) (acc : List Bytes) :
    Spec.splitWords (k + 1) (c :: rest) cur 0 acc =
      if c.toNat == 91 then Spec.splitWords k rest (cur ++ [c]) 1 acc
      else if c.toNat == 93 then none
      else if isBlank c then Spec.splitWords k rest [] 0 (push cur acc)
      else if c.toNat == 35 then Spec.splitWords k (rest.dropWhile notNl) [] 0 (push cur acc)
      else Spec.splitWords k rest (cur ++ [c]) 0 acc := by
  rw [Spec.splitWords]; simp only [Nat.lt_irrefl, gt_iff_lt, if_false]; rfl

theorem nextDepth_zero {c : UInt8} {d : Nat} (hd : d > 0) (h : nextDepth c d = 0) : c = 93 := by
  unfold nextDepth at h
  split at h
  · omega
  · split at h
    · rename_i h93; exact UInt8.toNat_inj.mp (beq_iff_eq.mp h93)
    · omega

theorem splitWords_open_end (k d : Nat) (cur : Bytes) (acc : List Bytes) (hd : d > 0) :
    Spec.splitWords k [] cur d acc = none := by
  cases k with
  | zero => rfl
  | succ k => rw [Spec.splitWords, if_pos (by simp; omega)]

/-- `args_string[a..b)` -/
def sl (full : Bytes) (a b : Nat) : Bytes := (full.drop a).take (b - a)

theorem drop_take_cons {full : Bytes} {len j : Nat} {c : UInt8} {r : Bytes}
    (h : (full.take len).drop j = c :: r) :
    j < len ∧ j < full.length ∧ full.getD j 0 = c ∧ (full.take len).drop (j + 1) = r := by
  have hl : j < (full.take len).length := by
    apply Classical.byContradiction; intro hn
    rw [List.drop_eq_nil_of_le (by omega)] at h; cases h
  have hl' := hl
  rw [List.length_take] at hl'
  rw [List.drop_eq_getElem_cons hl] at h
  injection h with h1 h2
  refine ⟨by omega, by omega, ?_, h2⟩
  rw [List.getElem_take] at h1
  rw [List.getD_eq_getElem?_getD, List.getElem?_eq_getElem (by omega)]
  simpa using h1

theorem drop_take_nil {full : Bytes} {len j : Nat} (hlen : len ≤ full.length) (hj : j ≤ len)
    (h : (full.take len).drop j = []) : j = len := by
  have := congrArg List.length h
  simp [List.length_take] at this
  omega

theorem drop_drop_take (full : Bytes) (len j m : Nat) :
    ((full.take len).drop j).drop m = (full.take len).drop (j + m) := by
  rw [List.drop_drop]

theorem cAt_lt (full : Bytes) (j : Nat) (h : j < full.length) : cAt full j = .ok (full.getD j 0) := by
  unfold cAt; simp [h]

theorem sl_self (full : Bytes) (a : Nat) : sl full a a = [] := by simp [sl]

theorem sl_isEmpty (full : Bytes) (a b : Nat) (hab : a ≤ b) (hb : b ≤ full.length) :
    (sl full a b).isEmpty = (a == b) := by
  rw [Bool.eq_iff_iff, List.isEmpty_iff_length_eq_zero, sl, List.length_take, List.length_drop, beq_iff_eq]
  omega

theorem sl_snoc (full : Bytes) (a i : Nat) (hai : a ≤ i) (hi : i < full.length) :
    sl full a (i + 1) = sl full a i ++ [full.getD i 0] := by
  unfold sl
  have h1 : i + 1 - a = (i - a) + 1 := by omega
  rw [h1, List.take_add_one]
  congr 1
  rw [List.getElem?_drop]
  have : a + (i - a) = i := by omega
  rw [this, List.getD_eq_getElem?_getD, List.getElem?_eq_getElem hi]
  rfl

theorem sl_append (full : Bytes) (a b c : Nat) (hab : a ≤ b) (hbc : b ≤ c) :
    sl full a c = sl full a b ++ sl full b c := by
  unfold sl
  have h1 : c - a = (b - a) + (c - b) := by omega
  rw [h1, List.take_add, List.drop_drop]
  congr 3; omega

theorem bracketScan_step (full : Bytes) (len f j d : Nat) (ch : UInt8) (hj : j < len) (hjf : j < full.length) (hd : d > 0) :
    bracketScan full len (f + 1) j d ch =
      bracketScan full len f (j + 1) (nextDepth (full.getD j 0) d) (full.getD j 0) := by
  rw [bracketScan, if_pos (by simp; omega), cAt_lt full j hjf]
  rfl

theorem bracketScan_zero (full : Bytes) (len f j : Nat) (ch : UInt8) : bracketScan full len f j 0 ch = .ok (j, ch) := by
  cases f with
  | zero => rfl
  | succ f => rw [bracketScan, if_neg (by simp), if_neg (by simp)]

/-- a group, on both sides: the scan stops behind the `]` up to which the specification takes everything into the
    word in progress, or the group is not closed and the specification refuses -/
theorem scan_group (full : Bytes) (len : Nat) (rest : Bytes) :
    ∀ (j d k f : Nat) (ch : UInt8) (cur : Bytes) (acc : List Bytes), (full.take len).drop j = rest → d > 0 →
      len < f + j → len < k + j →
      (∃ j', bracketScan full len f j d ch = .ok (j', 93) ∧ j < j' ∧ j' ≤ len ∧ full.getD (j' - 1) 0 = 93 ∧
        Spec.splitWords k rest cur d acc = Spec.splitWords (k + j - j') ((full.take len).drop j') (cur ++ sl full j j') 0 acc) ∨
      Spec.splitWords k rest cur d acc = none := by
  induction rest with
  | nil => intro j d k f ch cur acc _ hd _ _; exact Or.inr (splitWords_open_end k d cur acc hd)
  | cons c r ih =>
    intro j d k f ch cur acc hj hd hf hk
    obtain ⟨hjl, hjf, hc, hr⟩ := drop_take_cons hj
    obtain ⟨f0, rfl⟩ : ∃ f0, f = f0 + 1 := ⟨f - 1, by omega⟩
    obtain ⟨k0, rfl⟩ : ∃ k0, k = k0 + 1 := ⟨k - 1, by omega⟩
    have h1 : sl full j (j + 1) = [c] := by rw [sl_snoc full j j (Nat.le_refl _) hjf, sl_self, hc]; rfl
    rw [splitWords_inside k0 c r cur d acc hd, bracketScan_step full len f0 j d ch hjl hjf hd, hc]
    by_cases h0 : nextDepth c d = 0
    · have h93 := nextDepth_zero hd h0
      refine Or.inl ⟨j + 1, by rw [h0, bracketScan_zero, h93], Nat.lt_succ_self _, hjl, by rw [Nat.add_sub_cancel, hc, h93], ?_⟩
      rw [h0, h1, hr, show k0 + 1 + j - (j + 1) = k0 by omega]
    · rcases ih (j + 1) _ k0 f0 c (cur ++ [c]) acc hr (Nat.pos_of_ne_zero h0) (by omega) (by omega) with
        ⟨j', h2, h3, h4, h5, h6⟩ | h6
      · refine Or.inl ⟨j', h2, by omega, h4, h5, ?_⟩
        rw [h6, List.append_assoc, ← h1, ← sl_append full j (j + 1) j' (Nat.le_succ _) (Nat.le_of_lt h3),
          show k0 + (j + 1) - j' = k0 + 1 + j - j' by omega]
      · exact Or.inr h6

theorem skipLine_step (full : Bytes) (len f i : Nat) :
    skipLine full len (f + 1) i =
      if (decide (i < len) && notNl (full.getD i 0)) = true then skipLine full len f (i + 1) else i := by
  -- the model compares bytes, `notNl` their values
  have hne : ∀ c n : UInt8, (c != n) = (c.toNat != n.toNat) := fun c n => by
    rw [Bool.eq_iff_iff]; simp [UInt8.toNat_inj]
  rw [skipLine, Bool.and_assoc, hne, hne]
  rfl

/-- where `skipLine` stops: at `len`, or at the first line end; what it passes is what the specification drops -/
theorem skipLine_spec (full : Bytes) (len : Nat) (hlen : len ≤ full.length) (rest : Bytes) :
    ∀ (i f : Nat), (full.take len).drop i = rest → i ≤ len → len < f + i →
      ∃ j, skipLine full len f i = j ∧ i ≤ j ∧ j ≤ len ∧ rest.dropWhile notNl = (full.take len).drop j ∧
        (j < len → notNl (full.getD j 0) = false) := by
  induction rest with
  | nil =>
    intro i f hi hil hf
    obtain rfl := drop_take_nil hlen hil hi
    obtain ⟨f0, rfl⟩ : ∃ f0, f = f0 + 1 := ⟨f - 1, by omega⟩
    exact ⟨i, by rw [skipLine_step, if_neg (by simp)], Nat.le_refl _, Nat.le_refl _, hi.symm, fun h => absurd h (Nat.lt_irrefl _)⟩
  | cons c r ih =>
    intro i f hi _ hf
    obtain ⟨hil, hif, hc, hr⟩ := drop_take_cons hi
    obtain ⟨f0, rfl⟩ : ∃ f0, f = f0 + 1 := ⟨f - 1, by omega⟩
    rw [skipLine_step, hc]
    cases hn : notNl c
    · exact ⟨i, by rw [if_neg (by simp)], Nat.le_refl _, Nat.le_of_lt hil,
        by rw [List.dropWhile_cons_of_neg (by simp [hn]), hi], fun _ => hc ▸ hn⟩
    · obtain ⟨j, h1, h2, h3, h4, h5⟩ := ih (i + 1) f0 hr hil (by omega)
      exact ⟨j, by rw [if_pos (by simp [hil]), h1], by omega, h3, by rw [List.dropWhile_cons_of_pos hn, h4], h5⟩

theorem tokenize_past (full : Bytes) (len k i start : Nat) (acc : List Bytes) (hi : i > len) :
    tokenize full len k i start acc = .ok acc.reverse := by
  cases k with
  | zero => rfl
  | succ k => rw [tokenize]; simp [hi]

theorem skipLine_ge (full : Bytes) (len : Nat) : ∀ (f i : Nat), skipLine full len f i ≥ i := by
  intro f
  induction f with
  | zero => intro i; exact Nat.le_refl _
  | succ f ih =>
    intro i; rw [skipLine]; split
    · have := ih (i + 1); omega
    · exact Nat.le_refl _

theorem isSepChar_eq (c : UInt8) : isSepChar c = (c.toNat == 93 || isBlank c || c.toNat == 35) := by
  simp only [isSepChar, isBlank, Bool.or_assoc]

theorem notNl_false_blank {c : UInt8} (h : notNl c = false) : isBlank c = true := by
  simp only [notNl, Bool.and_eq_false_iff, bne_eq_false_iff_eq] at h
  simp only [isBlank, Bool.or_eq_true, beq_iff_eq]
  omega

theorem push_sl (full : Bytes) (start i : Nat) (acc : List Bytes) (hsi : start ≤ i) (hi : i ≤ full.length) :
    (if start == i then acc else sl full start i :: acc) = push (sl full start i) acc := by
  rw [push, sl_isEmpty full start i hsi hi]

/-- one pass of the loop body at a character before `len` that opens no group -/
theorem tokenize_step (full : Bytes) (len k i start : Nat) (acc : List Bytes) (hi : i < len) (hlen : len ≤ full.length)
    (hsi : start ≤ i) (h91 : ((full.getD i 0).toNat == 91) = false) :
    tokenize full len (k + 1) i start acc =
      if isSepChar (full.getD i 0) then
        if (full.getD i 0).toNat == 35 then
          tokenize full len k (skipLine full len (len + 1) i + 1) (skipLine full len (len + 1) i + 1) (push (sl full start i) acc)
        else tokenize full len k (i + 1) (i + 1) (push (sl full start i) acc)
      else tokenize full len k (i + 1) start acc := by
  rw [tokenize, ← push_sl full start i acc hsi (by omega)]
  simp only [show ¬ i > len by omega, show (len == 0) = false by simp; omega, show (i == len) = false by simp; omega,
    if_false, Bool.false_eq_true, cAt_lt full i (Nat.lt_of_lt_of_le hi hlen), h91, bind, Except.bind, Bool.false_or, sl]
  by_cases hs : start = i <;> simp [hs]

theorem tokenize_blank (full : Bytes) (len k i start : Nat) (acc : List Bytes) (hi : i < len) (hlen : len ≤ full.length)
    (hsi : start ≤ i) (hb : isBlank (full.getD i 0) = true) :
    tokenize full len (k + 1) i start acc = tokenize full len k (i + 1) (i + 1) (push (sl full start i) acc) := by
  -- blanks lie below `#` and `[`
  have hlt : (full.getD i 0).toNat < 35 := by
    simp only [isBlank, Bool.or_eq_true, beq_iff_eq] at hb
    omega
  rw [tokenize_step full len k i start acc hi hlen hsi (beq_eq_false_iff_ne.mpr (by omega)), isSepChar_eq, hb,
    if_pos (by simp), if_neg (by rw [beq_iff_eq]; omega)]

/-- at the end of the text the word in progress ends and the loop is left (the character read again at `len`
    is the last one: it must not be a `[`, which would start a scan) -/
theorem tokenize_end (full : Bytes) (len k start : Nat) (acc : List Bytes) (hpos : 0 < len) (hlen : len ≤ full.length)
    (hsl : start ≤ len) (h91 : (full.getD (len - 1) 0).toNat ≠ 91) :
    tokenize full len (k + 1) len start acc = .ok (push (sl full start len) acc).reverse := by
  rw [tokenize, ← push_sl full start len acc hsl hlen]
  simp only [show ¬ len > len by omega, show (len == 0) = false by simp; omega, beq_self_eq_true, if_true, if_false,
    Bool.false_eq_true, cAt_lt full (len - 1) (by omega), beq_eq_false_iff_ne.mpr h91, bind, Except.bind, Bool.true_or, sl]
  have := skipLine_ge full len (len + 1) len
  by_cases hs : start = len
  all_goals
    simp only [hs, beq_self_eq_true, if_true, if_false, beq_iff_eq]
    split <;> exact tokenize_past _ _ _ _ _ _ (by omega)

theorem tokenize_open (full : Bytes) (len k i start j : Nat) (acc : List Bytes) (ch : UInt8) (hi : i < len)
    (hlen : len ≤ full.length) (h91 : ((full.getD i 0).toNat == 91) = true)
    (hscan : bracketScan full len (len + 2) (i + 1) 1 (full.getD i 0) = .ok (j, ch)) :
    tokenize full len (k + 1) i start acc = tokenize full len k j start acc := by
  rw [tokenize]
  simp only [show ¬ i > len by omega, show (len == 0) = false by simp; omega, if_false, Bool.false_eq_true,
    show (i == len) = false by simp; omega, cAt_lt full i (Nat.lt_of_lt_of_le hi hlen), h91, if_true, hscan, bind,
    Except.bind]

/-- The loop, from any loop head at bracket depth 0 with the characters `start..i` as the word in progress: whenever the
    specification's recursion yields words, the model's loop yields the same.  Fuel: the C++ loop runs over `i = 0 .. len`
    inclusive and the model takes one more turn to leave it at `i > len`, hence `len + 2 ≤ k + i` (`parseArgsStringWith`
    starts with `len + 2`); the specification takes a turn per character left and one at the end, hence `len < k' + i`.
    `n` only carries the induction. -/
theorem tokenize_loop (full : Bytes) (len : Nat) (hlen : len ≤ full.length) (hpos : 0 < len) :
    ∀ (n i start k k' : Nat) (acc ws : List Bytes), len < n + i → start ≤ i → i ≤ len → len + 2 ≤ k + i → len < k' + i →
      (i = len → (full.getD (len - 1) 0).toNat ≠ 91) →
      Spec.splitWords k' ((full.take len).drop i) (sl full start i) 0 acc = some ws →
      tokenize full len k i start acc = .ok ws := by
  intro n
  induction n with
  | zero => intros; omega
  | succ n0 ih =>
    intro i start k k' acc ws hn hsi hil hk hk' hprev hspec
    obtain ⟨k0, rfl⟩ : ∃ k0, k = k0 + 1 := ⟨k - 1, by omega⟩
    obtain ⟨k'0, rfl⟩ : ∃ k'0, k' = k'0 + 1 := ⟨k' - 1, by omega⟩
    cases hrest : (full.take len).drop i with
    | nil =>
      obtain rfl := drop_take_nil hlen hil hrest
      rw [hrest, splitWords_end] at hspec
      rw [tokenize_end full i k0 start acc hpos hlen hsi (hprev rfl), ← Option.some.inj hspec]
    | cons c r =>
      obtain ⟨hilt, hifl, hc, hr⟩ := drop_take_cons hrest
      rw [hrest, splitWords_step] at hspec
      subst hc
      by_cases h91 : ((full.getD i 0).toNat == 91) = true
      · rw [if_pos h91, ← sl_snoc full start i hsi hifl] at hspec
        rcases scan_group full len r (i + 1) 1 k'0 (len + 2) (full.getD i 0) (sl full start (i + 1)) acc hr (by decide)
          (by omega) (by omega) with ⟨j, hscan, hlt, hle, hlast, hnest⟩ | hnone
        · rw [hnest, ← sl_append full start (i + 1) j (by omega) (Nat.le_of_lt hlt)] at hspec
          rw [tokenize_open full len k0 i start j acc 93 hilt hlen h91 hscan]
          exact ih j start k0 (k'0 + (i + 1) - j) acc ws (by omega) (by omega) hle (by omega) (by omega)
            (fun he => by rw [← he, hlast]; decide) hspec
        · rw [hnone] at hspec; cases hspec
      · rw [if_neg h91] at hspec
        by_cases h93 : ((full.getD i 0).toNat == 93) = true
        · rw [if_pos h93] at hspec; cases hspec
        · rw [if_neg h93] at hspec
          have h91' : (full.getD i 0).toNat ≠ 91 := by simpa using h91
          have hprev' : i + 1 = len → (full.getD (len - 1) 0).toNat ≠ 91 := fun he => by
            rw [show len - 1 = i by omega]; exact h91'
          by_cases hbl : isBlank (full.getD i 0) = true
          · rw [if_pos hbl] at hspec
            rw [tokenize_blank full len k0 i start acc hilt hlen hsi hbl]
            exact ih (i + 1) (i + 1) k0 k'0 _ ws (by omega) (Nat.le_refl _) (by omega) (by omega) (by omega) hprev'
              (by rw [sl_self, hr]; exact hspec)
          · rw [if_neg hbl] at hspec
            by_cases h35 : ((full.getD i 0).toNat == 35) = true
            · -- a comment: the line is skipped, and the character that ends it is a blank between words
              rw [if_pos h35] at hspec
              have h35' : (full.getD i 0).toNat = 35 := by simpa using h35
              obtain ⟨j, hskip, hij, hjl, hdrop, hnl⟩ := skipLine_spec full len hlen r (i + 1) len hr hilt (by omega)
              rw [tokenize_step full len k0 i start acc hilt hlen hsi ((Bool.not_eq_true _).mp h91), isSepChar_eq, h35,
                if_pos (by simp), if_pos rfl, skipLine_step, if_pos (by rw [notNl, h35']; simp [hilt]), hskip]
              rw [hdrop] at hspec
              by_cases hj : j < len
              · -- the line end is a blank at the start of a word: the loop passes it as the specification does next
                rw [← sl_self full j] at hspec
                rw [← push_nil (push _ acc), ← sl_self full j, ← tokenize_blank full len k0 j j _ hj hlen (Nat.le_refl _) (notNl_false_blank (hnl hj))]
                exact ih j j (k0 + 1) k'0 _ ws (by omega) (Nat.le_refl _) hjl (by omega) (by omega) (fun he => by omega) hspec
              · obtain ⟨k'1, rfl⟩ : ∃ k'1, k'0 = k'1 + 1 := ⟨k'0 - 1, by omega⟩
                rw [List.drop_eq_nil_of_le (by rw [List.length_take]; omega), splitWords_end] at hspec
                rw [tokenize_past _ _ _ _ _ _ (by omega), ← Option.some.inj hspec]
                rfl
            · rw [if_neg h35] at hspec
              have hsep : isSepChar (full.getD i 0) = false := by
                rw [isSepChar_eq, (Bool.not_eq_true _).mp h93, (Bool.not_eq_true _).mp hbl, (Bool.not_eq_true _).mp h35]; rfl
              rw [tokenize_step full len k0 i start acc hilt hlen hsi ((Bool.not_eq_true _).mp h91), hsep, if_neg Bool.false_ne_true]
              exact ih (i + 1) start k0 k'0 acc ws (by omega) (by omega) (by omega) (by omega) (by omega) hprev'
                (by rw [sl_snoc full start i hsi hifl, hr]; exact hspec)

/-- a word that `parse_args(vector)` passes on as it is: not empty, and not the start of a bracket group
    spanning several words -/
def GoodWord (w : Bytes) : Prop := w ≠ [] ∧ ¬ (w.head? = some 91 ∧ Model.bracketBalance w > 0)

theorem bracketBalance_snoc (cur : Bytes) (c : UInt8) (d : Nat) (h : Model.bracketBalance cur = d)
    (hd : d > 0 ∨ (c.toNat == 93) = false) : Model.bracketBalance (cur ++ [c]) = nextDepth c d := by
  unfold Model.bracketBalance at h ⊢
  rw [List.foldl_append, h]
  simp only [List.foldl_cons, List.foldl_nil, nextDepth]
  split
  · omega
  · split
    · rename_i h93; rw [h93] at hd; have := hd.resolve_right (by simp); omega
    · rfl

theorem push_good (cur : Bytes) (acc : List Bytes) (hb : Model.bracketBalance cur = 0) (ha : ∀ w ∈ acc, GoodWord w) :
    ∀ w ∈ push cur acc, GoodWord w := by
  intro w hw
  unfold push at hw
  split at hw
  · exact ha w hw
  · rename_i hne
    rcases List.mem_cons.mp hw with rfl | hw
    · exact ⟨fun h => hne (by rw [h]; rfl), fun h => by rw [hb] at h; exact absurd h.2 (by decide)⟩
    · exact ha w hw

theorem splitWords_words : ∀ (k : Nat) (t cur : Bytes) (d : Nat) (acc ws : List Bytes),
    Spec.splitWords k t cur d acc = some ws → Model.bracketBalance cur = d → (∀ w ∈ acc, GoodWord w) →
    ∀ w ∈ ws, GoodWord w := by
  intro k
  induction k with
  | zero => intro t cur d acc ws h; simp [Spec.splitWords] at h
  | succ k ih =>
    intro t cur d acc ws h hbal hacc
    cases t with
    | nil =>
      by_cases hd : d > 0
      · rw [splitWords_open_end _ d cur acc hd] at h; cases h
      · obtain rfl : d = 0 := by omega
        rw [splitWords_end] at h
        obtain rfl := Option.some.inj h
        exact fun w hw => push_good cur acc hbal hacc w (List.mem_reverse.mp hw)
    | cons c r =>
      by_cases hd : d > 0
      · rw [splitWords_inside k c r cur d acc hd] at h
        exact ih r _ _ acc ws h (bracketBalance_snoc cur c d hbal (Or.inl hd)) hacc
      · obtain rfl : d = 0 := by omega
        rw [splitWords_step] at h
        split at h
        · rename_i h91
          refine ih r _ 1 acc ws h ?_ hacc
          rw [bracketBalance_snoc cur c 0 hbal (Or.inr (by rw [beq_iff_eq.mp h91]; rfl)), nextDepth, if_pos h91]
        · split at h
          · cases h
          · rename_i h91 h93
            have hjoin := bracketBalance_snoc cur c 0 hbal (Or.inr ((Bool.not_eq_true _).mp h93))
            rw [nextDepth, if_neg h91, if_neg h93] at hjoin
            split at h
            · exact ih r [] 0 _ ws h rfl (push_good cur acc hbal hacc)
            · split at h
              · exact ih _ [] 0 _ ws h rfl (push_good cur acc hbal hacc)
              · exact ih r _ 0 acc ws h hjoin hacc

theorem groupWords_acc : ∀ (ws : List Bytes) (cur : Bytes) (d : Int) (gacc : List Bytes),
    Spec.groupWords ws cur d gacc = gacc.reverse ++ Spec.groupWords ws cur d [] := by
  intro ws
  induction ws with
  | nil => intro cur d gacc; simp [Spec.groupWords]
  | cons w rest ih =>
    intro cur d gacc
    rw [Spec.groupWords, Spec.groupWords]
    dsimp only
    split
    · split
      · rw [ih _ _ (_ :: gacc), ih _ _ [_]]; simp
      · exact ih _ _ _
    · split
      · exact ih _ _ _
      · split
        · exact ih _ _ _
        · rw [ih _ _ (_ :: gacc), ih _ _ [_]]; simp

theorem parseArgsListWith_group (mk : Bytes → Nat → VM Value) : ∀ (ws : List Bytes) (accum : Bytes) (depth : Int) (acc : List Value),
    parseArgsListWith mk ws accum depth acc =
      ((Spec.groupWords ws accum depth []).mapM (fun w => mk w w.length)).bind (fun xs => .ok (acc.reverse ++ xs)) := by
  intro ws
  induction ws with
  | nil => intro accum depth acc; simp [parseArgsListWith, Spec.groupWords, Except.bind, pure, Except.pure]
  | cons v rest ih =>
    intro accum depth acc
    rw [parseArgsListWith, Spec.groupWords]
    have hbb : Spec.bracketBalance v = Model.bracketBalance v := rfl
    have step : ∀ (u c : Bytes) (d : Int),
        (do let x ← mk u u.length; parseArgsListWith mk rest c d (x :: acc)) =
        ((Spec.groupWords rest c d [u]).mapM (fun w => mk w w.length)).bind (fun xs => .ok (acc.reverse ++ xs)) := by
      intro u c d
      rw [groupWords_acc rest c d [u]]
      simp only [List.reverse_cons, List.reverse_nil, List.nil_append, List.singleton_append, List.mapM_cons, bind, Except.bind]
      cases mk u u.length with
      | error e => rfl
      | ok x =>
        simp only
        rw [ih c d (x :: acc)]
        cases (Spec.groupWords rest c d []).mapM (fun w => mk w w.length) with
        | error e => rfl
        | ok xs => simp [Except.bind, pure, Except.pure]
    simp only [hbb]
    split
    · split
      · exact step _ _ _
      · exact ih _ _ _
    · split
      · exact ih _ _ _
      · split
        · exact ih _ _ _
        · exact step _ _ _

theorem groupWords_good : ∀ (ws : List Bytes) (cur : Bytes), (∀ w ∈ ws, GoodWord w) → Spec.groupWords ws cur 0 [] = ws := by
  intro ws
  induction ws with
  | nil => intro _ _; rfl
  | cons v rest ih =>
    intro cur hg
    obtain ⟨hne, hnb⟩ := hg v List.mem_cons_self
    have h2 : v.isEmpty = false := by cases v with | nil => exact absurd rfl hne | cons _ _ => rfl
    have h3 : (v.head? == some 91 && decide (Spec.bracketBalance v > 0)) = false := by
      rw [Bool.and_eq_false_iff, beq_eq_false_iff_ne, decide_eq_false_iff_not]
      exact Classical.not_and_iff_not_or_not.mp hnb
    rw [Spec.groupWords, if_neg (by decide), h2, h3, if_neg Bool.false_ne_true, if_neg Bool.false_ne_true, groupWords_acc,
      ih cur fun w hw => hg w (List.mem_cons_of_mem _ hw)]
    rfl

end Btcdeb.Proofs.C07Lexer
