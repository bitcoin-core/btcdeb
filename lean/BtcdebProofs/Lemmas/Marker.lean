/-
  Invariants behind property C12: the listing is "what has been executed, followed by the plan of the
  rest", an instruction that does not decode can only be met in the last script, and (for data-push-only
  scriptSigs) the last instruction decides what is on top of the stack when the scriptPubKey is entered.
  They are preserved by every kind of successful step (`stepSession_kind`): `inv_step`, `side_step`.
-/
import Btcdeb
import BtcdebProofs.Lemmas.Listing
import BtcdebProofs.Properties.C04
namespace Btcdeb.Proofs.C12
open Btcdeb Btcdeb.Model

/-- the redeem script the listing announces for a P2SH scriptPubKey is the one the hand-over will load:
    when the scriptPubKey is about to be entered after a push-only scriptSig (any other scriptSig makes
    the P2SH hand-over fail, BIP16), the item on top of the stack is `r` -/
def PredOk (r : Bytes) (e : IEnv) : Prop :=
  e.tce = none → e.pc = [] → e.isP2sh = false → e.successor ≠ [] → p2shPattern e.see.flags e.successor = true →
    isPushOnly e.see.script = true → e.see.stack.getLast?.getD [] = r

/-- the hand-over to the redeem script cannot succeed any more: the scriptSig was not push-only -/
def doomed (e : IEnv) : Bool := e.isP2sh && e.sigscriptExecuted && !e.sigscriptPushonly

/-- what follows the current script in the listing: the plan of the rest (`Spec.tailFuture`), except that
    in a session whose P2SH hand-over is bound to fail the section announced for the redeem script stays
    listed (it is never entered) -/
def tailOf (r : Bytes) (e : IEnv) : List Spec.PlanLine :=
  if doomed e then Spec.handOverP2sh :: Spec.planOf r else Spec.tailFuture r e

/-- the listing is what has been executed followed by the plan of the rest: `pre` holds the commitment steps made and the sections
    before the current script, and `k` instructions of the current script have been executed -/
def Inv (r : Bytes) (L : List Spec.PlanLine) (e : IEnv) : Prop :=
  ∃ (pre : List Spec.PlanLine) (k : Nat),
    L = pre ++ (Spec.commitFuture e.tce ++ Spec.planOf e.see.script ++ tailOf r e) ∧
    e.currOpSeq = ((pre.length + k : Nat) : Int) ∧
    advanceOps k e.see.script = some e.pc ∧
    (e.tce.isSome = true → k = 0) ∧
    (e.done = true → e.tce = none ∧ e.pc = [] ∧ e.isP2sh = false ∧ e.successor = [])

theorem commitmentPlan_lt (c p : Bytes) (m i : Nat) (h : i < m) :
    Spec.commitmentPlan c p m i = Spec.merkleStep c i :: Spec.commitmentPlan c p m (i + 1) := by
  unfold Spec.commitmentPlan
  have : m - i = (m - (i + 1)) + 1 := by omega
  rw [this, List.range'_succ]
  simp

theorem commitmentPlan_ge (c p : Bytes) (m i : Nat) (h : ¬ i < m) :
    Spec.commitmentPlan c p m i = [Spec.tweakCheck p] := by
  unfold Spec.commitmentPlan
  have : m - i = 0 := by omega
  rw [this]; simp

theorem planOf_split {k : Nat} {s pc : Bytes} (h : advanceOps k s = some pc) :
    ∃ pre, Spec.planOf s = pre ++ Spec.planFrom s.length pc.length pc ∧ pre.length = k := by
  obtain ⟨pre, h1, h2⟩ := decodeFrom_advance k s pc h
  refine ⟨pre.map (fun p => (⟨false, s.length - p.1, opText p.2⟩ : Spec.PlanLine)), ?_, by simpa using h2⟩
  rw [planOf_eq, h1, planFrom_eq s.length pc.length pc (Nat.le_refl _), List.map_append]

theorem planOf_length_of_end {k : Nat} {s : Bytes} (h : advanceOps k s = some []) : (Spec.planOf s).length = k := by
  obtain ⟨pre, h1, h2⟩ := planOf_split h
  rw [h1, ← h2]
  simp [Spec.planFrom]

/-- what `StepScript` establishes when it sets `done`: nothing is left (the last clause of `Inv`, `Fresh.done0`) -/
def EndOk (e : IEnv) : Prop := e.done = true → e.tce = none ∧ e.pc = [] ∧ e.isP2sh = false ∧ e.successor = []

theorem endOk_step (cx : Ctx) (tc : TapCtx) (ep e : IEnv) (hnd : ep.done = false) (hs : stepSession cx tc ep = .ok e) :
    EndOk e := by
  cases stepSession_kind hs with
  | finish h1 h2 h3 h4 => exact fun _ => ⟨h1, h2, h3, h4⟩
  | _ => exact fun hd => (by rw [hnd] at hd; cases hd)

theorem inv_step (cx : Ctx) (tc : TapCtx) (r : Bytes) (L : List Spec.PlanLine) (ep e : IEnv)
    (hinv : Inv r L ep) (hnd : ep.done = false) (hpred : PredOk r ep) (hs : stepSession cx tc ep = .ok e) :
    Inv r L e := by
  obtain ⟨pre, k, hL, hseq, hadv, htk, -⟩ := hinv
  have hend := endOk_step cx tc ep e hnd hs
  unfold tailOf doomed Spec.tailFuture at hL
  unfold Inv tailOf doomed Spec.tailFuture
  cases stepSession_kind hs with
  | merkle t k' htce hlt =>
    obtain rfl : k = 0 := htk (by simp [htce])
    refine ⟨pre ++ [Spec.merkleStep t.control t.i], 0, ?_, by simp [hseq], hadv, fun _ => rfl, hend⟩
    rw [hL, htce]
    simp only [Spec.commitFuture]
    rw [commitmentPlan_lt _ _ _ _ hlt]; simp
  | tweak t htce hlt =>
    obtain rfl : k = 0 := htk (by simp [htce])
    refine ⟨pre ++ [Spec.tweakCheck t.p], 0, ?_, by simp [hseq], hadv, fun _ => rfl, hend⟩
    rw [hL, htce]
    simp only [Spec.commitFuture]
    rw [commitmentPlan_ge _ _ _ _ hlt]; simp
  | op g see' htce hne hg hst hch =>
    refine ⟨pre, k + 1, ?_, by simp [hseq]; omega, ?_, fun h => (by simp [htce] at h), hend⟩
    · rw [hL]; simp only [hch.script, hch.flags]
    · simp only [hch.script]; exact advanceOps_succ hadv hg
  | redeem redeem htce hpc0 hp2 hpo hr =>
    have hlen : (Spec.planOf ep.see.script).length = k := planOf_length_of_end (by rw [← hpc0]; exact hadv)
    have hnd' : (ep.isP2sh && ep.sigscriptExecuted && !ep.sigscriptPushonly) = false := by
      rw [hp2, Bool.true_and]; exact hpo
    simp only [hnd', Bool.false_eq_true, if_false] at hL
    refine ⟨pre ++ Spec.planOf ep.see.script ++ [Spec.handOverP2sh], 0, ?_, by simp [hseq, hlen]; omega, rfl, fun _ => rfl, hend⟩
    rw [hL, htce]
    simp [Spec.commitFuture, hp2, hr]
  | successor htce hpc0 _ hp2 hne =>
    have hlen : (Spec.planOf ep.see.script).length = k := planOf_length_of_end (by rw [← hpc0]; exact hadv)
    have hsue : ep.successor.isEmpty = false := List.isEmpty_eq_false_iff.mpr hne
    refine ⟨pre ++ Spec.planOf ep.see.script ++ [Spec.handOverSpk], 0, ?_, by simp [hseq, hlen]; omega, rfl, fun _ => rfl, hend⟩
    rw [hL, htce]
    simp only [Spec.commitFuture, hp2, hsue, List.nil_append, Bool.false_eq_true, if_false, List.isEmpty_nil, if_true,
      List.append_nil, Bool.false_and, Bool.and_true]
    by_cases hpat : p2shPattern ep.see.flags ep.successor = true
    · by_cases hpo : isPushOnly ep.see.script = true
      · -- the one place `PredOk` is used: the section announced for the redeem script at start-up lists what is on the stack now
        have := hpred htce hpc0 hp2 hne hpat hpo
        simp [hpat, hpo, this]
      · simp [hpat, hpo]
    · simp [hpat]
  | finish htce hpc0 hp2 hsu0 =>
    exact ⟨pre, k, by rw [hL, hp2, hsu0], hseq, hadv, fun h => (by simp [htce] at h), hend⟩

/-- `T`, the lines after the current script, is `tailOf` for the listing and `Spec.tailFuture` for the two-column display.
    `hdec`: an instruction that does not decode is only met in the last script (`undecodable_last`); in front of another
    section the head of `T` would stand where nothing is pending. -/
theorem future_head (r : Bytes) (e : IEnv) (T : List Spec.PlanLine) (hd : e.done = false)
    (hT : T.head? = (Spec.tailFuture r e).head?)
    (hdec : e.tce = none → e.pc ≠ [] → Spec.decodeOne e.pc = none → T = []) :
    (Spec.commitFuture e.tce ++ Spec.planFrom e.see.script.length e.pc.length e.pc ++ T).head? = Spec.pending e := by
  unfold Spec.pending
  simp only [hd, Bool.false_eq_true, if_false]
  cases htce : e.tce with
  | some t =>
    simp only [Spec.commitFuture]
    by_cases hlt : t.i < t.pathLen
    · rw [commitmentPlan_lt _ _ _ _ hlt]; simp [hlt]
    · rw [commitmentPlan_ge _ _ _ _ hlt]; simp [hlt]
  | none =>
    simp only [Spec.commitFuture, List.nil_append]
    cases hpc : e.pc with
    | nil =>
      simp only [List.length_nil, Spec.planFrom, List.nil_append, List.isEmpty_nil, Bool.not_true, Bool.false_eq_true, if_false]
      rw [hT]
      unfold Spec.tailFuture
      by_cases hp : e.isP2sh = true
      · simp [hp]
      · by_cases hsu : e.successor.isEmpty = true <;> simp [hp, hsu]
    | cons b rest =>
      simp only [List.length_cons, Spec.planFrom, List.isEmpty_cons, Bool.not_false, if_true]
      cases hdo : Spec.decodeOne (b :: rest) with
      | none => simp [hdec htce (by simp [hpc]) (by rw [hpc]; exact hdo)]
      | some q => obtain ⟨i, after⟩ := q; simp

theorem tailOf_head (r : Bytes) (e : IEnv) : (tailOf r e).head? = (Spec.tailFuture r e).head? := by
  unfold tailOf doomed Spec.tailFuture
  by_cases hp : e.isP2sh = true
  · by_cases hdm : (e.sigscriptExecuted && !e.sigscriptPushonly) = true <;> simp [hp, hdm]
  · simp [hp]

/-- every instruction position of `s` that is not the end decodes: `getOp` succeeds wherever the debugger can stand in `s`
    (for a whole script this is what `HasValidOps` checks, `hasValidOps_decodable`) -/
def Decodable (s : Bytes) : Prop := ∀ k pc, advanceOps k s = some pc → pc ≠ [] → (getOp pc).isSome = true

theorem decodable_rest {s : Bytes} {g : GotOp} (hg : getOp s = some g) (h : Decodable s) : Decodable g.rest := by
  intro k pc hk hne
  exact h (k + 1) pc (by simp [advanceOps, hg, hk]) hne

theorem decodable_nil : Decodable [] := by
  intro k pc hk hne
  cases k with
  | zero => cases hk; exact absurd rfl hne
  | succ k => cases hk

theorem decodable_cons {s : Bytes} {g : GotOp} (hg : getOp s = some g) (h : Decodable g.rest) : Decodable s := by
  intro k pc hk hne
  cases k with
  | zero => cases hk; simp [hg]
  | succ k => simp only [advanceOps, hg] at hk; exact h k pc hk hne

/-- scripts accepted by `HasValidOps` (the gate of `parse_script`) decode completely -/
theorem hasValidOps_decodable : ∀ (n : Nat) (s : Bytes), s.length ≤ n → hasValidOps s = true → Decodable s := by
  intro _ s hs
  clear hs
  induction s using decodeFrom.induct with
  | case1 s hg =>
    intro hv
    rw [hasValidOps] at hv
    split at hv
    · obtain rfl : s = [] := by simpa using hv
      exact decodable_nil
    · rename_i g hg'; rw [hg] at hg'; cases hg'
  | case2 s g hg ih =>
    intro hv
    rw [hasValidOps] at hv
    split at hv
    · rename_i h; rw [hg] at h; cases h
    · rename_i g' hg'
      obtain rfl : g = g' := Option.some.inj (hg.symm.trans hg')
      split at hv
      · cases hv
      · exact decodable_cons hg (ih hv)

theorem p2shPattern_decodable (flags : Nat) (s : Bytes) (h : p2shPattern flags s = true) : Decodable s := by
  obtain ⟨hh, rfl, hl⟩ := p2shPattern_form h
  exact decodable_cons (Refine.getOp_op 0xa9 _ (by decide)) <|
    decodable_cons (Refine.getOp_push_direct 0x14 hh [0x87] (by decide) hl) <|
    decodable_cons (Refine.getOp_op 0x87 [] (by decide)) decodable_nil

/-- a script that is followed by another one decodes completely from the position on (so an instruction that does not decode
    can only be met in the last script of a session), and a P2SH hand-over is pending only once the scriptPubKey has been entered -/
def ScriptsOk (e : IEnv) : Prop :=
  (e.isP2sh = true ∨ e.successor ≠ [] → Decodable e.pc) ∧ (e.successor ≠ [] → e.isP2sh = false)

/-- while the scriptPubKey is pending the current script is the scriptSig the session started with, and
    there is no commitment phase -/
def InScriptSig (sc0 : Bytes) (e : IEnv) : Prop := e.successor ≠ [] → e.see.script = sc0 ∧ e.tce = none

/-- a session as `setup_environment` leaves it -/
structure Fresh (e0 : IEnv) : Prop where
  pcStart : e0.pc = e0.see.script
  seq0 : e0.currOpSeq = 0
  done0 : e0.done = true → e0.tce = none ∧ e0.pc = [] ∧ e0.isP2sh = false ∧ e0.successor = []
  p2sh0 : e0.isP2sh = true → p2shPattern e0.see.flags e0.see.script = true
  sig0 : e0.sigscriptExecuted = false
  /-- a scriptSig (a script that is followed by a scriptPubKey) decodes completely (`configure_tx_txin`
      refuses others), starts on an empty stack with no open conditional, and the session does not at the
      same time treat the scriptSig itself as a P2SH scriptPubKey -/
  succ0 : e0.successor ≠ [] → Decodable e0.see.script ∧ e0.isP2sh = false ∧ e0.see.stack = [] ∧ e0.see.cond.allTrue = true ∧ e0.tce = none

theorem inv_advance (cx : Ctx) (tc : TapCtx) (r : Bytes) (e0 : IEnv) (hf : Fresh e0)
    (hpred : ∀ j e, C04.advance cx tc e0 j = some e → PredOk r e) :
    ∀ k e, C04.advance cx tc e0 k = some e → Inv r (Spec.idealListing r e0) e :=
  C04.advance_induction cx tc e0
    ⟨[], 0, by simp [Spec.idealListing, Spec.sessionPlan, tailOf, doomed, hf.sig0], by simp [hf.seq0], by simp [advanceOps, hf.pcStart], fun _ => rfl, hf.done0⟩
    (fun j ep e hk hd hp hs => inv_step cx tc r _ ep e hp hd (hpred j ep hk) hs)

/-- the marker property in the form the statement of C12 gives it: the line whose number is the marker
    index is the operation the next step performs (no such line when nothing is pending) -/
def MarkerInv (L : List Spec.PlanLine) (e : IEnv) : Prop :=
  0 ≤ markerIndex e ∧ L[(markerIndex e).toNat]? = Spec.pending e

theorem undecodable_last {e : IEnv} (hj : ScriptsOk e) (hne : e.pc ≠ []) (hg : getOp e.pc = none) :
    e.isP2sh = false ∧ e.successor = [] := by
  have hnd : ¬ Decodable e.pc := fun hd => by have := hd 0 e.pc rfl hne; rw [hg] at this; cases this
  exact ⟨Bool.eq_false_iff.mpr fun hp => hnd (hj.1 (.inl hp)), Classical.byContradiction fun hsu => hnd (hj.1 (.inr hsu))⟩

theorem Inv.drop {r : Bytes} {L : List Spec.PlanLine} {e : IEnv} (h : Inv r L e) :
    0 ≤ e.currOpSeq ∧ L.drop e.currOpSeq.toNat =
      Spec.commitFuture e.tce ++ Spec.planFrom e.see.script.length e.pc.length e.pc ++ tailOf r e := by
  obtain ⟨pre, k, hL, hseq, hadv, htk, _⟩ := h
  obtain ⟨pre2, hp1, hp2⟩ := planOf_split hadv
  refine ⟨by omega, ?_⟩
  have hidx : e.currOpSeq.toNat = pre.length + k := by omega
  rw [hidx, hL, hp1]
  -- the `k` instructions executed are skipped; during the commitment phase there are none
  cases htce : e.tce with
  | some t =>
    obtain rfl : k = 0 := htk (by simp [htce])
    obtain rfl : pre2 = [] := List.length_eq_zero_iff.mp hp2
    simp
  | none =>
    subst hp2
    simp only [Spec.commitFuture, List.nil_append, List.append_assoc]
    rw [← List.append_assoc, List.drop_left' (by simp)]

theorem marker_of_inv (r : Bytes) (L : List Spec.PlanLine) (e : IEnv) (hinv : Inv r L e) (hj : ScriptsOk e) : MarkerInv L e := by
  obtain ⟨h0, hdrop⟩ := hinv.drop
  obtain ⟨_, _, _, _, _, _, hdone⟩ := hinv
  refine ⟨h0, ?_⟩
  show L[e.currOpSeq.toNat]? = _
  rw [← List.head?_drop, hdrop]
  by_cases hd : e.done = true
  · obtain ⟨h1, h2, h3, h4⟩ := hdone hd
    simp [Spec.pending, hd, h1, h2, h3, h4, Spec.commitFuture, tailOf, doomed, Spec.tailFuture, Spec.planFrom]
  · refine future_head r e (tailOf r e) (by simpa using hd) (tailOf_head r e) fun _ hne hdo => ?_
    obtain ⟨h1, h2⟩ := undecodable_last hj hne (Refine.getOp_none_of_decodeOne hdo)
    simp [tailOf, doomed, Spec.tailFuture, h1, h2]

theorem branchLine_plan (t : Tce) (i : Nat) : (branchLine t i).plan = Spec.merkleStep t.control i := rfl

theorem checkLine_plan (t : Tce) : (checkLine t).plan = Spec.tweakCheck t.p := rfl

/-- what `IsPushOnly` checks (`isPushOnly_ops`) -/
def PushOnly (s : Bytes) : Prop := ∀ p ∈ decodeFrom s, p.2.opcode ≤ Op.OP_16

/-- what is on top of the stack after the instructions from `pc` on, all pushes, have run on a stack with `top` on top -/
def lastFrom (top pc : Bytes) : Bytes := ((decodeFrom pc).getLast?.map (fun p => payloadOf p.2)).getD top

/-- while a push-only scriptSig runs, its last instruction still decides what will be on top of the stack at its end -/
def TopIsPush (sc0 : Bytes) (e : IEnv) : Prop :=
  e.successor ≠ [] → e.see.cond.allTrue = true ∧ PushOnly e.pc ∧ lastFrom (e.see.stack.getLast?.getD []) e.pc = lastPayload sc0

/-- what a session carries beside `Inv`, `sc0` being the script it started with: `scripts` places the instructions that do
    not decode (for `marker_of_inv`, through `undecodable_last`); `inSig` and `top` say, while the scriptPubKey is pending,
    that the scriptSig `sc0` is still running and what its pushes will leave on top (for `predOk_holds`) -/
structure Side (sc0 : Bytes) (e : IEnv) : Prop where
  scripts : ScriptsOk e
  inSig : InScriptSig sc0 e
  top : PushOnly sc0 → TopIsPush sc0 e

/-- `InScriptSig` and `TopIsPush` only speak of sessions whose scriptPubKey is still to come -/
theorem Side.of_nil {sc0 : Bytes} {e : IEnv} (hd : e.isP2sh = true → Decodable e.pc) (h : e.successor = []) : Side sc0 e :=
  ⟨⟨fun hp => hp.elim hd fun hne => absurd h hne, fun hne => absurd h hne⟩, fun hne => absurd h hne, fun _ hne => absurd h hne⟩

/-- While the scriptPubKey is pending only instructions of the scriptSig are executed: a commitment step would need `tce`
    set (`InScriptSig`), a P2SH hand-over `isP2sh` (`ScriptsOk`), and the two steps at the end of a script clear `successor`. -/
theorem side_step (cx : Ctx) (tc : TapCtx) (sc0 : Bytes) (ep e : IEnv) (h : Side sc0 ep)
    (hs : stepSession cx tc ep = .ok e) : Side sc0 e := by
  obtain ⟨hj, hk, hq⟩ := h
  have hcommit : ep.tce ≠ none → ep.successor = [] := fun ht => Classical.byContradiction fun hne => ht (hk hne).2
  have hd := fun hp : ep.isP2sh = true => hj.1 (.inl hp)
  cases stepSession_kind hs with
  | merkle t k' htce => exact .of_nil hd (hcommit (by simp [htce]))
  | tweak t htce => exact .of_nil hd (hcommit (by simp [htce]))
  | op g see' htce hne hg hst hch =>
    refine ⟨⟨fun hp => decodable_rest hg (hj.1 hp), hj.2⟩, fun hne' => ⟨hch.script.trans (hk hne').1, htce⟩,
      fun hdp hne' => ?_⟩
    obtain ⟨hall, hpo, htop⟩ := hq hdp hne'
    rw [lastFrom, decodeFrom_some hg] at htop
    rw [PushOnly, decodeFrom_some hg] at hpo
    obtain ⟨hst1, hst2⟩ : see'.stack = ep.see.stack ++ [payloadOf g] ∧ see'.cond = ep.see.cond :=
      step_pushonly cx ep.see ep.pc g hg hall (hpo _ (List.mem_cons_self ..)) _ hst
    refine ⟨(congrArg CondStack.allTrue hst2).trans hall, fun p hp => hpo p (List.mem_cons_of_mem _ hp), ?_⟩
    rw [← htop, lastFrom]
    simp only [hst1, List.getLast?_append, Option.some_or, Option.getD_some, List.getLast?_cons]
    cases (decodeFrom g.rest).getLast? <;> rfl
  | redeem redeem htce hpc0 hp2 =>
    exact .of_nil (fun h => (by cases h)) (Classical.byContradiction fun hne => by have := hj.2 hne; rw [hp2] at this; cases this)
  | successor => exact .of_nil (fun h => p2shPattern_decodable _ _ h) rfl
  | finish htce hpc0 hp2 hsu0 => exact .of_nil hd hsu0

theorem lastFrom_nil (s : Bytes) : lastFrom [] s = lastPayload s := by
  unfold lastFrom lastPayload; cases (decodeFrom s).getLast? <;> rfl

theorem side_advance (cx : Ctx) (tc : TapCtx) (e0 : IEnv) (hf : Fresh e0) :
    ∀ k e, C04.advance cx tc e0 k = some e → Side e0.see.script e :=
  C04.advance_induction cx tc e0
    ⟨⟨fun h => hf.pcStart ▸ h.elim (fun hp => p2shPattern_decodable _ _ (hf.p2sh0 hp)) fun hne => (hf.succ0 hne).1, fun h => (hf.succ0 h).2.1⟩,
     fun h => ⟨rfl, (hf.succ0 h).2.2.2.2⟩,
     fun hdp h => ⟨(hf.succ0 h).2.2.2.1, hf.pcStart ▸ hdp, by rw [(hf.succ0 h).2.2.1, hf.pcStart]; exact lastFrom_nil _⟩⟩
    (fun _ ep e _ _ hp hs => side_step cx tc _ ep e hp hs)

end Btcdeb.Proofs.C12
