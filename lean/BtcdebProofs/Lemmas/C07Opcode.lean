/-
  C07, lexical layer: opcode names.  `ParseOpCode` looks a name up in the table generated from the real function,
  `Spec.readOpcode` in the specification's table; both also know the escape `xNN`.  That every name of the
  specification is one of `ParseOpCode`'s is `Tables.get_opcode_names`, the converse `modelTab_sub`; the shape of
  the names is `rows_ok`.  These three are evaluated, everything else is rewriting.
-/
import Btcdeb
import BtcdebProofs.Properties.Tables
import BtcdebProofs.Lemmas.C07Int
namespace Btcdeb.Proofs.C07Opcode
open Btcdeb Btcdeb.Model Btcdeb.Proofs.C07Int Btcdeb.Proofs.TableEval

def chr (b : UInt8) : Char := Char.ofNat b.toNat

theorem strOfBytes_eq (w : Bytes) : strOfBytes w = String.ofList (w.map chr) := rfl
theorem asString_eq (w : Bytes) : Spec.asString w = strOfBytes w := rfl

theorem strOfBytes_toList (w : Bytes) : (strOfBytes w).toList = w.map chr := by
  rw [strOfBytes_eq, String.toList_ofList]

theorem strOfBytes_OP (r : Bytes) : strOfBytes (79 :: 80 :: 95 :: r) = "OP_" ++ strOfBytes r := by
  rw [strOfBytes_eq, strOfBytes_eq]
  show String.ofList ([chr 79, chr 80, chr 95] ++ r.map chr) = _
  rw [String.ofList_append]
  rfl

theorem startsWith_OP (w : Bytes) :
    (strOfBytes w).startsWith "OP_" = true ↔ ∃ r, w = 79 :: 80 :: 95 :: r := by
  rw [String.startsWith_string_iff, strOfBytes_toList]
  show ([79, 80, 95] : Bytes).map chr <+: w.map chr ↔ _
  rw [List.prefix_map_iff]
  constructor
  · rintro ⟨l, ⟨r, rfl⟩, hl⟩
    rw [← (List.map_inj_right (f := chr) fun _ _ => ofNat_byte_inj).mp hl]
    exact ⟨r, rfl⟩
  · rintro ⟨r, rfl⟩
    exact ⟨_, ⟨r, rfl⟩, rfl⟩

def bare : Bytes → Bytes
  | 79 :: 80 :: 95 :: r => r
  | r => r

theorem bare_cases (w : Bytes) :
    (w = 79 :: 80 :: 95 :: bare w) ∨ (bare w = w ∧ ∀ r, w ≠ 79 :: 80 :: 95 :: r) := by
  unfold bare
  split
  · exact Or.inl rfl
  · rename_i hn
    exact Or.inr ⟨rfl, fun r h => hn r h⟩

/-- both sides look up this string: "OP_" in front of the stripped word -/
theorem full_eq (w : Bytes) :
    (if (Spec.asString w).startsWith "OP_" then Spec.asString w else "OP_" ++ Spec.asString w)
      = "OP_" ++ strOfBytes (bare w) := by
  rw [asString_eq]
  rcases bare_cases w with h | ⟨h, hn⟩
  · have : (strOfBytes w).startsWith "OP_" = true := (startsWith_OP w).mpr ⟨_, h⟩
    rw [if_pos this]
    conv => lhs; rw [h]
    exact strOfBytes_OP _
  · have : ¬ (strOfBytes w).startsWith "OP_" = true := fun hs => by
      obtain ⟨r, hr⟩ := (startsWith_OP w).mp hs
      exact hn r hr
    rw [if_neg this, h]

/-- value of the first entry with key `k`, in the form `Spec.readOpcode` and `ParseOpCode` have it (`find?`, then
    the value); `look_eq_lookup` turns it into `List.lookup`, in which the table theorems speak -/
def look (L : List (String × Nat)) (k : String) : Option Nat := (L.find? (fun p => p.1 == k)).map (·.2)

theorem look_eq_lookup (L : List (String × Nat)) (k : String) : look L k = L.lookup k := by
  induction L with
  | nil => rfl
  | cons p L ih =>
    obtain ⟨a, b⟩ := p
    rw [look, List.find?_cons, List.lookup_cons, BEq.comm (a := k)]
    cases a == k
    · exact ih
    · rfl

theorem look_mem (L : List (String × Nat)) (k : String) (v : Nat) (h : look L k = some v) : (k, v) ∈ L := by
  unfold look at h
  cases hfind : L.find? (fun p => p.1 == k) with
  | none => rw [hfind] at h; cases h
  | some p =>
    rw [hfind] at h
    have hv : p.2 = v := by simpa using h
    have hk : p.1 = k := by simpa using List.find?_some hfind
    have := List.mem_of_find?_eq_some hfind
    rw [← hv, ← hk]; exact this

theorem look_filter (L : List (String × Nat)) (f : String × Nat → Bool) (k : String) :
    look (L.filter f) k = (L.find? fun p => p.1 == k && f p).map (·.2) := by
  rw [look, List.find?_filter]
  congr 2
  funext p
  rw [Bool.eq_iff_iff]
  simp [and_comm]

theorem look_filter_key (L : List (String × Nat)) (g : String → Bool) (k : String) :
    look (L.filter fun p => g p.1) k = if g k then look L k else none := by
  rw [look_filter, look]
  have : (fun p : String × Nat => p.1 == k && g p.1) = fun p => p.1 == k && g k := by
    funext p
    cases h : p.1 == k
    · rfl
    · rw [beq_iff_eq.mp h]
  rw [this]
  cases g k
  · simp
  · simp

/-- the names the specification accepts (with prefix) -/
def specTab : List (String × Nat) := (Op.table ++ Op.aliases).filter (fun p => p.1 != "OP_INVALIDOPCODE")
/-- the entries of the generated table `ParseOpCode` can reach after stripping "OP_" -/
def modelTab : List (String × Nat) := Gen.opCodeByName.filter (fun p => !p.1.startsWith "OP_")

/-- letters, digits, underscore -/
def nameByte (c : UInt8) : Bool :=
  (48 ≤ c.toNat && c.toNat ≤ 57) || (65 ≤ c.toNat && c.toNat ≤ 90) || c.toNat == 95 || (97 ≤ c.toNat && c.toNat ≤ 122)

/-- closed fact: every row of the specification's table has a value below 255 (the enumerator OP_INVALIDOPCODE
    apart) and a name of letters, digits and `_` that is longer than its prefix and goes on neither with `x` nor
    with a second prefix -/
theorem rows_ok : (Op.table ++ Op.aliases).all (fun p => (decide (p.2 < 255) || p.1 == "OP_INVALIDOPCODE") &&
    ((bytes p.1).all nameByte && decide (3 < (bytes p.1).length) && (bytes p.1)[3]? != some 120 &&
      ((bytes p.1).drop 3).take 3 != [79, 80, 95])) = true := by
  decide +kernel

/-- closed fact: every name `ParseOpCode` knows without prefix is, with the prefix, a name of the specification -/
theorem modelTab_sub : Gen.opCodeByName.all (fun q =>
    q.1.startsWith "OP_" || specTab.lookup ("OP_" ++ q.1) == some q.2) = true := by
  simp only [specTab, lookup_strKey, bne_strKey]
  decide +kernel

/-- what `rows_ok` says of a row in terms of the word behind the prefix -/
theorem specTab_row (n : Bytes) (c : Nat) (h : ("OP_" ++ strOfBytes n, c) ∈ specTab) :
    c < 255 ∧ n ≠ [] ∧ n.head? ≠ some 120 ∧ n.take 3 ≠ [79, 80, 95] ∧ ∀ b ∈ n, nameByte b = true := by
  obtain ⟨hm, hv⟩ := List.mem_filter.mp h
  have hrow := List.all_eq_true.mp rows_ok _ hm
  simp only [Bool.and_eq_true, Bool.or_eq_true, decide_eq_true_eq, List.all_eq_true, bne_iff_ne, ne_eq] at hrow
  obtain ⟨hc, ⟨⟨⟨hall, hlen⟩, h3⟩, hop⟩⟩ := hrow
  -- the name is ASCII, so its bytes are its characters: `OP_` and the word
  have hb : bytes ("OP_" ++ strOfBytes n) = [79, 80, 95] ++ n := by
    have ha : ∀ b ∈ bytes ("OP_" ++ strOfBytes n), b < 128 := fun b hb => by
      have := hall b hb
      simp only [nameByte, Bool.or_eq_true, Bool.and_eq_true, decide_eq_true_eq, beq_iff_eq] at this
      exact UInt8.lt_iff_toNat_lt.mpr (by show b.toNat < 128; omega)
    have hl : ("OP_" ++ strOfBytes n).toList = ([79, 80, 95] ++ n).map chr := by
      rw [String.toList_append, strOfBytes_toList]; rfl
    exact (List.map_inj_right (f := chr) fun _ _ => ofNat_byte_inj).mp ((toList_of_ascii _ ha).symm.trans hl)
  rw [hb] at hall hlen h3 hop
  refine ⟨?_, ?_, ?_, hop, fun b hb => hall b (List.mem_append_right _ hb)⟩
  · rcases hc with hc | hc
    · exact hc
    · exact absurd (beq_iff_eq.mp hc) (bne_iff_ne.mp hv)
  · rintro rfl; simp at hlen
  · cases n with
    | nil => simp
    | cons a r => simpa using h3

/-- the specification's table is the prefix-free half of `ParseOpCode`'s: one inclusion is the table theorem
    `Tables.get_opcode_names`, the other `modelTab_sub` -/
theorem look_specTab (n : Bytes) : look specTab ("OP_" ++ strOfBytes n) = look modelTab (strOfBytes n) := by
  apply Option.ext; intro v
  constructor
  · intro h
    have hm := look_mem _ _ _ h
    have hno : ¬ (strOfBytes n).startsWith "OP_" = true := fun hs => by
      obtain ⟨r, rfl⟩ := (startsWith_OP n).mp hs
      exact (specTab_row _ v hm).2.2.2.1 rfl
    have := List.all_eq_true.mp Tables.get_opcode_names.1 _ hm
    rw [Bool.and_eq_true, beq_iff_eq, beq_iff_eq, String.toList_append, List.drop_left' (by rfl), String.ofList_toList] at this
    rw [modelTab, look_filter_key Gen.opCodeByName (fun k => !k.startsWith "OP_"), (Bool.not_eq_true _).mp hno,
      look_eq_lookup]
    exact this.2
  · intro h
    obtain ⟨hm, hno⟩ := List.mem_filter.mp (look_mem _ _ _ h)
    have := List.all_eq_true.mp modelTab_sub _ hm
    rw [Bool.or_eq_true, beq_iff_eq] at this
    rw [look_eq_lookup]
    exact this.resolve_left (by simpa using hno)

/-- the enumerator OP_INVALIDOPCODE is no name for either side -/
theorem look_invalid : look modelTab "INVALIDOPCODE" = none ∧ look specTab "OP_INVALIDOPCODE" = none := by
  constructor
  · rw [modelTab, look_filter_key Gen.opCodeByName (fun k => !k.startsWith "OP_"), look_eq_lookup,
      Tables.get_opcode_names.2.2.1, ite_self]
  · rw [specTab, look_filter_key _ (fun k => k != "OP_INVALIDOPCODE")]
    rfl

/-- the specification's escape -/
def xesc : Bytes → Option Nat
  | [120, a, b] =>
    if Spec.isHexDigit a && Spec.isHexDigit b then some (Spec.hexNibble a * 16 + Spec.hexNibble b) else none
  | _ => none

/-- `ParseOpCode`'s escape -/
def xescM : Bytes → Option Nat
  | [120, a, b] => match hexDigitVal a, hexDigitVal b with
    | some h, some l => some (h * 16 + l)
    | _, _ => none
  | _ => none

theorem xescM_eq (n : Bytes) : xescM n = xesc n := by
  unfold xescM xesc
  split
  · rename_i a b
    rw [hexDigitVal_eq a, hexDigitVal_eq b]
    cases Spec.isHexDigit a <;> cases Spec.isHexDigit b <;> rfl
  · rfl

theorem xesc_some (n : Bytes) (c : Nat) (h : xesc n = some c) :
    ∃ a b, n = [120, a, b] ∧ Spec.isHexDigit a = true ∧ Spec.isHexDigit b = true ∧
      c = Spec.hexNibble a * 16 + Spec.hexNibble b := by
  unfold xesc at h
  split at h
  · rename_i a b
    by_cases hh : (Spec.isHexDigit a && Spec.isHexDigit b) = true
    · rw [if_pos hh] at h
      rw [Bool.and_eq_true] at hh
      exact ⟨a, b, rfl, hh.1, hh.2, (Option.some.inj h).symm⟩
    · rw [if_neg hh] at h; cases h
  · cases h

theorem xesc_none (n : Bytes) (h : ∀ rest, n ≠ 120 :: rest) : xesc n = none := by
  cases hx : xesc n with
  | none => rfl
  | some c =>
    obtain ⟨a, b, hn, _⟩ := xesc_some n c hx
    exact absurd hn (h _)

/-- no table name begins with `x` -/
theorem look_specTab_x (rest : Bytes) : look specTab ("OP_" ++ strOfBytes (120 :: rest)) = none := by
  cases h : look specTab ("OP_" ++ strOfBytes (120 :: rest)) with
  | none => rfl
  | some c => exact absurd rfl (specTab_row _ c (look_mem _ _ _ h)).2.2.1

theorem readOpcode_eq (w : Bytes) : Spec.readOpcode w =
    match look specTab ("OP_" ++ strOfBytes (bare w)) with
    | some v => some v
    | none => xesc (bare w) := by
  unfold Spec.readOpcode
  simp only []
  rw [full_eq, specTab, look_filter]
  cases (Op.table ++ Op.aliases).find? _ <;> rfl

theorem parseOpCode_eq (w : Bytes) : parseOpCode w =
    match xesc (bare w) with
    | some v => some v
    | none => look modelTab (strOfBytes (bare w)) := by
  have h0 : parseOpCode w = match xescM (bare w) with
      | some v => some v
      | none =>
        match Gen.opCodeByName.find? (fun p => p.1 == strOfBytes (bare w) && !p.1.startsWith "OP_") with
        | some p => some p.2
        | none => none := by
    rcases bare_cases w with h | ⟨h, hn⟩
    · generalize bare w = r at *
      subst h
      rfl
    · rw [h]
      unfold parseOpCode
      simp only []
      rfl
  rw [h0, xescM_eq, modelTab, look_filter]
  cases xesc (bare w) with
  | some v => rfl
  | none => cases Gen.opCodeByName.find? _ <;> rfl

theorem readOpcode_x (w rest : Bytes) (h : bare w = 120 :: rest) : Spec.readOpcode w = xesc (120 :: rest) := by
  rw [readOpcode_eq, h, look_specTab_x]

/-- `ParseOpCode` is the specification's reading of opcode names on every byte string: the same words are accepted
    (names of the table with or without `OP_`, the escapes `xNN` / `OP_xNN` for every byte NN, ff included: since
    /repo a4419d3 `ParseOpCode` reports success apart from the value) and they denote the same opcode -/
theorem parseOpCode_eq_readOpcode (w : Bytes) : parseOpCode w = Spec.readOpcode w := by
  rw [parseOpCode_eq, readOpcode_eq, look_specTab]
  generalize bare w = n
  by_cases hx : ∃ rest, n = 120 :: rest
  · obtain ⟨rest, rfl⟩ := hx
    rw [← look_specTab, look_specTab_x]
    cases xesc (120 :: rest) <;> rfl
  · rw [xesc_none n fun rest h => hx ⟨rest, h⟩]
    cases look modelTab (strOfBytes n) <;> rfl

/-- the wrapper `GetOpCode` cannot tell "opcode 255" from "none", which is why `ParseOpCode` stands beside it -/
theorem getOpCode_eq_readOpcode (w : Bytes) : getOpCode w = (Spec.readOpcode w).getD 255 := by
  unfold getOpCode
  rw [parseOpCode_eq_readOpcode]

theorem readOpcode_cases (w : Bytes) (c : Nat) (h : Spec.readOpcode w = some c) :
    ("OP_" ++ strOfBytes (bare w), c) ∈ specTab ∨
    ∃ a b, bare w = [120, a, b] ∧ Spec.isHexDigit a = true ∧ Spec.isHexDigit b = true ∧
      c = Spec.hexNibble a * 16 + Spec.hexNibble b := by
  rw [readOpcode_eq] at h
  cases hl : look specTab ("OP_" ++ strOfBytes (bare w)) with
  | some v =>
    rw [hl] at h
    rw [← Option.some.inj h]
    exact Or.inl (look_mem _ _ _ hl)
  | none =>
    rw [hl] at h
    exact Or.inr (xesc_some _ _ h)

theorem readOpcode_lt (w : Bytes) (c : Nat) (h : Spec.readOpcode w = some c) : c < 256 := by
  rcases readOpcode_cases w c h with hm | ⟨a, b, _, ha, hb, hc⟩
  · have := (specTab_row _ c hm).1
    omega
  · have := hexNibble_le a ha
    have := hexNibble_le b hb
    omega

theorem readOpcode_chars (w : Bytes) (c : Nat) (h : Spec.readOpcode w = some c) :
    w ≠ [] ∧ ∀ b ∈ w, nameByte b = true := by
  have key : bare w ≠ [] ∧ ∀ b ∈ bare w, nameByte b = true := by
    rcases readOpcode_cases w c h with hm | ⟨a, b, hn, ha, hb, _⟩
    · exact ⟨(specTab_row _ c hm).2.1, (specTab_row _ c hm).2.2.2.2⟩
    · rw [hn]
      refine ⟨by simp, fun x hx => ?_⟩
      have hex : ∀ d, Spec.isHexDigit d = true → nameByte d = true := by
        intro d hd
        simp only [Spec.isHexDigit, nameByte, Bool.and_eq_true, Bool.or_eq_true, decide_eq_true_eq, beq_iff_eq] at hd ⊢
        omega
      simp only [List.mem_cons, List.not_mem_nil, or_false] at hx
      rcases hx with rfl | rfl | rfl
      · rfl
      · exact hex _ ha
      · exact hex _ hb
  rcases bare_cases w with hw | ⟨hw, _⟩
  · rw [hw]
    refine ⟨by simp, fun b hb => ?_⟩
    simp only [List.mem_cons] at hb
    rcases hb with rfl | rfl | rfl | hb
    · rfl
    · rfl
    · rfl
    · exact key.2 b hb
  · rw [hw] at key; exact key

theorem parseOpCode_none_of_byte {w : Bytes} {b : UInt8} (hb : b ∈ w) (hn : nameByte b = false) :
    parseOpCode w = none ∧ Spec.readOpcode w = none := by
  have : Spec.readOpcode w = none := by
    cases h : Spec.readOpcode w with
    | none => rfl
    | some c => rw [(readOpcode_chars w c h).2 b hb] at hn; cases hn
  exact ⟨by rw [parseOpCode_eq_readOpcode, this], this⟩

/-- exactly these words read as opcode 255 (the escape for byte ff, in either spelling and either letter case) -/
theorem readOpcode_255 (w : Bytes) : Spec.readOpcode w = some 255 ↔
    ∃ a b, (w = [120, a, b] ∨ w = [79, 80, 95, 120, a, b]) ∧ Spec.isHexDigit a = true ∧ Spec.isHexDigit b = true ∧ Spec.hexNibble a = 15 ∧ Spec.hexNibble b = 15 := by
  constructor
  · intro h
    rcases readOpcode_cases w 255 h with hm | ⟨a, b, hn, ha, hb, hc⟩
    · exact absurd (specTab_row _ 255 hm).1 (by decide)
    · have := hexNibble_le a ha
      have := hexNibble_le b hb
      refine ⟨a, b, ?_, ha, hb, by omega, by omega⟩
      rcases bare_cases w with hw | ⟨hw, _⟩
      · right; rw [hw, hn]
      · left; rw [← hw, hn]
  · rintro ⟨a, b, hw, ha, hb, hna, hnb⟩
    have hbare : bare w = [120, a, b] := by
      rcases hw with rfl | rfl
      · rcases bare_cases [120, a, b] with h | ⟨h, _⟩
        · simp at h
        · exact h
      · rfl
    rw [readOpcode_x w _ hbare]
    simp [xesc, ha, hb, hna, hnb]

/-- the escape for byte ff is an opcode name like any other `xNN` (`ParseOpCode` since /repo a4419d3: finding F-C07-opxff),
    while the enumerator name `INVALIDOPCODE` is no opcode name for either side -/
example : parseOpCode [120, 102, 102] = some 255 ∧ Spec.readOpcode [120, 102, 102] = some 255 ∧
    parseOpCode [79, 80, 95, 120, 70, 102] = some 255 ∧ Spec.readOpcode [79, 80, 95, 120, 70, 102] = some 255 ∧
    parseOpCode [79, 80, 95, 120, 102] = none ∧ parseOpCode [79, 80, 95, 120, 102, 102, 102] = none ∧
    parseOpCode [73, 78, 86, 65, 76, 73, 68, 79, 80, 67, 79, 68, 69] = none ∧
    Spec.readOpcode [73, 78, 86, 65, 76, 73, 68, 79, 80, 67, 79, 68, 69] = none := by
  have hx : ∀ (rest w : Bytes) (r : Option Nat), bare w = 120 :: rest → xesc (120 :: rest) = r →
      Spec.readOpcode w = r ∧ parseOpCode w = r := fun rest w r h hr =>
    ⟨hr ▸ readOpcode_x w rest h, by rw [parseOpCode_eq_readOpcode, readOpcode_x w rest h, hr]⟩
  have hinv : ∀ w : Bytes, strOfBytes w = "INVALIDOPCODE" → bare w = w → xesc w = none → Spec.readOpcode w = none :=
    fun w h1 h2 h3 => by rw [readOpcode_eq, h2, look_specTab, h1, look_invalid.1, h3]
  have hinv := hinv [73, 78, 86, 65, 76, 73, 68, 79, 80, 67, 79, 68, 69] (by decide +kernel) rfl rfl
  have hff := hx [102, 102] [120, 102, 102] (some 255) rfl (by decide +kernel)
  have hFf := hx [70, 102] [79, 80, 95, 120, 70, 102] (some 255) rfl (by decide +kernel)
  exact ⟨hff.2, hff.1, hFf.2, hFf.1, (hx [102] [79, 80, 95, 120, 102] none rfl rfl).2,
    (hx [102, 102, 102] [79, 80, 95, 120, 102, 102, 102] none rfl rfl).2, by rw [parseOpCode_eq_readOpcode, hinv], hinv⟩

end Btcdeb.Proofs.C07Opcode
