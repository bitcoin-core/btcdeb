/-
  Abnormal outcomes (`VErr.abnormal`) of the `Value` expression parser model (`Btcdeb/Model/Value.lean`).

  The model has two abnormal sites: `cAt` (read past the end) and `tokenize` (`args_string[-1]`); the script
  number overflow of `Value::int_value` is a C++ exception (`VErr.exc`, caught by every tool's `main`), and running
  out of nesting levels is the parse error of `Value::DepthGuard` (`exit(1)`).  Neither site is reachable: no
  entry point (`btcc`, `valueData`, `valueOf` with any fuel and any length argument) has an abnormal outcome.
-/
import Btcdeb
import BtcdebProofs.Lemmas.ListAux
namespace Btcdeb.Model
open Btcdeb

def VNoAbn {α} (m : VM α) : Prop := ∀ k, m ≠ .error (.abnormal k)
def VAbnIn {α} (S : String → Prop) (m : VM α) : Prop := ∀ k, m = .error (.abnormal k) → S k

theorem VAbnIn.exc {α} (S : String → Prop) (w : String) : VAbnIn S (.error (.exc w) : VM α) := by
  intro k h; cases h

theorem VAbnIn.mono {α} {S T : String → Prop} {m : VM α} (h : VAbnIn S m) (hST : ∀ k, S k → T k) :
    VAbnIn T m := fun k hk => hST k (h k hk)

theorem VNoAbn.ok {α} (a : α) : VNoAbn (.ok a : VM α) := by
  intro k h; cases h

theorem VNoAbn.pure {α} (a : α) : VNoAbn (pure a : VM α) := by
  intro k h; cases h

theorem VNoAbn.exit1 {α} (msg : String) : VNoAbn (.error (.exit1 msg) : VM α) := by
  intro k h; cases h

theorem VNoAbn.bind {α β} {m : VM α} {f : α → VM β}
    (hm : VNoAbn m) (hf : ∀ a, m = .ok a → VNoAbn (f a)) : VNoAbn (m >>= f) := by
  intro k h
  cases m with
  | error e => exact hm k (by simpa [Bind.bind, Except.bind] using h)
  | ok a => exact hf a rfl k (by simpa [Bind.bind, Except.bind] using h)

theorem VNoAbn.ite {α} (c : Prop) [Decidable c] {a b : VM α} (ha : VNoAbn a) (hb : VNoAbn b) :
    VNoAbn (if c then a else b) := by
  split <;> assumption

theorem getD_mem (full : Bytes) (i : Nat) (h : i < full.length) : full.getD i 0 ∈ full :=
  ListAux.getD_mem full i h

theorem dataIntValue_noabn (d : Bytes) : VNoAbn (dataIntValue d) := by
  intro k hk
  unfold dataIntValue at hk
  split at hk <;> cases hk

theorem appendTo_noabn (v : Value) (s : Bytes) : VNoAbn (v.appendTo s) := by
  unfold Value.appendTo
  split
  · exact VNoAbn.ok _
  · exact VNoAbn.ok _
  · split
    · refine VNoAbn.bind (dataIntValue_noabn _) (fun i _ => ?_)
      split <;> exact VNoAbn.ok _
    · exact VNoAbn.ok _
  · exact VNoAbn.ok _

theorem appendAll_noabn (vs : List Value) (s : Bytes) : VNoAbn (appendAll vs s) := by
  induction vs generalizing s with
  | nil => exact VNoAbn.ok _
  | cons v vs ih =>
    unfold appendAll
    exact VNoAbn.bind (appendTo_noabn v s) (fun s' _ => ih s')


theorem cAt_noabn (s : Bytes) (i : Nat) (h : i ≤ s.length) : VNoAbn (cAt s i) := by
  intro k hk
  unfold cAt at hk
  split at hk
  · cases hk
  · split at hk
    · cases hk
    · rename_i h1 h2
      have : i = s.length := by omega
      simp [this] at h2

theorem bracketScan_noabn (full : Bytes) (len : Nat) (hlen : len ≤ full.length)
    (k i depth : Nat) (ch : UInt8) : VNoAbn (bracketScan full len k i depth ch) := by
  induction k generalizing i depth ch with
  | zero => exact VNoAbn.ok _
  | succ k ih =>
    unfold bracketScan
    split
    · rename_i hc
      have hi : i ≤ len := by simp at hc; exact hc.1
      exact VNoAbn.bind (cAt_noabn full i (by omega)) (fun c _ => ih _ _ _)
    · split
      · exact VNoAbn.exit1 _
      · exact VNoAbn.ok _

theorem tokenize_noabn (full : Bytes) (len : Nat) (h1 : 1 ≤ len) (hlen : len ≤ full.length)
    (k i start : Nat) (acc : List Bytes) : VNoAbn (tokenize full len k i start acc) := by
  induction k generalizing i start acc with
  | zero => exact VNoAbn.ok _
  | succ k ih =>
    unfold tokenize
    split
    · exact VNoAbn.ok _
    · rename_i hi
      split
      · rename_i h0; simp at h0; omega
      · refine VNoAbn.bind (cAt_noabn _ _ (by split <;> omega)) (fun ch _ => ?_)
        split
        · refine VNoAbn.bind (bracketScan_noabn full len hlen _ _ _ _) (fun r _ => ?_)
          obtain ⟨i2, c2⟩ := r
          exact ih _ _ _
        · split
          · dsimp only
            split <;> split <;> exact ih _ _ _
          · exact ih _ _ _

theorem parseArgsListWith_noabn (mk : Bytes → Nat → VM Value)
    (hmk : ∀ text l, VNoAbn (mk text l))
    (toks : List Bytes) (accum : Bytes) (depth : Int) (acc : List Value) :
    VNoAbn (parseArgsListWith mk toks accum depth acc) := by
  induction toks generalizing accum depth acc with
  | nil => exact VNoAbn.ok _
  | cons v rest ih =>
    unfold parseArgsListWith
    split
    · dsimp only
      split
      · exact VNoAbn.bind (hmk _ _) (fun x _ => ih _ _ _)
      · exact ih _ _ _
    · split
      · exact ih _ _ _
      · split
        · exact ih _ _ _
        · exact VNoAbn.bind (hmk _ _) (fun x _ => ih _ _ _)

theorem parseArgsStringWith_noabn (mk : Bytes → Nat → VM Value)
    (full : Bytes) (len : Nat) (hne : 1 ≤ full.length) (hlen : len ≤ full.length)
    (hmk : ∀ text l, VNoAbn (mk text l)) :
    VNoAbn (parseArgsStringWith mk full len) := by
  unfold parseArgsStringWith
  have h1 : 1 ≤ (if len == 0 then full.length else len) := by
    split
    · exact hne
    · rename_i h; simp at h; omega
  have h2 : (if len == 0 then full.length else len) ≤ full.length := by
    split <;> omega
  exact VNoAbn.bind (tokenize_noabn full _ h1 h2 _ _ _ _)
    (fun toks _ => parseArgsListWith_noabn mk hmk toks [] 0 [])

theorem classifyPlain_noabn (cur : Value) (full : Bytes) (vlen : Nat) :
    VNoAbn (classifyPlain cur full vlen) := by
  unfold classifyPlain
  dsimp only
  repeat' split
  all_goals exact VNoAbn.ok _

theorem intValue_noabn (v : Value) : VNoAbn v.intValue := by
  unfold Value.intValue
  split
  · exact VNoAbn.ok _
  · exact VNoAbn.ok _
  · exact dataIntValue_noabn _
  · exact VNoAbn.ok _

theorem forall_eq_some_ite {α} {c : Prop} [Decidable c] {a b : Option α} {P : α → Prop}
    (ha : ∀ r, a = some r → P r) (hb : ∀ r, b = some r → P r) : ∀ r, (if c then a else b) = some r → P r := by
  split <;> assumption

/-- of the inline transforms only `int` (through `int_value`) and `reverse` (of an opcode) do not simply return -/
theorem doExec_noabn (cx : VCtx) (v : Value) (fn : Bytes) (r : VM Value) (h : v.doExec cx fn = some r) :
    VNoAbn r := by
  revert r
  unfold Value.doExec
  repeat' apply forall_eq_some_ite
  all_goals intro r h; cases h
  any_goals exact VNoAbn.ok _
  · exact VNoAbn.bind (intValue_noabn v) fun _ _ => VNoAbn.pure _
  · split <;> first | exact VNoAbn.ok _ | exact VNoAbn.exit1 _

/-- whatever the length argument: a `vlen` beyond the NUL never passes the `v[vlen-1] == ']'` / `')'` tests,
    a shorter one only shortens the slices -/
theorem valueBody_noabn (cx : VCtx) (mk : Bytes → Nat → VM Value) (full : Bytes) (vlen : Nat)
    (hmk : ∀ text l, VNoAbn (mk text l)) :
    VNoAbn (valueBody cx mk full vlen) := by
  unfold valueBody
  generalize (if vlen == 0 then full.length else vlen) = vl
  dsimp only
  split
  · exact VNoAbn.ok _
  · split
    · -- bracket
      rename_i _ hb
      simp only [Bool.and_eq_true, decide_eq_true_eq, beq_iff_eq] at hb
      obtain ⟨⟨hb1, hb2⟩, hb3⟩ := hb
      have hvl : vl - 1 < full.length := ListAux.getD_lt_of_ne full _ 0 (by rw [hb3]; decide)
      refine VNoAbn.bind ?_ (fun vs _ => VNoAbn.bind (appendAll_noabn _ _) (fun s _ => VNoAbn.pure _))
      exact parseArgsStringWith_noabn mk _ _ (by rw [List.length_drop]; omega)
        (by rw [List.length_drop]; omega) hmk
    · generalize hfc : ((full.take 29).takeWhile (fun c => c.toNat != 40 && c.toNat != 0)) = fnChars
      split
      · refine VNoAbn.bind (hmk _ _) (fun inner _ => ?_)
        split
        · rename_i r hr
          exact doExec_noabn cx inner fnChars r hr
        · split
          · exact VNoAbn.exit1 _
          · exact classifyPlain_noabn _ _ _
      · exact classifyPlain_noabn _ _ _

theorem valueOf_noabn (cx : VCtx) (fuel : Nat) (full : Bytes) (vlen : Nat) :
    VNoAbn (valueOf cx fuel full vlen) := by
  induction fuel generalizing full vlen with
  | zero => exact VNoAbn.exit1 _
  | succ fuel ih =>
    show VNoAbn (valueBody cx (valueOf cx fuel) full vlen)
    exact valueBody_noabn cx _ full vlen (fun text l => ih text l)

theorem catchExc_noabn {α} (pfx : String) (m : VM α) (h : VNoAbn m) : VNoAbn (catchExc pfx m) := by
  unfold catchExc
  split
  · exact VNoAbn.exit1 _
  · exact h


theorem parseArgsList_noabn (cx : VCtx) (fuel : Nat) (args : List Bytes) : VNoAbn (parseArgsList cx fuel args) :=
  parseArgsListWith_noabn _ (fun text l => valueOf_noabn cx fuel text l) args [] 0 []

theorem valueData_noabn (cx : VCtx) (text : Bytes) : VNoAbn (valueData cx text) := by
  unfold valueData
  exact VNoAbn.bind (valueOf_noabn cx _ _ _) (fun v _ => VNoAbn.pure _)

theorem btcc_noabn (cx : VCtx) (argv : List Bytes) : VNoAbn (btcc cx argv) := by
  unfold btcc
  refine catchExc_noabn _ _ ?_
  exact VNoAbn.bind (parseArgsList_noabn cx _ argv) (fun vs _ => appendAll_noabn vs [])

/-! ## non-vacuity: a script number overflow in `int(…)` is an exception that `main` reports (exit status 1; it ended in
    std::terminate before /repo f7842e6), and deep nesting is the parse error of the depth guard (byte lists are written out) -/

example : "int(0x0102030405)".toList.map (fun c => UInt8.ofNat c.toNat)
    = [105, 110, 116, 40, 48, 120, 48, 49, 48, 50, 48, 51, 48, 52, 48, 53, 41] := by decide

example (cx : VCtx) : valueData cx [105, 110, 116, 40, 48, 120, 48, 49, 48, 50, 48, 51, 48, 52, 48, 53, 41]
    = .error (.exc "script number overflow") := by rfl

example (cx : VCtx) : btcc cx [[105, 110, 116, 40, 48, 120, 48, 49, 48, 50, 48, 51, 48, 52, 48, 53, 41]]
    = .error (.exit1 "error: script number overflow") := by rfl

example (cx : VCtx) : valueOf cx 3 [91, 32, 91, 32, 91, 32, 53, 32, 93, 32, 93, 32, 93] 13
    = .error (.exit1 depthMsg) := by rfl

end Btcdeb.Model
