/-
  The lemmas behind `Properties/C15Kerl.lean` and `Properties/C16Kerl.lean`.  kerl.c is modelled with every buffer as the list
  of its bytes; the proofs write a buffer as known prefix ++ cell ++ rest (`Kerl/Memory`) and show that each C function
  keeps an invariant inside its allocations (`MoreFinal`, `Argv`, `Line`, `History`, `Run`).  `Words` connects the word
  splitter to the rule of `Spec/Kerl.lean` through a machine without memory.
-/
import BtcdebProofs.Lemmas.Kerl.Words
import BtcdebProofs.Lemmas.Kerl.Run
