/-
  The stream layer of serialize.h as the model has it (`Btcdeb/Model/Tx.lean`): fixed-width and compact-size numbers, byte
  strings and vectors with their length in front.

  One statement per reader, `Codec p ser ok`: `p` accepts exactly `ser a ++ rest` for the `ok` values `a`; what holds of every
  codec (nothing but the encoding is read back, no encoding is a proper prefix of another, a truncated stream is refused) is
  proved once, in the namespace `Codec`.  Every reader of the model is a chain of `andThen`s, and `andThen_eq_some` turns
  "the chain accepts" into "each link accepts".
  `ofSigned` / `toSigned`, the two's-complement reading of a fixed-width field (version, amount), are inverse to each other
  on the range of the width.
-/
import Btcdeb.Model.Tx
import BtcdebProofs.Lemmas.LE
namespace Btcdeb.Proofs.C13
open Btcdeb Btcdeb.Model

/-- left to right: only the canonical encoding is accepted; right to left: every encoding is read back, whatever
    follows it -/
abbrev Codec {α : Type} (p : Bytes → Option (α × Bytes)) (ser : α → Bytes) (ok : α → Prop) : Prop :=
  ∀ b a r, p b = some (a, r) ↔ b = ser a ++ r ∧ ok a

namespace Codec
variable {α : Type} {p : Bytes → Option (α × Bytes)} {ser : α → Bytes} {ok : α → Prop} (h : Codec p ser ok)
include h

theorem read {a : α} (ha : ok a) (r : Bytes) : p (ser a ++ r) = some (a, r) := (h _ a r).mpr ⟨rfl, ha⟩

theorem eq_ser {b r : Bytes} {a : α} (hb : p b = some (a, r)) : b = ser a ++ r := ((h b a r).mp hb).1

theorem ok_of {b r : Bytes} {a : α} (hb : p b = some (a, r)) : ok a := ((h b a r).mp hb).2

theorem unique {a a' : α} {r r' : Bytes} (ha : ok a) (ha' : ok a') (e : ser a ++ r = ser a' ++ r') : a = a' ∧ r = r' := by
  have h1 := h.read ha r
  rw [e, h.read ha' r'] at h1
  cases h1; exact ⟨rfl, rfl⟩

theorem injective {a a' : α} (ha : ok a) (ha' : ok a') (e : ser a = ser a') : a = a' :=
  (h.unique ha ha' (r := []) (r' := []) (by rw [e])).1

theorem exact {b : Bytes} {a : α} : p b = some (a, []) ↔ ok a ∧ b = ser a := by
  rw [h b a [], List.append_nil, and_comm]

/-- cut anywhere inside the part that was consumed, the stream is refused: it never yields another, shorter value -/
theorem take_none {b rest : Bytes} {a : α} (hb : p b = some (a, rest)) {k : Nat} (hk : k < b.length - rest.length) :
    p (b.take k) = none := by
  cases hp : p (b.take k) with
  | none => rfl
  | some res =>
    obtain ⟨a', r⟩ := res
    -- `b = ser a' ++ (r ++ drop k b)` is read as `a'` too, so `rest = r ++ drop k b`, which is too long
    have e : b = ser a' ++ (r ++ b.drop k) := by
      rw [← List.append_assoc, ← h.eq_ser hp, List.take_append_drop]
    rw [e, h.read (h.ok_of hp)] at hb
    have hlen := congrArg List.length (Prod.mk.inj (Option.some.inj hb)).2
    simp only [List.length_append, List.length_drop] at hlen
    omega

end Codec

/-- The shape of every reader of the model: run `p`, hand its result and the rest of the stream to `k`.  A device of the
    proofs, not a part of the model: the model writes its readers as nested `match`es (as the C++ nests its reads), and
    the section of `_eq` lemmas below identifies each with its chain. -/
def andThen {α β : Type} (p : Bytes → Option (α × Bytes)) (k : α → Bytes → Option β) (b : Bytes) : Option β :=
  match p b with
  | some (a, r) => k a r
  | none => none

theorem andThen_eq_some {α β : Type} {p : Bytes → Option (α × Bytes)} {k : α → Bytes → Option β} {b : Bytes} {y : β} :
    andThen p k b = some y ↔ ∃ a r, p b = some (a, r) ∧ k a r = some y := by
  unfold andThen
  cases p b with
  | none => simp
  | some x =>
    obtain ⟨a, r⟩ := x
    exact ⟨fun h => ⟨a, r, rfl, h⟩, fun ⟨_, _, h, hk⟩ => by cases h; exact hk⟩

/-- a long form of the compact size: `k` bytes, refused when the number is below `lo` (it has a shorter form) -/
def readLong (k lo : Nat) : Bytes → Option (Nat × Bytes) :=
  andThen (readLE k) fun n r => if n < lo then none else some (n, r)

def rangeChecked (rc : Bool) (n : Nat) (r : Bytes) : Option (Nat × Bytes) :=
  if rc && decide (n > MAX_SIZE) then none else some (n, r)

/-- the three long forms: tag byte, number of payload bytes, least number that needs this form -/
inductive LongForm : UInt8 → Nat → Nat → Prop
  | w2 : LongForm 253 2 253
  | w4 : LongForm 254 4 0x10000
  | w8 : LongForm 255 8 0x100000000

section
/- The readers of the model are nested `match`es.  Each equals its `andThen` chain by unfolding the auxiliary `match`
   functions on both sides, which the elaborator does only with smart unfolding off. -/
set_option smartUnfolding false

theorem readLE_eq (k : Nat) : readLE k = andThen (readBytes k) fun x r => some (leValue x, r) := rfl

theorem readCompactSize_long {c : UInt8} {k lo : Nat} (h : LongForm c k lo) (r : Bytes) (rc : Bool) :
    readCompactSize (c :: r) rc = andThen (readLong k lo) (rangeChecked rc) r := by
  cases h <;> rfl

theorem readVarBytes_eq : readVarBytes = andThen (readCompactSize ·) readBytes := rfl

theorem readN_succ {α : Type} (p : Bytes → Option (α × Bytes)) (n : Nat) :
    readN p (n + 1) = andThen p fun a r => andThen (readN p n) (fun as r' => some (a :: as, r')) r := rfl

theorem readVector_eq {α : Type} (p : Bytes → Option (α × Bytes)) :
    readVector p = andThen (readCompactSize ·) (readN p) := rfl

end

theorem readBytes_codec (n : Nat) : Codec (readBytes n) id (fun x => x.length = n) := by
  intro b a r
  unfold readBytes
  constructor
  · intro h
    split at h
    · cases h
      exact ⟨(List.take_append_drop n b).symm, List.length_take_of_le ‹_›⟩
    · cases h
  · rintro ⟨rfl, rfl⟩
    simp

theorem readLE_codec (k : Nat) : Codec (readLE k) (leFixed k) (fun v => v < 256 ^ k) := by
  intro b v r
  rw [readLE_eq]
  simp only [andThen_eq_some, readBytes_codec k _ _ _, id, Option.some.injEq, Prod.mk.injEq]
  constructor
  · rintro ⟨x, _, ⟨rfl, rfl⟩, rfl, rfl⟩
    exact ⟨by rw [leFixed_leValue], leValue_lt x⟩
  · rintro ⟨rfl, hv⟩
    exact ⟨_, _, ⟨rfl, leFixed_length k v⟩, by rw [leValue_leFixed, Nat.mod_eq_of_lt hv], rfl⟩

theorem readLong_eq_some {k lo n : Nat} {b r : Bytes} :
    readLong k lo b = some (n, r) ↔ b = leFixed k n ++ r ∧ lo ≤ n ∧ n < 256 ^ k := by
  simp only [readLong, andThen_eq_some, readLE_codec k _ _ _]
  constructor
  · rintro ⟨n', r', ⟨rfl, hn⟩, h⟩
    split at h
    · cases h
    · cases h; exact ⟨rfl, by omega, hn⟩
  · rintro ⟨rfl, hlo, hn⟩
    exact ⟨n, r, ⟨rfl, hn⟩, if_neg (by omega)⟩

theorem rangeChecked_eq_some {rc : Bool} {n' n : Nat} {r' r : Bytes} :
    rangeChecked rc n' r' = some (n, r) ↔ n' = n ∧ r' = r ∧ (rc = true → n ≤ MAX_SIZE) := by
  unfold rangeChecked
  cases rc <;> by_cases h : n' > MAX_SIZE <;> simp [h] <;> intro h1 _ <;> omega

theorem LongForm.of_tag {c : UInt8} (h : 253 ≤ c.toNat) : ∃ k lo, LongForm c k lo := by
  have := u8_lt c
  rcases (by omega : c.toNat = 253 ∨ c.toNat = 254 ∨ c.toNat = 255) with h | h | h
  · obtain rfl : c = 253 := u8_ext h
    exact ⟨_, _, .w2⟩
  · obtain rfl : c = 254 := u8_ext h
    exact ⟨_, _, .w4⟩
  · obtain rfl : c = 255 := u8_ext h
    exact ⟨_, _, .w8⟩

theorem LongForm.of_nat {n : Nat} (h1 : 253 ≤ n) (h2 : n < 2 ^ 64) :
    ∃ c k lo, LongForm c k lo ∧ lo ≤ n ∧ n < 256 ^ k := by
  by_cases h16 : n < 256 ^ 2
  · exact ⟨_, _, _, .w2, h1, h16⟩
  · by_cases h32 : n < 256 ^ 4
    · exact ⟨_, _, _, .w4, by omega, h32⟩
    · exact ⟨_, _, _, .w8, by omega, by omega⟩

theorem compactSize_short {n : Nat} (h : n < 253) : compactSize n = [UInt8.ofNat n] := by
  rw [compactSize, if_pos h]

theorem compactSize_long {c : UInt8} {k lo n : Nat} (h : LongForm c k lo) (hlo : lo ≤ n) (hn : n < 256 ^ k) :
    compactSize n = c :: leFixed k n := by
  unfold compactSize
  cases h
  · rw [if_neg (by omega), if_pos (by omega)]
  · rw [if_neg (by omega), if_neg (by omega), if_pos (by omega)]
  · rw [if_neg (by omega), if_neg (by omega), if_neg (by omega)]

theorem readCompactSize_short {c : UInt8} (h : c.toNat < 253) (r : Bytes) (rc : Bool) :
    readCompactSize (c :: r) rc = rangeChecked rc c.toNat r := by
  simp only [readCompactSize, h, if_true, rangeChecked]

theorem readCompactSize_codec (rc : Bool) :
    Codec (readCompactSize · rc) compactSize (fun n => n < 2 ^ 64 ∧ (rc = true → n ≤ MAX_SIZE)) := by
  intro b n rest
  dsimp only
  constructor
  · intro h
    cases b with
    | nil => cases h
    | cons c r =>
      have hc := u8_lt c
      by_cases hs : c.toNat < 253
      · rw [readCompactSize_short hs, rangeChecked_eq_some] at h
        obtain ⟨rfl, rfl, hr⟩ := h
        exact ⟨by rw [compactSize_short hs, u8_ofNat_toNat]; rfl, by omega, hr⟩
      · obtain ⟨k, lo, hL⟩ := LongForm.of_tag (by omega : 253 ≤ c.toNat)
        rw [readCompactSize_long hL, andThen_eq_some] at h
        obtain ⟨n', r', h1, h2⟩ := h
        obtain ⟨rfl, rfl, hr⟩ := rangeChecked_eq_some.mp h2
        obtain ⟨rfl, hlo, hn⟩ := readLong_eq_some.mp h1
        exact ⟨by rw [compactSize_long hL hlo hn]; rfl, by cases hL <;> omega, hr⟩
  · rintro ⟨rfl, h64, hr⟩
    by_cases hs : n < 253
    · have ht : (UInt8.ofNat n).toNat = n := UInt8.toNat_ofNat_of_lt' (by omega : n < 256)
      rw [compactSize_short hs, List.cons_append, readCompactSize_short (by omega), ht]
      exact rangeChecked_eq_some.mpr ⟨rfl, rfl, hr⟩
    · obtain ⟨c, k, lo, hL, hlo, hn⟩ := LongForm.of_nat (by omega) h64
      rw [compactSize_long hL hlo hn, List.cons_append, readCompactSize_long hL, andThen_eq_some]
      exact ⟨n, rest, readLong_eq_some.mpr ⟨rfl, hlo, hn⟩, rangeChecked_eq_some.mpr ⟨rfl, rfl, hr⟩⟩

theorem MAX_SIZE_lt : MAX_SIZE < 2 ^ 64 := by decide

theorem readVarBytes_codec : Codec readVarBytes serVarBytes (fun x => x.length ≤ MAX_SIZE) := by
  intro b x r
  rw [readVarBytes_eq]
  simp only [andThen_eq_some, readCompactSize_codec true _ _ _, readBytes_codec _ _ _ _, id, serVarBytes]
  constructor
  · rintro ⟨_, _, ⟨rfl, _, hn⟩, rfl, rfl⟩
    exact ⟨(List.append_assoc ..).symm, hn trivial⟩
  · rintro ⟨rfl, h⟩
    exact ⟨_, _, ⟨List.append_assoc .., Nat.lt_of_le_of_lt h MAX_SIZE_lt, fun _ => h⟩, rfl, rfl⟩

theorem readN_codec {α : Type} {p : Bytes → Option (α × Bytes)} {ser : α → Bytes} {ok : α → Prop}
    (hp : Codec p ser ok) (n : Nat) :
    Codec (readN p n) (fun as => as.flatMap ser) (fun as => as.length = n ∧ ∀ a ∈ as, ok a) := by
  induction n with
  | zero =>
    intro b as r
    rw [readN]
    constructor
    · intro h; cases h; simp
    · rintro ⟨rfl, hl, _⟩
      cases List.eq_nil_of_length_eq_zero hl; rfl
  | succ n ih =>
    intro b as r
    rw [readN_succ]
    simp only [andThen_eq_some, hp _ _ _, ih _ _ _, Option.some.injEq, Prod.mk.injEq]
    constructor
    · rintro ⟨a, _, ⟨rfl, ha⟩, as', _, ⟨rfl, hl, hall⟩, rfl, rfl⟩
      exact ⟨by simp, by simp [hl], List.forall_mem_cons.mpr ⟨ha, hall⟩⟩
    · rintro ⟨rfl, hl, hall⟩
      cases as with
      | nil => cases hl
      | cons a as' =>
        obtain ⟨ha, hall⟩ := List.forall_mem_cons.mp hall
        exact ⟨a, _, ⟨by simp, ha⟩, as', _, ⟨rfl, by simpa using hl, hall⟩, rfl, rfl⟩

theorem readVector_codec {α : Type} {p : Bytes → Option (α × Bytes)} {ser : α → Bytes} {ok : α → Prop}
    (hp : Codec p ser ok) :
    Codec (readVector p) (serVector ser) (fun as => as.length ≤ MAX_SIZE ∧ ∀ a ∈ as, ok a) := by
  intro b as r
  rw [readVector_eq]
  simp only [andThen_eq_some, readCompactSize_codec true _ _ _, readN_codec hp _ _ _ _, serVector]
  constructor
  · rintro ⟨_, _, ⟨rfl, _, hn⟩, rfl, rfl, hall⟩
    exact ⟨(List.append_assoc ..).symm, hn trivial, hall⟩
  · rintro ⟨rfl, hl, hall⟩
    exact ⟨_, _, ⟨List.append_assoc .., Nat.lt_of_le_of_lt hl MAX_SIZE_lt, fun _ => hl⟩, rfl, rfl, hall⟩

theorem serVector_nil {α : Type} (f : α → Bytes) : serVector f [] = [0] := by
  simp [serVector, show compactSize 0 = [0] by decide]

theorem two_pow_pred {bits : Nat} (h : 0 < bits) : 2 ^ bits = 2 * 2 ^ (bits - 1) := by
  obtain ⟨k, rfl⟩ : ∃ k, bits = k + 1 := ⟨bits - 1, by omega⟩
  rw [Nat.pow_succ, Nat.add_sub_cancel, Nat.mul_comm]

theorem int_two_pow (k : Nat) : (2 : Int) ^ k = ((2 ^ k : Nat) : Int) := (Int.natCast_pow 2 k).symm

/-- `ofSigned` without `%`, on the range that matters -/
theorem ofSigned_eq (bits : Nat) (x : Int) (h1 : -((2 ^ bits : Nat) : Int) ≤ x) (h2 : x < ((2 ^ bits : Nat) : Int)) :
    ofSigned bits x = if 0 ≤ x then x.toNat else (x + ((2 ^ bits : Nat) : Int)).toNat := by
  unfold ofSigned
  split
  · rw [Int.emod_eq_of_lt ‹_› h2]
  · rw [← Int.add_emod_right, Int.emod_eq_of_lt (by omega) (by omega)]

theorem ofSigned_lt (bits : Nat) (x : Int) : ofSigned bits x < 2 ^ bits := by
  have hpos : (0 : Int) < ((2 ^ bits : Nat) : Int) := Int.natCast_pos.mpr (Nat.pow_pos (by omega))
  have h1 := Int.emod_lt_of_pos x hpos
  have h2 := Int.emod_nonneg x (Int.ne_of_gt hpos)
  unfold ofSigned
  omega

theorem toSigned_range (bits v : Nat) (hb : 0 < bits) (h : v < 2 ^ bits) :
    -(2 : Int) ^ (bits - 1) ≤ toSigned bits v ∧ toSigned bits v < (2 : Int) ^ (bits - 1) := by
  have e := two_pow_pred hb
  unfold toSigned
  rw [int_two_pow]
  split <;> omega

theorem ofSigned_toSigned (bits v : Nat) (hb : 0 < bits) (h : v < 2 ^ bits) : ofSigned bits (toSigned bits v) = v := by
  have e := two_pow_pred hb
  rw [ofSigned_eq] <;> unfold toSigned <;> split <;> (try split) <;> omega

theorem toSigned_ofSigned (bits : Nat) (x : Int) (hb : 0 < bits)
    (h : -(2 : Int) ^ (bits - 1) ≤ x ∧ x < (2 : Int) ^ (bits - 1)) : toSigned bits (ofSigned bits x) = x := by
  have e := two_pow_pred hb
  rw [int_two_pow] at h
  rw [ofSigned_eq _ _ (by omega) (by omega)]
  unfold toSigned
  split <;> split <;> omega

end Btcdeb.Proofs.C13
