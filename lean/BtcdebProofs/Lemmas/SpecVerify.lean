/-
  The specification of Spec/Verify.lean in normal form: what `VerifyScript` is on each shape of spend.  `VerifyScript` without its
  mutable variables, `ExecuteWitnessScript` as a run followed by its final checks, `VerifyWitnessProgram` on each of the four
  programs, and `VerifyScript` on the two scripts that can carry a witness program.  No statement here mentions the model.
-/
import Btcdeb
import BtcdebProofs.Lemmas.SpendShapes
import BtcdebProofs.Lemmas.SpecEval
namespace Btcdeb.Proofs.C03
open Btcdeb Btcdeb.Model Btcdeb.Refine Btcdeb.Proofs.Shapes Btcdeb.Proofs.SpecCore
open Btcdeb.Proofs.SpecEval

/-- the configuration `Spec.runScript` evaluates a script under -/
def specCfg (sc : Spec.SpendCtx) (flags : Nat) (sv : SigVersion) (annex leaf : Option Bytes) : Spec.Cfg :=
  { flags := flags, sigversion := sv, oracle := sc.oracleFor sv annex leaf }

theorem runScript_eq (sc : Spec.SpendCtx) (flags : Nat) (sv : SigVersion) (annex leaf : Option Bytes) (script : Bytes)
    (st0 : Spec.St) :
    Spec.runScript sc flags sv annex leaf script st0 = (Spec.evalScript (specCfg sc flags sv annex leaf) script st0).result :=
  rfl

theorem throw_eq {α} (x : ScriptError) : (throw x : Spec.R α) = .error x := rfl

def specOk (r : Spec.R Unit) : Bool :=
  match r with
  | .ok _ => true
  | .error _ => false

theorem specOk_iff (r : Spec.R Unit) : specOk r = true ↔ r = .ok () := by
  cases r with
  | error e => simp [specOk]
  | ok u => cases u; simp [specOk]

/-- the specification's reading of the final state of a script that must leave exactly one true element
    (`ExecuteWitnessScript`), and of a legacy script (`evalTrue` + CLEANSTACK) -/
def finalChecks (flags : Nat) (sv : SigVersion) (st : Spec.St) : Spec.R Unit :=
  Spec.evalTrue st >>= fun _ =>
    if ((sv != .BASE || hasFlag flags Flag.CLEANSTACK) && st.stack.length != 1) = true then .error .CLEANSTACK else .ok ()

theorem bind_unit (x : Spec.R Unit) : (x >>= fun _ => Except.ok ()) = x := by
  cases x with
  | error e => rfl
  | ok u => cases u; rfl

/-- what `VerifyScript` does with the script that may carry a witness program (the scriptPubKey, or the redeem script of
    P2SH) once it has run and left a true value in `st`: `VerifyWitnessProgram` for a witness program under the WITNESS
    flag (`malleated`: the scriptSig is not what that carrier demands), else CLEANSTACK and no witness allowed -/
def witnessOrClean (sc : Spec.SpendCtx) (flags : Nat) (witness : List Bytes) (script : Bytes) (st : Spec.St)
    (malleated : Bool) (merr : ScriptError) (isP2sh : Bool) : Spec.R Unit :=
  match (if hasFlag flags Flag.WITNESS then Spec.witnessProgram script else none) with
  | some (ver, prog) => if malleated then .error merr else Spec.verifyWitnessProgram sc flags witness ver prog isP2sh
  | none =>
    if (hasFlag flags Flag.CLEANSTACK && st.stack.length != 1) = true then .error .CLEANSTACK
    else if (hasFlag flags Flag.WITNESS && !witness.isEmpty) = true then .error .WITNESS_UNEXPECTED else .ok ()

/-- `VerifyScript` without its mutable variables -/
theorem verifyScript_nf (sc : Spec.SpendCtx) (flags : Nat) (sig spk : Bytes) (witness : List Bytes) :
    Spec.verifyScript sc flags sig spk witness =
      if (hasFlag flags Flag.SIGPUSHONLY && !Spec.isPushOnly sig) = true then .error .SIG_PUSHONLY
      else Spec.runScript sc flags .BASE none none sig {} >>= fun s1 =>
        Spec.runScript sc flags .BASE none none spk { stack := s1.stack } >>= fun s2 =>
        Spec.evalTrue s2 >>= fun _ =>
        if (hasFlag flags Flag.P2SH && Spec.isP2SH spk) = true then
          if (!Spec.isPushOnly sig) = true then .error .SIG_PUSHONLY
          else match s1.stack with
            | [] => .error .EVAL_FALSE
            | redeem :: rest =>
              Spec.runScript sc flags .BASE none none redeem { stack := rest } >>= fun s3 =>
              Spec.evalTrue s3 >>= fun _ =>
              witnessOrClean sc flags witness redeem s3 (sig != Spec.pushOf redeem) .WITNESS_MALLEATED_P2SH true
        else witnessOrClean sc flags witness spk s2 (!sig.isEmpty) .WITNESS_MALLEATED false := by
  unfold Spec.verifyScript witnessOrClean
  by_cases hpo : (hasFlag flags Flag.SIGPUSHONLY && !Spec.isPushOnly sig) = true
  · rw [if_pos hpo, if_pos hpo]; rfl
  rw [if_neg hpo, if_neg hpo]
  -- the flags decide which of the checks of the `do` block are there at all; a P2SH scriptPubKey is no witness program
  have hwp : (hasFlag flags Flag.P2SH && Spec.isP2SH spk) = true → Spec.witnessProgram spk = none :=
    fun hp => isP2SH_not_witprog spk (Bool.and_eq_true _ _ ▸ hp).2
  cases hp : (hasFlag flags Flag.P2SH && Spec.isP2SH spk) <;> cases hW : hasFlag flags Flag.WITNESS <;>
    cases hC : hasFlag flags Flag.CLEANSTACK <;>
    simp only [hwp, hp, Bool.false_eq_true, if_false, if_true, throw_eq, Btcdeb.error_bind, Bool.true_and, Bool.false_and, Bool.not_false,
      Bool.not_true, bne_self_eq_false, show (pure () : Spec.R Unit) = .ok () from rfl, bind_unit] <;>
    rfl

theorem verify_sig_fail (sc : Spec.SpendCtx) (flags : Nat) (sig spk : Bytes) (w : List Bytes) (y : ScriptError)
    (h : Spec.runScript sc flags .BASE none none sig {} = .error y) :
    specOk (Spec.verifyScript sc flags sig spk w) = false := by
  rw [verifyScript_nf, h]
  split <;> rfl

theorem verify_spk_fail (sc : Spec.SpendCtx) (flags : Nat) (sig spk : Bytes) (w : List Bytes) (s1 : Spec.St) (y : ScriptError)
    (h1 : Spec.runScript sc flags .BASE none none sig {} = .ok s1)
    (h2 : Spec.runScript sc flags .BASE none none spk { stack := s1.stack } = .error y) :
    specOk (Spec.verifyScript sc flags sig spk w) = false := by
  rw [verifyScript_nf, h1]
  simp only [Btcdeb.ok_bind, h2]
  split <;> rfl

theorem verify_legacy (sc : Spec.SpendCtx) (flags : Nat) (sig spk : Bytes)
    (hnw : Spec.witnessProgram spk = none ∨ hasFlag flags Flag.WITNESS = false)
    (hnp : (hasFlag flags Flag.P2SH && Spec.isP2SH spk) = false) :
    Spec.verifyScript sc flags sig spk [] =
      if (hasFlag flags Flag.SIGPUSHONLY && !Spec.isPushOnly sig) = true then .error .SIG_PUSHONLY
      else Spec.runScript sc flags .BASE none none sig {} >>= fun s1 =>
        Spec.runScript sc flags .BASE none none spk { stack := s1.stack } >>= finalChecks flags .BASE := by
  have hwp : (if hasFlag flags Flag.WITNESS = true then Spec.witnessProgram spk else none) = none := by
    rcases hnw with h | h <;> simp [h]
  rw [verifyScript_nf]
  simp only [hnp, witnessOrClean, hwp, List.isEmpty_nil, Bool.not_true, Bool.and_false, Bool.false_eq_true, if_false]
  rfl

theorem verify_pushonly_fail (sc : Spec.SpendCtx) (flags : Nat) (sig spk : Bytes) (w : List Bytes)
    (h : (hasFlag flags Flag.SIGPUSHONLY && !Spec.isPushOnly sig) = true) :
    Spec.verifyScript sc flags sig spk w = .error .SIG_PUSHONLY := by
  rw [verifyScript_nf, if_pos h]

/-- the final checks of `ExecuteWitnessScript` -/
def ewsFinal (st : Spec.St) : Spec.R Unit :=
  if (st.stack.length != 1) = true then .error .CLEANSTACK
  else match st.stack with
    | [t] => if Spec.toBool t then .ok () else .error .EVAL_FALSE
    | _ => .error .CLEANSTACK

theorem ewsFinal_eq (flags : Nat) (sv : SigVersion) (hsv : sv ≠ .BASE) (r : Spec.R Spec.St) :
    specOk (r >>= ewsFinal) = specOk (r >>= finalChecks flags sv) := by
  cases r with
  | error e => rfl
  | ok st =>
    simp only [Btcdeb.ok_bind, ewsFinal, finalChecks, Spec.evalTrue]
    have hb : (sv != SigVersion.BASE) = true := by simpa using hsv
    simp only [hb, Bool.true_or, Bool.true_and]
    cases hs : st.stack with
    | nil => simp [specOk, throw_eq, Btcdeb.error_bind]
    | cons t rest =>
      cases rest with
      | nil =>
        cases ht : Spec.toBool t <;> simp [specOk, throw_eq, Btcdeb.error_bind, ht]
      | cons u rest2 =>
        cases ht : Spec.toBool t <;> simp [specOk, throw_eq, Btcdeb.error_bind, ht]

theorem ews_eq (sc : Spec.SpendCtx) (flags : Nat) (sv : SigVersion) (annex leaf : Option Bytes) (items : List Bytes)
    (script : Bytes) (weight : Int) (hsv : sv = .WITNESS_V0 ∨ sv = .TAPSCRIPT)
    (hns : sv = .TAPSCRIPT → Spec.hasOpSuccess false script = false) :
    Spec.executeWitnessScript sc flags sv annex leaf items script weight =
      if (sv == .TAPSCRIPT && !(Spec.decodePrefix script.length script).2) = true then .error .BAD_OPCODE
      else if (sv == .TAPSCRIPT && decide (items.length > Spec.maxStackSize)) = true then .error .STACK_SIZE
      else if items.any (fun i => decide (i.length > Spec.maxElementSize)) = true then .error .PUSH_SIZE
      else Spec.runScript sc flags sv annex leaf script
        { stack := items.reverse, weightLeft := weight, weightInit := sv == .TAPSCRIPT } >>= ewsFinal := by
  unfold Spec.executeWitnessScript
  rcases hsv with rfl | rfl
  · simp only [show (SigVersion.WITNESS_V0 == SigVersion.TAPSCRIPT) = false from rfl, Bool.false_eq_true, if_false,
      throw_eq, Btcdeb.error_bind, Bool.false_and]
    split
    · rfl
    · congr 1
  · have hfind : (Spec.decodePrefix script.length script).1.find? (fun p => Spec.isOpSuccess p.1.opcode) = none := by
      rw [List.find?_eq_none]
      intro p hp
      have hns' := hns rfl
      unfold Spec.hasOpSuccess at hns'
      rw [List.any_eq_false] at hns'
      simpa using hns' p hp
    simp only [BEq.rfl, if_true, hfind, throw_eq, Btcdeb.error_bind, Bool.true_and, decide_eq_true_eq]
    split
    · rfl
    · split
      · rfl
      · split
        · rfl
        · congr 1

/-- `VerifyScript` for a native witness program `OP_0 <prog>` / `OP_1 <prog>` of 20 or 32 bytes that is a true value:
    the scriptPubKey leaves it on top, and everything is `VerifyWitnessProgram` -/
theorem verify_native_prog (sc : Spec.SpendCtx) (flags : Nat) (b l : UInt8) (ver : Nat) (prog : Bytes) (witness : List Bytes)
    (hb : (b = 0x00 ∧ ver = 0) ∨ (b = 0x51 ∧ ver = 1)) (hl : l = UInt8.ofNat prog.length)
    (hp : prog.length = 20 ∨ prog.length = 32) (hW : hasFlag flags Flag.WITNESS = true) (hnz : Spec.toBool prog = true) :
    Spec.verifyScript sc flags [] (b :: l :: prog) witness = Spec.verifyWitnessProgram sc flags witness ver prog false := by
  subst hl
  obtain ⟨st2, x, hrun, hst⟩ := eval_witprog (specCfg sc flags .BASE none none) b (hb.imp And.left And.left) prog []
    (by rcases hp with h | h <;> omega) (by rcases hp with h | h <;> omega) (by decide)
  have htrue : Spec.evalTrue st2 = .ok () := by simp [Spec.evalTrue, hst, hnz]; rfl
  have hwp : Spec.witnessProgram (b :: UInt8.ofNat prog.length :: prog) = some (ver, prog) := by
    rcases hb with ⟨rfl, rfl⟩ | ⟨rfl, rfl⟩ <;> rcases hp with h | h <;> simp [Spec.witnessProgram, h]
  have hnp : (hasFlag flags Flag.P2SH && Spec.isP2SH (b :: UInt8.ofNat prog.length :: prog)) = false := by
    rcases hb with ⟨rfl, rfl⟩ | ⟨rfl, rfl⟩ <;> simp [Spec.isP2SH]
  have hempty : Spec.runScript sc flags .BASE none none [] {} = .ok { codeFrom := [] } := by
    rw [runScript_eq, evalScript_result]
    simp [evalFrom_nil, Spec.maxScriptSize]
  rw [← runScript_eq] at hrun
  rw [verifyScript_nf]
  simp only [show Spec.isPushOnly [] = true by decide, Bool.not_true, Bool.and_false, Bool.false_eq_true, if_false, hempty,
    Btcdeb.ok_bind, hrun, htrue, hnp, witnessOrClean, hW, hwp, if_true, List.isEmpty_nil]

theorem isPushOnly_push (data : Bytes) (h75 : data.length ≤ 75) :
    Spec.isPushOnly (UInt8.ofNat data.length :: data) = true := by
  rw [← isPushOnly_eq]
  have hb : (UInt8.ofNat data.length).toNat = data.length := by
    simp [UInt8.toNat_ofNat']; omega
  have g := getOp_push_direct (UInt8.ofNat data.length) data [] (by rw [hb]; omega) hb.symm
  rw [List.append_nil, hb] at g
  rw [Model.isPushOnly, g]
  have : ¬ data.length > Op.OP_16 := by simp [Op.OP_16]; omega
  simp only [this, if_false]
  rw [Model.isPushOnly]; rfl

/-- `VerifyScript` for a P2SH-wrapped version-0 witness program: the scriptSig is exactly the push of the redeem script
    `OP_0 <program>`; the three legacy evaluations amount to the HASH160 comparison; then `VerifyWitnessProgram` -/
theorem verify_wrapped_v0 (sc : Spec.SpendCtx) (flags : Nat) (hh prog : Bytes) (witness : List Bytes)
    (hP : hasFlag flags Flag.P2SH = true) (hW : hasFlag flags Flag.WITNESS = true)
    (hl : hh.length = 20) (hp : prog.length = 20 ∨ prog.length = 32) (hnz : Spec.toBool prog = true) :
    Spec.verifyScript sc flags (Spec.pushOf (0x00 :: UInt8.ofNat prog.length :: prog)) (0xa9 :: 0x14 :: (hh ++ [0x87])) witness =
      if ((sc.oracleFor .BASE none none).ripemd160 ((sc.oracleFor .BASE none none).sha256 (0x00 :: UInt8.ofNat prog.length :: prog)) == hh) = true
      then Spec.verifyWitnessProgram sc flags witness 0 prog true
      else .error .EVAL_FALSE := by
  have hrl : (0x00 :: UInt8.ofNat prog.length :: prog : Bytes).length ≤ 75 := by
    simp only [List.length_cons]; rcases hp with h | h <;> omega
  have hrl2 : 2 ≤ (0x00 :: UInt8.ofNat prog.length :: prog : Bytes).length := by simp
  rw [pushOf_short _ hrl]
  obtain ⟨s1, h1, hs1⟩ := push_script_eval (specCfg sc flags .BASE none none) _ hrl2 hrl
  obtain ⟨s2, h2, hs2⟩ := p2sh_spk_eval (specCfg sc flags .BASE none none) rfl hh (0x00 :: UInt8.ofNat prog.length :: prog) hl
  obtain ⟨s3, x, h3, hs3⟩ := eval_witprog (specCfg sc flags .BASE none none) 0x00 (Or.inl rfl) prog []
    (by rcases hp with h | h <;> omega) (by rcases hp with h | h <;> omega) (by decide)
  have hwp : Spec.witnessProgram (0x00 :: UInt8.ofNat prog.length :: prog) = some (0, prog) := by
    rcases hp with h | h <;> simp [Spec.witnessProgram, h]
  have ht3 : Spec.evalTrue s3 = .ok () := by simp [Spec.evalTrue, hs3, hnz]; rfl
  rw [← runScript_eq] at h1 h2 h3
  rw [verifyScript_nf, h1]
  simp only [isPushOnly_push _ hrl, Bool.not_true, Bool.and_false, Bool.false_eq_true, if_false, Btcdeb.ok_bind, hs1, h2,
    hP, isP2SH_of_bytes hh hl, Bool.and_self, witnessOrClean, h3, ht3, hW, hwp, pushOf_short _ hrl, bne_self_eq_false, if_true]
  simp only [Spec.evalTrue, hs2, toBool_ofBool]
  show (if ((sc.oracleFor .BASE none none).ripemd160 ((sc.oracleFor .BASE none none).sha256 (0x00 :: UInt8.ofNat prog.length :: prog)) == hh) = true
      then (pure () : Spec.R Unit) else throw .EVAL_FALSE) >>= _ = _
  split <;> rfl

theorem vwp_v0_32 (sc : Spec.SpendCtx) (flags : Nat) (witness : List Bytes) (prog wlast : Bytes) (b : Bool)
    (hp : prog.length = 32) (hw : witness.getLast? = some wlast) :
    Spec.verifyWitnessProgram sc flags witness 0 prog b =
      if sc.sha256 wlast != prog then .error .WITNESS_PROGRAM_MISMATCH
      else Spec.executeWitnessScript sc flags .WITNESS_V0 none none witness.dropLast wlast 0 := by
  unfold Spec.verifyWitnessProgram
  simp only [BEq.rfl, if_true, hp, hw, throw_eq, Btcdeb.error_bind]

theorem vwp_v0_20 (sc : Spec.SpendCtx) (flags : Nat) (witness : List Bytes) (prog : Bytes) (b : Bool)
    (hp : prog.length = 20) :
    Spec.verifyWitnessProgram sc flags witness 0 prog b =
      if witness.length != 2 then .error .WITNESS_PROGRAM_MISMATCH
      else Spec.executeWitnessScript sc flags .WITNESS_V0 none none witness (Spec.p2pkhScript prog) 0 := by
  unfold Spec.verifyWitnessProgram
  simp only [BEq.rfl, if_true, hp, throw_eq, Btcdeb.error_bind, show (20 == 32) = false from rfl, Bool.false_eq_true, if_false]

/-- the annex test of BIP341 -/
def hasAnnexS (w : List Bytes) (wlast : Bytes) : Bool := w.length ≥ 2 && wlast.head? == some 0x50

theorem two_of_dropLast_getLast {α} {l : List α} {x : α} (h : l.dropLast.getLast? = some x) : ∃ a b r, l = a :: b :: r := by
  match l, h with
  | [], h => simp at h
  | [a], h => simp at h
  | a :: b :: r, _ => exact ⟨a, b, r, rfl⟩

theorem vwp_tapscript (sc : Spec.SpendCtx) (flags : Nat) (prog wlast control leafScript : Bytes) (witness stack : List Bytes)
    (hp : prog.length = 32) (hT : hasFlag flags Flag.TAPROOT = true) (hw : witness.getLast? = some wlast)
    (hstack : stack = if hasAnnexS witness wlast then witness.dropLast else witness)
    (hctl : stack.getLast? = some control) (hleaf : stack.dropLast.getLast? = some leafScript) :
    Spec.verifyWitnessProgram sc flags witness 1 prog false =
      if (control.length < 33 || control.length > 33 + 32 * 128 || (control.length - 33) % 32 != 0) = true then
        .error .TAPROOT_WRONG_CONTROL_SIZE
      else if (!Spec.bip341Valid sc.tap control leafScript prog) = true then .error .WITNESS_PROGRAM_MISMATCH
      else if ((control.headD 0).toNat - (control.headD 0).toNat % 2 == 0xc0) = true then
        Spec.executeWitnessScript sc flags .TAPSCRIPT (if hasAnnexS witness wlast then some wlast else none)
          (some (Spec.tapLeafHash sc.tap ((control.headD 0).toNat - (control.headD 0).toNat % 2) leafScript))
          stack.dropLast.dropLast leafScript ((Spec.witnessStackSize witness + 50 : Nat) : Int)
      else if hasFlag flags Flag.DISCOURAGE_UPGRADABLE_TAPROOT_VERSION = true then .error .DISCOURAGE_UPGRADABLE_TAPROOT_VERSION
      else .ok () := by
  obtain ⟨a, b, r, hs3⟩ := two_of_dropLast_getLast hleaf
  unfold Spec.verifyWitnessProgram
  have ha : (decide (witness.length ≥ 2) && wlast.head? == some 80) = hasAnnexS witness wlast := rfl
  simp only [show ((1 : Nat) == 0) = false from rfl, Bool.false_eq_true, if_false, BEq.rfl, hp, Bool.true_and, Bool.not_false,
    if_true, hT, Bool.not_true, hw, ha, ← hstack]
  subst hs3
  simp only [hctl, hleaf, throw_eq, Btcdeb.error_bind]
  split
  · rfl
  · split
    · rfl
    · split
      · rfl
      · split <;> rfl

theorem vwp_keypath (sc : Spec.SpendCtx) (flags : Nat) (prog wlast sg : Bytes) (witness : List Bytes)
    (hp : prog.length = 32) (hT : hasFlag flags Flag.TAPROOT = true) (hw : witness.getLast? = some wlast)
    (hstack : (if hasAnnexS witness wlast then witness.dropLast else witness) = [sg]) :
    Spec.verifyWitnessProgram sc flags witness 1 prog false =
      match (sc.oracleFor .TAPROOT (if hasAnnexS witness wlast then some wlast else none) none).schnorr sg prog .TAPROOT 0xFFFFFFFF with
      | .ok () => .ok ()
      | .error e => .error e := by
  unfold Spec.verifyWitnessProgram
  have ha : (decide (witness.length ≥ 2) && wlast.head? == some 80) = hasAnnexS witness wlast := rfl
  simp only [show ((1 : Nat) == 0) = false from rfl, Bool.false_eq_true, if_false, BEq.rfl, hp, Bool.true_and, Bool.not_false,
    if_true, hT, Bool.not_true, hw, ha, hstack]
  rfl

theorem verify_witness_needs_p2sh (sc : Spec.SpendCtx) (flags : Nat) (sig spk : Bytes) (witness : List Bytes)
    (hW : hasFlag flags Flag.WITNESS = true) (hsig : sig ≠ []) (hw : witness ≠ [])
    (hnp : (hasFlag flags Flag.P2SH && Spec.isP2SH spk) = false) :
    specOk (Spec.verifyScript sc flags sig spk witness) = false := by
  have hse : sig.isEmpty = false := by simpa using hsig
  have hwe : witness.isEmpty = false := by simpa using hw
  rw [verifyScript_nf]
  simp only [hnp, witnessOrClean, hW, if_true, hse, hwe, Bool.not_false, Bool.and_self, Bool.false_eq_true, if_false]
  split
  · rfl
  · cases Spec.runScript sc flags .BASE none none sig {} with
    | error e => rfl
    | ok s1 =>
      simp only [Btcdeb.ok_bind]
      cases Spec.runScript sc flags .BASE none none spk { stack := s1.stack } with
      | error e => rfl
      | ok s2 =>
        simp only [Btcdeb.ok_bind]
        cases Spec.evalTrue s2 with
        | error e => rfl
        | ok u =>
          simp only [Btcdeb.ok_bind]
          cases Spec.witnessProgram spk with
          | some p => rfl
          | none => simp only; split <;> rfl

end Btcdeb.Proofs.C03
