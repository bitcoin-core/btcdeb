/-
  Symbolic evaluation of the specification's script interpreter on the fixed scripts validation builds or
  meets around a spend: a witness program as scriptPubKey, the P2SH wrapper, the implied P2PKH script of P2WPKH,
  the key-path script the debugger generates.  A push is one rewrite, `evalFrom_push`; an operator is `evalFrom_op`, the
  operation count (`countOp_uncounted` / `countOp_base`), `ok_bind`, the opcode by `decide`, its equation `execOp_<OP>` of
  Refine/Equations.lean (`rfl` for an opcode without one; `simp only` for its `match`), `checkSize_of_le`, `ok_bind`: copy
  `p2sh_spk_eval`.  Read backwards for an evaluation known to succeed: `evalFrom_op_ok`, `evalFrom_push_ok`.
-/
import Btcdeb
import BtcdebProofs.Lemmas.SpecCore
import BtcdebProofs.Lemmas.Listing
namespace Btcdeb.Proofs.SpecEval
open Btcdeb Btcdeb.Refine Btcdeb.Proofs.SpecCore

theorem evalFrom_nil (cfg : Spec.Cfg) (pos : Nat) (st : Spec.St) :
    evalFrom cfg [] pos st = if (!st.cond.isEmpty) = true then .error .UNBALANCED_CONDITIONAL else .ok st := by
  simp [evalFrom, Spec.decodePrefix, Spec.evalInstrs]

theorem evalFrom_step {cfg : Spec.Cfg} {s : Bytes} {i : Spec.Instr} {after : Bytes} {pos : Nat} {st : Spec.St}
    (hd : Spec.decodeOne s = some (i, after)) :
    evalFrom cfg s pos st = Spec.execInstr cfg i after pos st >>= fun st1 => evalFrom cfg after (pos + 1) st1 := by
  simp only [evalFrom_eq_bind, decodePrefix_step hd, evalInstrs_cons, bind_assoc]

theorem checkSize_ok {st st1 : Spec.St} (h : Spec.checkSize st = .ok st1) : st1 = st := by
  unfold Spec.checkSize at h
  split at h
  · cases h
  · cases h; rfl

theorem countOp_ok {cfg : Spec.Cfg} {opc : Nat} {st st1 : Spec.St} (h : Spec.countOp cfg opc st = .ok st1) :
    st1.stack = st.stack ∧ st1.cond = st.cond ∧ st1.alt = st.alt ∧ st1.codeFrom = st.codeFrom ∧
    st1.codesepPos = st.codesepPos ∧ st1.weightLeft = st.weightLeft ∧ st1.weightInit = st.weightInit := by
  obtain ⟨_, rfl⟩ := specCountOp_ok_cases h
  simp

theorem countOp_base (cfg : Spec.Cfg) (hsv : cfg.sigversion = .BASE) (opc : Nat) (hop : 0x60 < opc) (st : Spec.St)
    (hcnt : st.opCount + 1 ≤ Spec.maxOpsPerScript) :
    Spec.countOp cfg opc st = .ok { st with opCount := st.opCount + 1 } := by
  simp [Spec.countOp, hsv, hop, Nat.not_lt.2 hcnt]

theorem countOp_uncounted (cfg : Spec.Cfg) {opc : Nat} (st : Spec.St) (hop : opc ≤ 0x60) :
    Spec.countOp cfg opc st = .ok st := by
  simp [Spec.countOp, Nat.not_lt.2 hop]

theorem small_not_disabled : ∀ n, n < 79 →
    Spec.disabled (Opcode.ofNat n) = false ∧ (Opcode.ofNat n == Opcode.OP_CODESEPARATOR) = false := by
  decide +kernel

theorem execInstr_push_eq (cfg : Spec.Cfg) {opc : Nat} (data after : Bytes) (pos : Nat) {st : Spec.St}
    (hop : opc ≤ 0x4e) (hcond : st.cond = []) :
    Spec.execInstr cfg ⟨opc, data⟩ after pos st =
      if data.length > Spec.maxElementSize then .error .PUSH_SIZE
      else if (hasFlag cfg.flags Flag.MINIMALDATA && !Spec.minimalPush opc data) = true then .error .MINIMALDATA
      else Spec.checkSize { st with stack := data :: st.stack } := by
  obtain ⟨hd, hcs⟩ := small_not_disabled opc (by omega)
  unfold Spec.execInstr
  simp only [countOp_uncounted cfg st (Nat.le_trans hop (by decide)), Btcdeb.ok_bind, hd, hcs, Bool.and_false,
    Bool.false_eq_true, if_false, Bool.false_and, hcond, List.all_nil, Bool.true_and, decide_eq_true hop, if_true]

theorem execInstr_op_eq (cfg : Spec.Cfg) {opc : Nat} (data after : Bytes) (pos : Nat) {st : Spec.St}
    (hop : 0x4e < opc) (hcond : st.cond = []) :
    Spec.execInstr cfg ⟨opc, data⟩ after pos st =
      if data.length > Spec.maxElementSize then .error .PUSH_SIZE
      else Spec.countOp cfg opc st >>= fun stc =>
        if (!cfg.allowDisabled && Spec.disabled (Opcode.ofNat opc)) = true then .error .DISABLED_OPCODE
        else if (Opcode.ofNat opc == .OP_CODESEPARATOR && cfg.sigversion == .BASE &&
            hasFlag cfg.flags Flag.CONST_SCRIPTCODE) = true then .error .OP_CODESEPARATOR
        else Spec.execOp cfg (Opcode.ofNat opc) true after pos stc := by
  unfold Spec.execInstr
  have hno : ¬ opc ≤ 0x4e := by omega
  simp only [hcond, List.all_nil, Bool.true_and, decide_eq_false hno, Bool.false_eq_true, if_false, Bool.true_or, if_true]

theorem execInstr_ok_pushsize {cfg : Spec.Cfg} {i : Spec.Instr} {after : Bytes} {pos : Nat} {st st1 : Spec.St}
    (h : Spec.execInstr cfg i after pos st = .ok st1) : i.data.length ≤ Spec.maxElementSize := by
  unfold Spec.execInstr at h
  by_cases hl : i.data.length > Spec.maxElementSize
  · rw [if_pos hl] at h; cases h
  · exact Nat.le_of_not_gt hl

theorem evalInstrs_ok_pushsize (cfg : Spec.Cfg) : ∀ (l : List (Spec.Instr × Bytes)) (pos : Nat) (st st' : Spec.St),
    (Spec.evalInstrs cfg l pos st).2 = .ok st' → ∀ p ∈ l, p.1.data.length ≤ Spec.maxElementSize
  | [], _, _, _, _, p, hp => by cases hp
  | (i, after) :: rest, pos, st, st', h, p, hp => by
    rw [evalInstrs_cons] at h
    obtain ⟨s1, hx, h⟩ := bind_ok h
    rcases List.mem_cons.1 hp with rfl | hp'
    · exact execInstr_ok_pushsize hx
    · exact evalInstrs_ok_pushsize cfg rest (pos + 1) s1 st' h p hp'

theorem checkSize_of_le {st : Spec.St} (h : st.stack.length + st.alt.length ≤ Spec.maxStackSize) : Spec.checkSize st = .ok st := by
  unfold Spec.checkSize
  rw [if_neg (by omega)]

theorem execInstr_push_ok {cfg : Spec.Cfg} {opc : Nat} {data after : Bytes} {pos : Nat} {st st1 : Spec.St}
    (hop : opc ≤ 0x4e) (hcond : st.cond = [])
    (h : Spec.execInstr cfg ⟨opc, data⟩ after pos st = .ok st1) :
    st1 = { st with stack := data :: st.stack } := by
  rw [execInstr_push_eq cfg data after pos hop hcond] at h
  split at h
  · cases h
  · split at h
    · cases h
    · exact checkSize_ok h

theorem execInstr_push {cfg : Spec.Cfg} {opc : Nat} {data after : Bytes} {pos : Nat} {st : Spec.St}
    (hop : opc ≤ 0x4e) (hlen : data.length ≤ Spec.maxElementSize) (hcond : st.cond = [])
    (hmin : Spec.minimalPush opc data = true) (hsz : st.stack.length + 1 + st.alt.length ≤ Spec.maxStackSize) :
    Spec.execInstr cfg ⟨opc, data⟩ after pos st = .ok { st with stack := data :: st.stack } := by
  rw [execInstr_push_eq cfg data after pos hop hcond, if_neg (by omega), hmin, if_neg (by simp),
    checkSize_of_le (by simp only [List.length_cons]; omega)]

theorem execInstr_op_ok {cfg : Spec.Cfg} {i : Spec.Instr} {after : Bytes} {pos : Nat} {st st1 : Spec.St}
    (hop : 0x4e < i.opcode) (hcond : st.cond = [])
    (h : Spec.execInstr cfg i after pos st = .ok st1) :
    ∃ stc, Spec.countOp cfg i.opcode st = .ok stc ∧ Spec.execOp cfg (Opcode.ofNat i.opcode) true after pos stc = .ok st1 := by
  obtain ⟨opc, data⟩ := i
  rw [execInstr_op_eq cfg data after pos hop hcond] at h
  split at h
  · cases h
  · obtain ⟨stc, hc, h⟩ := bind_ok h
    refine ⟨stc, hc, ?_⟩
    split at h
    · cases h
    · split at h
      · cases h
      · exact h

theorem execInstr_op {cfg : Spec.Cfg} {opc : Nat} {after : Bytes} {pos : Nat} {st : Spec.St}
    (hop : 0x4e < opc) (hcond : st.cond = [])
    (hd : Spec.disabled (Opcode.ofNat opc) = false) (hcs : (Opcode.ofNat opc == Opcode.OP_CODESEPARATOR) = false) :
    Spec.execInstr cfg ⟨opc, []⟩ after pos st =
      Spec.countOp cfg opc st >>= fun stc => Spec.execOp cfg (Opcode.ofNat opc) true after pos stc := by
  rw [execInstr_op_eq cfg [] after pos hop hcond, if_neg (show ¬ ([] : Bytes).length > Spec.maxElementSize from Nat.not_lt_zero _)]
  simp only [hd, hcs, Bool.and_false, Bool.false_and, Bool.false_eq_true, if_false]

theorem minimalPush_direct (prog : Bytes) (h2 : 2 ≤ prog.length) (h75 : prog.length ≤ 75) :
    Spec.minimalPush prog.length prog = true := by
  unfold Spec.minimalPush
  have a : ¬ prog.length = 0 := by omega
  have b : ¬ prog.length = 1 := by omega
  simp [a, b, h75]

theorem evalFrom_op (cfg : Spec.Cfg) (b : UInt8) (rest : Bytes) (pos : Nat) (st : Spec.St) (hb : 0x4e < b.toNat)
    (hcond : st.cond = []) (hd : Spec.disabled (Opcode.ofNat b.toNat) = false)
    (hcs : (Opcode.ofNat b.toNat == Opcode.OP_CODESEPARATOR) = false) :
    evalFrom cfg (b :: rest) pos st =
      Spec.countOp cfg b.toNat st >>= fun stc =>
        Spec.execOp cfg (Opcode.ofNat b.toNat) true rest pos stc >>= fun st1 => evalFrom cfg rest (pos + 1) st1 := by
  rw [evalFrom_step (decodeOne_op b rest hb), execInstr_op hb hcond hd hcs, bind_assoc]

theorem evalFrom_op_ok {cfg : Spec.Cfg} {b : UInt8} {rest : Bytes} {pos : Nat} {st r : Spec.St} (hb : 0x4e < b.toNat)
    (h : evalFrom cfg (b :: rest) pos st = .ok r) (hcond : st.cond = []) :
    ∃ stc st1, Spec.countOp cfg b.toNat st = .ok stc ∧ Spec.execOp cfg (Opcode.ofNat b.toNat) true rest pos stc = .ok st1 ∧
      evalFrom cfg rest (pos + 1) st1 = .ok r := by
  rw [evalFrom_step (decodeOne_op b rest hb)] at h
  obtain ⟨st1, hx, h⟩ := bind_ok h
  obtain ⟨stc, hc, hx⟩ := execInstr_op_ok (i := ⟨b.toNat, []⟩) hb hcond hx
  exact ⟨stc, st1, hc, hx, h⟩

theorem evalFrom_push (cfg : Spec.Cfg) (b : UInt8) (data rest : Bytes) (pos : Nat) (st : Spec.St) (hb : b.toNat < 0x4c)
    (hl : data.length = b.toNat) (hcond : st.cond = []) (hmin : Spec.minimalPush b.toNat data = true)
    (hsz : st.stack.length + 1 + st.alt.length ≤ Spec.maxStackSize) :
    evalFrom cfg (b :: (data ++ rest)) pos st = evalFrom cfg rest (pos + 1) { st with stack := data :: st.stack } := by
  rw [evalFrom_step (decodeOne_push b data rest hb hl),
    execInstr_push (by omega) (by unfold Spec.maxElementSize; omega) hcond hmin hsz]
  rfl

theorem evalFrom_push_ok {cfg : Spec.Cfg} {b : UInt8} {data rest : Bytes} {pos : Nat} {st r : Spec.St} (hb : b.toNat < 0x4c)
    (hl : data.length = b.toNat) (h : evalFrom cfg (b :: (data ++ rest)) pos st = .ok r) (hcond : st.cond = []) :
    evalFrom cfg rest (pos + 1) { st with stack := data :: st.stack } = .ok r := by
  rw [evalFrom_step (decodeOne_push b data rest hb hl)] at h
  obtain ⟨st1, hx, h⟩ := bind_ok h
  rwa [execInstr_push_ok (by omega) hcond hx] at h

theorem encodeNum_one : Spec.encodeNum 1 = [1] := C18.serialize_small 1 (by omega)

theorem evalFrom_push_last (cfg : Spec.Cfg) (data : Bytes) (h2 : 2 ≤ data.length) (h75 : data.length ≤ 75) (pos : Nat)
    (st : Spec.St) (hc : st.cond = []) (hS : st.stack.length + 1 + st.alt.length ≤ Spec.maxStackSize) :
    evalFrom cfg (UInt8.ofNat data.length :: data) pos st = .ok { st with stack := data :: st.stack } := by
  have hb : (UInt8.ofNat data.length).toNat = data.length := by
    simp [UInt8.toNat_ofNat']; omega
  have := evalFrom_push cfg (UInt8.ofNat data.length) data [] pos st (by rw [hb]; omega) hb.symm hc
    (by rw [hb]; exact minimalPush_direct data h2 h75) hS
  rw [List.append_nil] at this
  rw [this, evalFrom_nil, if_neg (by simp [hc])]

/-- a witness program `OP_0 <prog>` or `OP_1 <prog>` evaluated as a script on a stack `S` with room for two more items
    leaves `prog` on top, above one more item -/
theorem eval_witprog (cfg : Spec.Cfg) (b : UInt8) (hb : b = 0x00 ∨ b = 0x51) (prog : Bytes) (S : List Bytes)
    (h2 : 2 ≤ prog.length) (h75 : prog.length ≤ 75) (hS : S.length + 2 ≤ Spec.maxStackSize) :
    ∃ st x, (Spec.evalScript cfg (b :: UInt8.ofNat prog.length :: prog) { stack := S }).result = .ok st ∧
      st.stack = prog :: x :: S := by
  rw [evalScript_result, if_neg (by
    simp only [List.length_cons, Bool.and_eq_true, decide_eq_true_eq, not_and]; unfold Spec.maxScriptSize; omega)]
  rcases hb with rfl | rfl
  · have := evalFrom_push cfg 0x00 [] (UInt8.ofNat prog.length :: prog) 0
      { ({ stack := S } : Spec.St) with codeFrom := 0x00 :: UInt8.ofNat prog.length :: prog } (by decide) rfl rfl (by decide)
      (by simp only [List.length_nil]; omega)
    rw [List.nil_append] at this
    rw [this, evalFrom_push_last cfg prog h2 h75 _ _ rfl (by simp only [List.length_cons, List.length_nil]; omega)]
    exact ⟨_, _, rfl, rfl⟩
  · rw [evalFrom_op cfg 0x51 _ _ _ (by decide) rfl (by decide) (by decide),
      countOp_uncounted cfg _ (by decide), Btcdeb.ok_bind,
      show Opcode.ofNat (0x51 : UInt8).toNat = .OP_1 by decide, execOp_smallInt (n := 1) rfl, encodeNum_one,
      checkSize_of_le (by simp only [List.length_cons, List.length_nil]; omega), Btcdeb.ok_bind,
      evalFrom_push_last cfg prog h2 h75 _ _ rfl (by simp only [List.length_cons, List.length_nil]; omega)]
    exact ⟨_, _, rfl, rfl⟩

/-- a script that starts with OP_HASH160 fails on the empty stack (so a scriptSig is never of the P2SH form) -/
theorem hash160_first_fails (cfg : Spec.Cfg) (rest : Bytes) (st' : Spec.St) :
    (Spec.evalScript cfg (0xa9 :: rest) { stack := [] }).result ≠ .ok st' := by
  intro h
  rw [evalScript_result] at h
  split at h
  · cases h
  · obtain ⟨stc, s1, hc, hx, _⟩ := evalFrom_op_ok (b := 0xa9) (by decide) h rfl
    rw [show Opcode.ofNat (0xa9 : UInt8).toNat = .OP_HASH160 by decide, execOp_HASH160, (countOp_ok hc).1] at hx
    cases hx

theorem p2pkh_eval_ok (cfg : Spec.Cfg) (prog : Bytes) (hp : prog.length = 20) (st0 st' : Spec.St) (hc : st0.cond = [])
    (h : (Spec.evalScript cfg (Spec.p2pkhScript prog) st0).result = .ok st') :
    ∃ key sig rest, st0.stack = key :: sig :: rest ∧ cfg.oracle.ripemd160 (cfg.oracle.sha256 key) = prog ∧
      st'.stack.length = rest.length + 1 := by
  rw [evalScript_result] at h
  split at h
  · cases h
  -- instruction by instruction: the operation count leaves stack and nesting alone (`k`), the operation's equation says
  -- what the stack was (`e`) and what the state becomes (`f`)
  rw [show Spec.p2pkhScript prog = 0x76 :: 0xa9 :: 0x14 :: (prog ++ [0x88, 0xac]) from rfl] at h
  obtain ⟨c1, s1, hc1, hx1, h⟩ := evalFrom_op_ok (b := 0x76) (by decide) h hc
  have k1 := countOp_ok hc1
  rw [show Opcode.ofNat (0x76 : UInt8).toNat = .OP_DUP by decide, execOp_DUP] at hx1
  split at hx1
  rotate_left
  · cases hx1
  rename_i key r1 e1
  have f1 := checkSize_ok hx1
  obtain ⟨c2, s2, hc2, hx2, h⟩ := evalFrom_op_ok (b := 0xa9) (by decide) h (by rw [f1]; exact k1.2.1.trans hc)
  have k2 := countOp_ok hc2
  rw [show Opcode.ofNat (0xa9 : UInt8).toNat = .OP_HASH160 by decide, execOp_HASH160] at hx2
  split at hx2
  rotate_left
  · cases hx2
  rename_i x2 r2 e2
  have f2 := checkSize_ok hx2
  have hc2' : s2.cond = [] := by rw [f2, k2.2.1, f1]; exact k1.2.1.trans hc
  have h := evalFrom_push_ok (b := 0x14) (by decide) (by rw [hp]; rfl) h hc2'
  obtain ⟨c4, s4, hc4, hx4, h⟩ := evalFrom_op_ok (b := 0x88) (by decide) h hc2'
  have k4 := countOp_ok hc4
  rw [show Opcode.ofNat (0x88 : UInt8).toNat = .OP_EQUALVERIFY by decide, execOp_EQUALVERIFY] at hx4
  split at hx4
  rotate_left
  · cases hx4
  rename_i y2 y1 r4 e4
  split at hx4
  rotate_left
  · cases hx4
  rename_i q4
  have f4 := checkSize_ok hx4
  obtain ⟨c5, s5, hc5, hx5, h⟩ := evalFrom_op_ok (b := 0xac) (by decide) h (by rw [f4]; exact k4.2.1.trans hc2')
  have k5 := countOp_ok hc5
  rw [show Opcode.ofNat (0xac : UInt8).toNat = .OP_CHECKSIG by decide, execOp_CHECKSIG] at hx5
  split at hx5
  rotate_left
  · cases hx5
  rename_i k sg r5 e5
  obtain ⟨p, _, hx5⟩ := bind_ok hx5
  have f5 := checkSize_ok hx5
  rw [evalFrom_nil] at h
  split at h
  · cases h
  cases h
  -- thread the stacks
  rw [k1.1] at e1
  rw [k2.1, f1] at e2
  obtain ⟨rfl, rfl⟩ := List.cons.inj e2
  rw [k4.1, f2] at e4
  obtain ⟨rfl, t⟩ := List.cons.inj e4
  obtain ⟨rfl, rfl⟩ := List.cons.inj t
  rw [k5.1, f4] at e5
  obtain ⟨rfl, rfl⟩ := List.cons.inj e5
  exact ⟨_, _, _, e1, beq_iff_eq.mp q4, by rw [f5]; rfl⟩

theorem pushonly_instr_bound {cfg : Spec.Cfg} {i : Spec.Instr} {after : Bytes} {pos : Nat} {st st1 : Spec.St}
    (hop : i.opcode ≤ 0x60) (hcond : st.cond = []) (hb : ∀ x ∈ st.stack, x.length ≤ Spec.maxElementSize)
    (h : Spec.execInstr cfg i after pos st = .ok st1) :
    st1.cond = [] ∧ ∀ x ∈ st1.stack, x.length ≤ Spec.maxElementSize := by
  by_cases hp : i.opcode ≤ 0x4e
  · rw [execInstr_push_ok (opc := i.opcode) (data := i.data) hp hcond h]
    refine ⟨hcond, fun x hx => ?_⟩
    rcases List.mem_cons.1 hx with rfl | hx'
    · exact execInstr_ok_pushsize h
    · exact hb x hx'
  · obtain ⟨stc, hc, hx⟩ := execInstr_op_ok (by omega) hcond h
    have k := countOp_ok hc
    by_cases h80 : i.opcode = 80
    · rw [h80, show Opcode.ofNat 80 = .OP_RESERVED from rfl, execOp_RESERVED] at hx
      cases hx
    · rw [execOp_smallInt (Model.smallInt_ofNat i.opcode (by omega) (by omega) h80)] at hx
      rw [checkSize_ok hx]
      refine ⟨by rw [k.2.1]; exact hcond, ?_⟩
      intro x hx'
      rcases List.mem_cons.1 hx' with rfl | hx''
      · have := (C18.encode_length_le_iff ((i.opcode : Int) - 80) 1 (Nat.le_refl _)).2 (by omega)
        unfold Spec.encodeNum Spec.maxElementSize
        omega
      · rw [k.1] at hx''; exact hb x hx''

theorem pushonly_bound (cfg : Spec.Cfg) : ∀ (l : List (Spec.Instr × Bytes)) (pos : Nat) (st st' : Spec.St),
    (∀ p ∈ l, p.1.opcode ≤ 0x60) → st.cond = [] → (∀ x ∈ st.stack, x.length ≤ Spec.maxElementSize) →
    (Spec.evalInstrs cfg l pos st).2 = .ok st' → ∀ x ∈ st'.stack, x.length ≤ Spec.maxElementSize
  | [], _, st, st', _, _, hb, h => by
    simp only [Spec.evalInstrs] at h
    cases h; exact hb
  | (i, after) :: rest, pos, st, st', hall, hcond, hb, h => by
    simp only [Spec.evalInstrs] at h
    cases hx : Spec.execInstr cfg i after pos st with
    | error e => rw [hx] at h; cases h
    | ok s1 =>
      rw [hx] at h
      simp only at h
      obtain ⟨c1, b1⟩ := pushonly_instr_bound (hall (i, after) (List.mem_cons_self ..)) hcond hb hx
      exact pushonly_bound cfg rest (pos + 1) s1 st' (fun p hp => hall p (List.mem_cons_of_mem _ hp)) c1 b1 h

theorem pushonly_stack_bound (cfg : Spec.Cfg) (s : Bytes) (st' : Spec.St) (hpo : Spec.isPushOnly s = true)
    (h : (Spec.evalScript cfg s { stack := [] }).result = .ok st') :
    ∀ x ∈ st'.stack, x.length ≤ Spec.maxElementSize := by
  obtain ⟨_, hd, hx, _⟩ := evalScript_ok h
  refine pushonly_bound cfg _ 0 _ _ ?_ rfl (by intro x hx'; cases hx') hx
  unfold Spec.isPushOnly Spec.decode Spec.decodeWithRest at hpo
  simp only [hd, if_true, Option.map_some, List.all_map, List.all_eq_true] at hpo
  intro p hp
  simpa using hpo p hp

theorem ofBool_true : Spec.ofBool true = [1] := rfl

/-- `<program> OP_CHECKSIG`, the key-path script the debugger generates, on the stack holding one signature: the BIP340
    check of that signature against the program, leaving `true`; a failed check is a script failure -/
theorem keypath_eval (cfg : Spec.Cfg) (hsv : cfg.sigversion = .TAPROOT) (hpre : cfg.pretend = []) (prog sig : Bytes)
    (hp : prog.length = 32) :
    (Spec.evalScript cfg (0x20 :: (prog ++ [0xac])) { stack := [sig] }).result =
      match cfg.oracle.schnorr sig prog .TAPROOT 0xFFFFFFFF with
      | .ok () => .ok { ({ stack := [[1]] } : Spec.St) with codeFrom := 0x20 :: (prog ++ [0xac]) }
      | .error x => .error x := by
  rw [evalScript_result, if_neg (by rw [hsv]; exact Bool.false_ne_true),
    evalFrom_push cfg 0x20 prog [0xac] _ _ (by decide) (by rw [hp]; rfl) rfl
      (by have := minimalPush_direct prog (by omega) (by omega); rw [hp] at this; exact this) (Nat.le_of_ble_eq_true rfl),
    evalFrom_op cfg 0xac [] _ _ (by decide) rfl (by decide) (by decide),
    show Spec.countOp cfg (0xac : UInt8).toNat _ = .ok _ from if_neg (by simp [hsv]), Btcdeb.ok_bind,
    show Opcode.ofNat (0xac : UInt8).toNat = .OP_CHECKSIG by decide, execOp_CHECKSIG]
  simp only [Spec.checkSig, Spec.mockHit, Spec.pairListed, hpre, List.contains_nil, hsv, Bool.false_eq_true, if_false]
  cases cfg.oracle.schnorr sig prog .TAPROOT 0xFFFFFFFF with
  | error e => rfl
  | ok u =>
    cases u
    simp only [Btcdeb.ok_bind]
    rw [checkSize_of_le (Nat.le_of_ble_eq_true rfl), Btcdeb.ok_bind, evalFrom_nil]
    rfl

theorem push_script_eval (cfg : Spec.Cfg) (data : Bytes) (h2 : 2 ≤ data.length) (h75 : data.length ≤ 75) :
    ∃ st, (Spec.evalScript cfg (UInt8.ofNat data.length :: data) {}).result = .ok st ∧ st.stack = [data] := by
  rw [evalScript_result, if_neg (by
      simp only [List.length_cons, Bool.and_eq_true, decide_eq_true_eq, not_and]; unfold Spec.maxScriptSize; omega),
    evalFrom_push_last cfg data h2 h75 _ _ rfl (by simp only [List.length_nil]; decide)]
  exact ⟨_, rfl, rfl⟩

theorem p2sh_spk_eval (cfg : Spec.Cfg) (hsv : cfg.sigversion = .BASE) (hh redeem : Bytes) (hl : hh.length = 20) :
    ∃ st, (Spec.evalScript cfg (0xa9 :: 0x14 :: (hh ++ [0x87])) { stack := [redeem] }).result = .ok st ∧
      st.stack = [Spec.ofBool (cfg.oracle.ripemd160 (cfg.oracle.sha256 redeem) == hh)] := by
  rw [evalScript_result, if_neg (by simp [hl, Spec.maxScriptSize]),
    evalFrom_op cfg 0xa9 _ _ _ (by decide) rfl (by decide) (by decide),
    countOp_base cfg hsv _ (by decide) _ (Nat.le_of_ble_eq_true rfl), Btcdeb.ok_bind,
    show Opcode.ofNat (0xa9 : UInt8).toNat = .OP_HASH160 by decide, execOp_HASH160]
  simp only
  rw [checkSize_of_le (Nat.le_of_ble_eq_true rfl), Btcdeb.ok_bind,
    evalFrom_push cfg 0x14 hh [0x87] _ _ (by decide) (by rw [hl]; rfl) rfl
      (by have := minimalPush_direct hh (by omega) (by omega); rw [hl] at this; exact this) (Nat.le_of_ble_eq_true rfl),
    evalFrom_op cfg 0x87 _ _ _ (by decide) rfl (by decide) (by decide),
    countOp_base cfg hsv _ (by decide) _ (Nat.le_of_ble_eq_true rfl), Btcdeb.ok_bind,
    show Opcode.ofNat (0x87 : UInt8).toNat = .OP_EQUAL by decide, execOp_EQUAL]
  simp only
  rw [checkSize_of_le (Nat.le_of_ble_eq_true rfl), Btcdeb.ok_bind, evalFrom_nil]
  exact ⟨_, rfl, rfl⟩

theorem toBool_ofBool (b : Bool) : Spec.toBool (Spec.ofBool b) = b := by
  cases b <;> rfl

end Btcdeb.Proofs.SpecEval
