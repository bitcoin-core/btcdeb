/-
  C07, lexical layer: numbers.  The integer test of `Value(const char*)` (`atoll`, then `snprintf` and a string
  comparison) accepts exactly the canonical decimals of `Spec.readInt` and yields their value; `TryHex` on a text
  without white space is the specification's hex literal.
-/
import Btcdeb
import BtcdebProofs.Lemmas.TableEval

namespace Btcdeb.Proofs.C07Int
open Btcdeb Btcdeb.Model

/-- the integer test of `Value`'s constructor (value.h), as the model's `classifyPlain` writes it -/
def isIntWord (w : Bytes) : Bool := (cAtoi 64 w != 0 || w == [48]) && intDecimal (cAtoi 64 w) == w

theorem natDigits_eq (n : Nat) :
    natDigits n = (Nat.toDigits 10 n).map (fun c => UInt8.ofNat c.toNat) := by
  unfold natDigits
  rw [Nat.toString_eq_ofList_toDigits, TableEval.toUTF8_ofList_ascii]
  · rfl
  · intro c hc
    have hd := Nat.isDigit_of_mem_toDigits (by decide) (by decide) hc
    simp only [Char.isDigit, Bool.and_eq_true, decide_eq_true_eq] at hd
    unfold Char.utf8Size
    have : c.val ≤ 127 := by
      have := hd.2
      exact UInt32.le_trans this (by decide)
    simp [this]

theorem digitChar_byte : ∀ d : Fin 10, UInt8.ofNat (Nat.digitChar d.val).toNat = UInt8.ofNat (48 + d.val) := by
  decide

theorem natDigits_lt (n : Nat) (h : n < 10) : natDigits n = [UInt8.ofNat (48 + n)] := by
  rw [natDigits_eq, Nat.toDigits_of_lt_base h]
  simp only [List.map_cons, List.map_nil]
  rw [digitChar_byte ⟨n, h⟩]

theorem natDigits_ge (n : Nat) (h : 10 ≤ n) :
    natDigits n = natDigits (n / 10) ++ [UInt8.ofNat (48 + n % 10)] := by
  rw [natDigits_eq, natDigits_eq, Nat.toDigits_of_base_le (by decide) h]
  simp only [List.map_append, List.map_cons, List.map_nil]
  rw [digitChar_byte ⟨n % 10, Nat.mod_lt _ (by decide)⟩]

def decStep (a : Nat) (c : UInt8) : Nat := a * 10 + (c.toNat - 48)

theorem decValue_eq (ds : Bytes) : Spec.decValue ds = ds.foldl decStep 0 := rfl

theorem isDec_eq_isDigit : Spec.isDec = isDigit := rfl

theorem isDigit_iff (c : UInt8) : isDigit c = true ↔ 48 ≤ c.toNat ∧ c.toNat ≤ 57 := by
  simp [isDigit]

/-- Every character of a number, an opcode name or a hex literal is `-` or lies from `0` upwards, and such a
    character is neither C white space nor `)`. -/
theorem wordByte_chars {c : UInt8} (h : c.toNat = 45 ∨ 48 ≤ c.toNat) : isSpaceC c = false ∧ c ≠ 41 := by
  refine ⟨?_, fun hc => by rw [hc] at h; simp at h⟩
  simp only [isSpaceC, Bool.or_eq_false_iff, beq_eq_false_iff_ne, Bool.and_eq_false_iff, decide_eq_false_iff_not]
  omega

theorem ofNat_digit (c : UInt8) (h : isDigit c = true) : UInt8.ofNat (48 + (c.toNat - 48)) = c := by
  rw [isDigit_iff] at h
  have : 48 + (c.toNat - 48) = c.toNat := by omega
  rw [this]; simp

theorem isDigit_ofNat (d : Nat) (h : d < 10) : isDigit (UInt8.ofNat (48 + d)) = true := by
  rw [isDigit_iff, UInt8.toNat_ofNat']
  omega

theorem toNat_ofNat_digit (d : Nat) (h : d < 10) : (UInt8.ofNat (48 + d)).toNat = 48 + d := by
  rw [UInt8.toNat_ofNat']
  omega

theorem natDigits_all_isDigit (n : Nat) : (natDigits n).all isDigit = true := by
  induction n using Nat.strongRecOn with
  | _ n ih =>
    by_cases h : n < 10
    · rw [natDigits_lt n h, List.all_cons, isDigit_ofNat n h]; rfl
    · rw [natDigits_ge n (by omega), List.all_append, ih (n / 10) (by omega)]
      rw [List.all_cons, isDigit_ofNat (n % 10) (Nat.mod_lt _ (by decide))]; rfl

theorem decValue_natDigits (n : Nat) : Spec.decValue (natDigits n) = n := by
  induction n using Nat.strongRecOn with
  | _ n ih =>
    by_cases h : n < 10
    · rw [natDigits_lt n h, decValue_eq]
      simp only [List.foldl_cons, List.foldl_nil, decStep, toNat_ofNat_digit n h]
      omega
    · have := ih (n / 10) (by omega)
      rw [decValue_eq] at this
      rw [natDigits_ge n (by omega), decValue_eq, List.foldl_append, this]
      simp only [List.foldl_cons, List.foldl_nil, decStep,
        toNat_ofNat_digit (n % 10) (Nat.mod_lt _ (by decide))]
      omega

theorem natDigits_foldl (ds : Bytes) (acc : Nat) (hacc : 1 ≤ acc) (hall : ds.all isDigit = true) :
    natDigits (ds.foldl decStep acc) = natDigits acc ++ ds := by
  induction ds generalizing acc with
  | nil => simp
  | cons c t ih =>
    simp only [List.all_cons, Bool.and_eq_true] at hall
    have hc := (isDigit_iff c).1 hall.1
    rw [List.foldl_cons, ih (decStep acc c) (by unfold decStep; omega) hall.2]
    have h10 : 10 ≤ decStep acc c := by unfold decStep; omega
    have hdiv : decStep acc c / 10 = acc := by unfold decStep; omega
    have hmod : decStep acc c % 10 = c.toNat - 48 := by unfold decStep; omega
    rw [natDigits_ge _ h10, hdiv, hmod, ofNat_digit c hall.1]
    simp

theorem natDigits_decValue (d : UInt8) (rest : Bytes) (hall : (d :: rest).all isDigit = true)
    (hd : d.toNat ≠ 48) : natDigits (Spec.decValue (d :: rest)) = d :: rest := by
  simp only [List.all_cons, Bool.and_eq_true] at hall
  have hc := (isDigit_iff d).1 hall.1
  rw [decValue_eq, List.foldl_cons]
  have h0 : decStep 0 d = d.toNat - 48 := by unfold decStep; omega
  rw [h0, natDigits_foldl rest _ (by omega) hall.2, natDigits_lt _ (by omega), ofNat_digit d hall.1]
  rfl

theorem decValue_pos (d : UInt8) (rest : Bytes) (hall : (d :: rest).all isDigit = true)
    (hd : d.toNat ≠ 48) : 1 ≤ Spec.decValue (d :: rest) := by
  apply Nat.pos_of_ne_zero
  intro h0
  have := natDigits_decValue d rest hall hd
  rw [h0, natDigits_lt 0 (by decide)] at this
  injection this with h1 _
  apply hd
  rw [← h1]; rfl

theorem digitsValue_eq (ds : Bytes) (acc : Nat) (hall : ds.all isDigit = true) :
    digitsValue ds acc = ds.foldl decStep acc := by
  induction ds generalizing acc with
  | nil => rfl
  | cons c t ih =>
    simp only [List.all_cons, Bool.and_eq_true] at hall
    rw [digitsValue, if_pos hall.1, ih _ hall.2]
    rfl

theorem digitsValue_decValue (ds : Bytes) (hall : ds.all isDigit = true) :
    digitsValue ds 0 = Spec.decValue ds := by
  rw [digitsValue_eq ds 0 hall, decValue_eq]

/-- the values of `long long` -/
def InRange (n : Int) : Prop := -9223372036854775808 ≤ n ∧ n ≤ 9223372036854775807

/-- the narrowing conversion at the end of `cAtoi` is the identity on int64 values -/
theorem narrow64 (long : Int) (hlo : -(2 ^ 63 : Int) ≤ long) (hhi : long ≤ 2 ^ 63 - 1) :
    (let m : Int := (2 : Int) ^ 64
     let r := long % m
     if r ≥ m / 2 then r - m else r) = long := by
  simp only [Int.reducePow] at *
  split <;> omega

theorem narrow64_range (long : Int) :
    InRange (let m : Int := (2 : Int) ^ 64
     let r := long % m
     if r ≥ m / 2 then r - m else r) := by
  simp only [InRange, Int.reducePow]
  split <;> omega

theorem cAtoi64_range (w : Bytes) : InRange (cAtoi 64 w) := by
  unfold cAtoi
  exact narrow64_range _

theorem cAtoi64_neg (ds : Bytes) :
    cAtoi 64 (45 :: ds) =
      if digitsValue ds 0 > 2 ^ 63 then -(2 ^ 63 : Int) else -(digitsValue ds 0 : Int) := by
  unfold cAtoi
  have h : List.dropWhile isSpaceC (45 :: ds) = 45 :: ds := by
    rw [List.dropWhile_cons]; rfl
  simp only [h]
  generalize digitsValue ds 0 = v
  rw [narrow64] <;> simp only [if_true] <;> split <;>
    (simp only [Int.reducePow, Nat.reducePow, Int.reduceNeg] at *; omega)

theorem cAtoi64_digit (c : UInt8) (t : Bytes) (hc : isDigit c = true) :
    cAtoi 64 (c :: t) =
      if digitsValue (c :: t) 0 > 2 ^ 63 - 1 then (2 ^ 63 - 1 : Int)
      else (digitsValue (c :: t) 0 : Int) := by
  have hc' := (isDigit_iff c).1 hc
  unfold cAtoi
  have h : List.dropWhile isSpaceC (c :: t) = c :: t := by
    rw [List.dropWhile_cons, (wordByte_chars (Or.inr hc'.1)).1]; rfl
  have h45 : c ≠ 45 := by intro h; rw [h] at hc'; simp at hc'
  have h43 : c ≠ 43 := by intro h; rw [h] at hc'; simp at hc'
  simp only [h]
  split
  · rename_i heq
    exact absurd (List.cons.inj heq).1 h45
  · rename_i heq
    exact absurd (List.cons.inj heq).1 h43
  · generalize digitsValue (c :: t) 0 = v
    rw [narrow64] <;> simp only [Bool.false_eq_true, if_false] <;> split <;>
      (simp only [Int.reducePow, Nat.reducePow, Int.reduceNeg] at *; omega)

/-- `Spec.readInt` behind the sign -/
def readDigits (neg : Bool) (ds : Bytes) : Option Int :=
  match ds with
  | [] => none
  | d :: rest =>
    if !(ds.all isDigit) then none
    else if d.toNat == 48 then (if rest.isEmpty && !neg then some 0 else none)
    else
      let v : Int := Spec.decValue ds
      let v := if neg then -v else v
      if -9223372036854775808 ≤ v && v ≤ 9223372036854775807 then some v else none

theorem readInt_minus (ds : Bytes) : Spec.readInt (45 :: ds) = readDigits true ds := rfl

theorem readInt_plain (c : UInt8) (t : Bytes) (hc : c ≠ 45) : Spec.readInt (c :: t) = readDigits false (c :: t) := by
  unfold Spec.readInt
  split
  rename_i neg ds heq
  split at heq
  · rename_i heq'
    exact absurd (List.cons.inj heq').1 hc
  · obtain ⟨rfl, rfl⟩ := Prod.mk.inj heq
    rfl

theorem readDigits_iff (neg : Bool) (d : UInt8) (rest : Bytes) (n : Int) : readDigits neg (d :: rest) = some n ↔
    (d :: rest).all isDigit = true ∧
      ((d.toNat = 48 ∧ rest = [] ∧ neg = false ∧ n = 0) ∨
       (d.toNat ≠ 48 ∧ InRange n ∧ n = if neg then -(Spec.decValue (d :: rest) : Int) else Spec.decValue (d :: rest))) := by
  unfold readDigits InRange
  generalize Spec.decValue (d :: rest) = v
  by_cases hall : (d :: rest).all isDigit = true
  · simp only [hall, Bool.not_true, Bool.false_eq_true, if_false, beq_iff_eq, true_and]
    by_cases hd : d.toNat = 48
    · simp only [hd, if_true, ne_eq, not_true_eq_false, false_and, or_false, true_and, Bool.and_eq_true,
        List.isEmpty_iff, Bool.not_eq_true']
      split
      · rename_i h; simp only [Option.some.injEq, h, true_and, eq_comm]
      · rename_i h; simp only [reduceCtorEq, false_iff]; exact fun h' => h ⟨h'.1, h'.2.1⟩
    · simp only [hd, if_false, ne_eq, false_and, false_or, not_false_eq_true, true_and, Bool.and_eq_true, decide_eq_true_eq]
      generalize (if neg = true then -(v : Int) else (v : Int)) = x
      constructor
      · intro h
        split at h
        · rename_i hx; obtain rfl := Option.some.inj h; exact ⟨hx, rfl⟩
        · cases h
      · rintro ⟨hx, rfl⟩; exact if_pos hx
  · simp only [hall, Bool.not_false, if_true, reduceCtorEq, false_and]

theorem natDigits_head_ne_45 (n : Nat) (r : Bytes) : natDigits n ≠ 45 :: r := by
  intro h
  have := natDigits_all_isDigit n
  rw [h] at this
  simp [isDigit] at this

theorem natDigits_head (n : Nat) (hn : 1 ≤ n) :
    ∃ d rest, natDigits n = d :: rest ∧ d.toNat ≠ 48 := by
  induction n using Nat.strongRecOn with
  | _ n ih =>
    by_cases h : n < 10
    · refine ⟨_, [], natDigits_lt n h, ?_⟩
      rw [toNat_ofNat_digit n h]; omega
    · obtain ⟨d, rest, he, hd⟩ := ih (n / 10) (by omega) (by omega)
      refine ⟨d, rest ++ [UInt8.ofNat (48 + n % 10)], ?_, hd⟩
      rw [natDigits_ge n (by omega), he]; rfl

theorem natDigits_pos (m : Nat) (hm : 1 ≤ m) :
    ∃ d rest, natDigits m = d :: rest ∧ (d :: rest).all isDigit = true ∧ d.toNat ≠ 48 ∧ Spec.decValue (d :: rest) = m := by
  obtain ⟨d, rest, he, hd⟩ := natDigits_head m hm
  exact ⟨d, rest, he, he ▸ natDigits_all_isDigit m, hd, he ▸ decValue_natDigits m⟩

/-- `Spec.readInt` is the inverse of `%lld` on the values of `long long`: it reads exactly the printed forms, each
    as the number that was printed -/
theorem readInt_iff {w : Bytes} {n : Int} : Spec.readInt w = some n ↔ InRange n ∧ intDecimal n = w := by
  unfold intDecimal
  constructor
  · intro h
    cases w with
    | nil => cases h
    | cons c t =>
      by_cases hc : c = 45
      · subst hc
        rw [readInt_minus] at h
        cases t with
        | nil => cases h
        | cons d rest =>
          obtain ⟨hall, h0 | ⟨hd, hr, rfl⟩⟩ := (readDigits_iff true d rest n).mp h
          · exact absurd h0.2.2.1 (by decide)
          · have := decValue_pos d rest hall hd
            simp only [if_true] at hr ⊢
            rw [if_pos (by omega), Int.natAbs_neg, Int.natAbs_natCast, natDigits_decValue d rest hall hd]
            exact ⟨hr, rfl⟩
      · rw [readInt_plain c t hc] at h
        obtain ⟨hall, ⟨hd, rfl, _, rfl⟩ | ⟨hd, hr, rfl⟩⟩ := (readDigits_iff false c t n).mp h
        · obtain rfl : c = 48 := UInt8.toNat_inj.mp hd
          exact ⟨⟨by decide, by decide⟩, natDigits_lt 0 (by decide)⟩
        · simp only [Bool.false_eq_true, if_false] at hr ⊢
          rw [if_neg (by omega), Int.toNat_natCast, natDigits_decValue c t hall hd]
          exact ⟨hr, rfl⟩
  · rintro ⟨hr, rfl⟩
    by_cases hneg : n < 0
    · obtain ⟨d, rest, he, hall, hd, hv⟩ := natDigits_pos n.natAbs (by omega)
      rw [if_pos hneg, he, readInt_minus]
      exact (readDigits_iff true d rest n).mpr ⟨hall, Or.inr ⟨hd, hr, by rw [hv, if_pos rfl]; omega⟩⟩
    · rw [if_neg hneg]
      by_cases h0 : n = 0
      · subst h0; rw [show natDigits (0 : Int).toNat = [48] from natDigits_lt 0 (by decide)]; decide
      · obtain ⟨d, rest, he, hall, hd, hv⟩ := natDigits_pos n.toNat (by omega)
        rw [he, readInt_plain d rest fun h => natDigits_head_ne_45 n.toNat rest (h ▸ he)]
        exact (readDigits_iff false d rest n).mpr ⟨hall, Or.inr ⟨hd, hr, by rw [hv, if_neg Bool.false_ne_true]; omega⟩⟩

/-- `atoll` reads back what `%lld` printed -/
theorem cAtoi64_intDecimal (n : Int) (h : InRange n) : cAtoi 64 (intDecimal n) = n := by
  obtain ⟨hlo, hhi⟩ := h
  have hval : ∀ m, digitsValue (natDigits m) 0 = m := fun m => by
    rw [digitsValue_decValue _ (natDigits_all_isDigit m), decValue_natDigits]
  unfold intDecimal
  by_cases hneg : n < 0
  · rw [if_pos hneg, cAtoi64_neg, hval, if_neg (by simp only [Nat.reducePow]; omega)]
    omega
  · rw [if_neg hneg]
    by_cases h0 : n = 0
    · subst h0; rw [show natDigits (0 : Int).toNat = [48] from natDigits_lt 0 (by decide)]; decide
    · obtain ⟨c, t, he, hall, _, _⟩ := natDigits_pos n.toNat (by omega)
      rw [he, cAtoi64_digit c t (by simp only [List.all_cons, Bool.and_eq_true] at hall; exact hall.1), ← he, hval,
        if_neg (by simp only [Nat.reducePow]; omega)]
      omega

theorem readInt_eq_cAtoi (w : Bytes) (n : Int) (h : Spec.readInt w = some n) : cAtoi 64 w = n := by
  obtain ⟨hr, rfl⟩ := readInt_iff.mp h
  exact cAtoi64_intDecimal n hr

/-- the test of value.h — print what `atoll` read and compare — accepts exactly the printed forms -/
theorem int_word_iff (w : Bytes) : isIntWord w = true ↔ ∃ n, Spec.readInt w = some n := by
  unfold isIntWord
  simp only [Bool.and_eq_true, Bool.or_eq_true, bne_iff_ne, ne_eq, beq_iff_eq]
  constructor
  · exact fun h => ⟨_, readInt_iff.mpr ⟨cAtoi64_range w, h.2⟩⟩
  · rintro ⟨n, h⟩
    rw [readInt_eq_cAtoi w n h]
    obtain ⟨_, rfl⟩ := readInt_iff.mp h
    refine ⟨?_, rfl⟩
    by_cases h0 : n = 0
    · subst h0; exact Or.inr (natDigits_lt 0 (by decide))
    · exact Or.inl h0

theorem readInt_chars (w : Bytes) (n : Int) (h : Spec.readInt w = some n) :
    w ≠ [] ∧ ∀ c ∈ w, c.toNat = 45 ∨ 48 ≤ c.toNat := by
  have hne : w ≠ [] := by rintro rfl; cases h
  obtain ⟨_, rfl⟩ := readInt_iff.mp h
  refine ⟨hne, ?_⟩
  have hd : ∀ m, ∀ c ∈ natDigits m, c.toNat = 45 ∨ 48 ≤ c.toNat :=
    fun m c hc => Or.inr ((isDigit_iff c).1 (List.all_eq_true.mp (natDigits_all_isDigit m) c hc)).1
  unfold intDecimal
  split
  · exact List.forall_mem_cons.mpr ⟨Or.inl rfl, hd _⟩
  · exact hd _

theorem isHexDigit_ge {c : UInt8} (h : Spec.isHexDigit c = true) : 48 ≤ c.toNat := by
  simp only [Spec.isHexDigit, Bool.or_eq_true, Bool.and_eq_true, decide_eq_true_eq] at h
  omega

theorem hexDigitVal_eq (c : UInt8) :
    hexDigitVal c = if Spec.isHexDigit c then some (Spec.hexNibble c) else none := by
  unfold hexDigitVal Spec.isHexDigit Spec.hexNibble
  generalize c.toNat = n
  simp only [Bool.and_eq_true, Bool.or_eq_true, decide_eq_true_eq]
  by_cases h1 : 48 ≤ n ∧ n ≤ 57
  · simp [h1]
  · by_cases h2 : 97 ≤ n ∧ n ≤ 102
    · have h3 : ¬ n ≤ 57 := by omega
      have h4 : n ≥ 97 := h2.1
      simp [h2, h3]
    · by_cases h3 : 65 ≤ n ∧ n ≤ 70
      · have h4 : ¬ n ≤ 57 := by omega
        have h5 : ¬ n ≥ 97 := by omega
        simp [h3, h4, h5]
      · simp [h1, h2, h3]

theorem hexNibble_le (c : UInt8) (h : Spec.isHexDigit c = true) : Spec.hexNibble c ≤ 15 := by
  unfold Spec.isHexDigit at h
  unfold Spec.hexNibble
  generalize c.toNat = n at h ⊢
  simp only [Bool.and_eq_true, Bool.or_eq_true, decide_eq_true_eq] at h
  split
  · omega
  · split <;> omega

theorem tryHex_eq : ∀ h : Bytes, (∀ c ∈ h, isSpaceC c = false) →
    tryHex h = if h.length % 2 = 0 ∧ h.all Spec.isHexDigit = true then some (Spec.unhexPairs h) else none
  | [], _ => rfl
  | [a], hns => by
    unfold tryHex
    rw [hns a List.mem_cons_self]
    cases hexDigitVal a <;> rfl
  | a :: b :: rest, hns => by
    have ih := tryHex_eq rest fun c hc => hns c (by simp [hc])
    conv => lhs; unfold tryHex
    rw [hns a List.mem_cons_self, hexDigitVal_eq a]
    have hl : (a :: b :: rest).length % 2 = rest.length % 2 := by simp only [List.length_cons]; omega
    cases ha : Spec.isHexDigit a
    · simp [ha]
    · simp only [if_true, Bool.false_eq_true, if_false]
      rw [hexDigitVal_eq b, ih]
      cases hb : Spec.isHexDigit b
      · simp [hb]
      · simp only [hl, List.all_cons, ha, hb, Bool.true_and, if_true, Spec.unhexPairs]
        by_cases hr : rest.length % 2 = 0 ∧ rest.all Spec.isHexDigit = true
        · rw [if_pos hr, if_pos hr]
        · rw [if_neg hr, if_neg hr]

end Btcdeb.Proofs.C07Int
