/-
  The `Value` constructor on the text `name(arg)` (value.h:197-214): parse the inner text, assign it into the value under
  construction (`operator=`: type and active field only), run `do_exec(name)`.  The name is copied into `char fun[30]`
  by a loop that stops at `i < 29` (value.h:198-200): hence `nm.length ≤ 29`; 40 is `(`, 41 `)`.
-/
import Btcdeb.Model.Transforms
import BtcdebProofs.Lemmas.ListAux
namespace Btcdeb.InlineText
open Btcdeb Model ListAux

/-- the constructor on the text `name(arg)`: the inner text is parsed, assigned (type and active field only) into the value
    under construction, and `do_exec(name)` runs on that -/
theorem inline_text (cx : VCtx) (mk : Bytes → Nat → TM Value) (nm arg : Bytes) (hlen : nm.length ≤ 29)
    (hnm : ∀ c ∈ nm, c.toNat ≠ 40 ∧ c.toNat ≠ 0) (hpos : nm.length + arg.length > 1) :
    valueBodyF cx mk (nm ++ [40] ++ arg ++ [41]) (nm.length + arg.length + 2) = (do
      let inner ← mk arg arg.length
      let this := ({ type := .T_STRING, str := nm ++ [40] ++ arg ++ [41] } : Value).assign inner
      match this.doExecF cx nm with
      | some r => r
      | none => do
        sayErr (asc "unknown function " ++ cstrOf nm ++ asc ": expression left as is\n")
        pure (classifyPlainF this (nm ++ [40] ++ arg ++ [41]) (nm.length + arg.length + 2))) := by
  have hfull : (nm ++ [40] ++ arg ++ [41] : Bytes) = nm ++ (40 :: (arg ++ [41])) := by simp
  have hl : (nm ++ (40 :: (arg ++ [41])) : Bytes).length = nm.length + arg.length + 2 := by simp; omega
  have hlast : (nm ++ (40 :: (arg ++ [41])) : Bytes).getD (nm.length + arg.length + 2 - 1) 0 = 41 := by
    have e : nm ++ (40 :: (arg ++ [41])) = (nm ++ 40 :: arg) ++ [41] := by simp
    rw [e, List.getD_eq_getElem?_getD, List.getElem?_append_right (by simp; omega)]
    have : nm.length + arg.length + 2 - 1 - (nm ++ 40 :: arg).length = 0 := by simp; omega
    rw [this]; rfl
  have hparen : (nm ++ (40 :: (arg ++ [41])) : Bytes).getD nm.length 0 = 40 := by
    rw [List.getD_eq_getElem?_getD, List.getElem?_append_right (Nat.le_refl _), Nat.sub_self]; rfl
  have hfn : ((nm ++ (40 :: (arg ++ [41])) : Bytes).take 29).takeWhile (fun c => c.toNat != 40 && c.toNat != 0) = nm := by
    have hp : ∀ y ∈ nm, (y.toNat != 40 && y.toNat != 0) = true := by
      intro y hy; obtain ⟨a, b⟩ := hnm y hy; simp [a, b]
    rw [List.take_append]
    rw [List.take_of_length_le hlen]
    cases hk : 29 - nm.length with
    | zero => simp only [List.take_zero, List.append_nil]; exact takeWhile_all _ nm hp
    | succ m =>
      rw [List.take_succ_cons]
      exact takeWhile_append_stop _ nm 40 _ hp (by decide)
  have hval : ((nm ++ (40 :: (arg ++ [41])) : Bytes).drop (nm.length + 1)).take arg.length = arg := by
    rw [List.drop_append, List.drop_eq_nil_of_le (by omega), List.nil_append]
    have : nm.length + 1 - nm.length = 1 := by omega
    rw [this, List.drop_succ_cons, List.drop_zero]
    exact List.take_left' rfl
  have hvl : nm.length + arg.length + 2 - (nm.length + 1) - 1 = arg.length := by omega
  rw [hfull]
  unfold valueBodyF
  have h0 : (nm.length + arg.length + 2 == 0) = false := beq_eq_false_iff_ne.mpr (by omega)
  have h2 : (nm.length + arg.length + 2 == 2) = false := beq_eq_false_iff_ne.mpr (by omega)
  have h93 : ((41 : UInt8) == 93) = false := by decide
  simp only [h0, Bool.false_eq_true, ↓reduceIte, h2, Bool.false_and, hlast, h93, Bool.and_false, hfn, hparen, hval, hvl]
  have hc : (decide (nm.length + arg.length + 2 > 3) && (41 : UInt8) == 41 && (40 : UInt8) == 40) = true := by
    simp; omega
  simp only [hc, ↓reduceIte]
  rfl

end Btcdeb.InlineText
