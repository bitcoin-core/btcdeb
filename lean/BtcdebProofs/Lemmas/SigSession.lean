/-
  Whole sessions depend on their checker only through the queries they make (continuation of Lemmas/SigOps.lean).

  A session (`continueScript` = repeated `StepScript(InterpreterEnv&)`) is a sequence of phases: [taproot commitment] → script →
  [hand-over to the scriptPubKey → script] → [hand-over to the P2SH redeem script → script] → done.  Only the operation steps
  consult the checker; the hand-over steps re-establish the invariant `RunInv` for the next script, provided the scriptPubKey
  decodes and the redeem script decodes (`SessInv`, `session_congr`).  The key-path session is treated on its own (`keypath_congr`).

  At the end, two facts about `Refine.runOps` that have nothing to do with checkers and that C03Tx needs beside the above: a
  visited state that still has its successor script lies on the run of operations from the start (`visited_runOps`), and
  a run from a position that does not decode ends in an error (`runOps_unparsed_err`).
-/
import BtcdebProofs.Lemmas.SigOps
import BtcdebProofs.Lemmas.Phases
import BtcdebProofs.Properties.C04
namespace Btcdeb.Proofs.SigOps
open Btcdeb Btcdeb.Model Btcdeb.Refine Btcdeb.Proofs.Sighash Btcdeb.Proofs.Phases

theorem continueScript_congr_of (cx cx' : Ctx) (tc : TapCtx) (I : IEnv → Prop)
    (hstep : ∀ e, I e → e.done = false → stepSession cx tc e = stepSession cx' tc e)
    (hpres : ∀ e e', I e → e.done = false → stepSession cx' tc e = .ok e' → I e') :
    ∀ (n : Nat) (e : IEnv), I e → continueScript cx tc n e = continueScript cx' tc n e := by
  intro n
  induction n with
  | zero => intro e _; rfl
  | succ n ih =>
    intro e hi
    by_cases hd : e.done = true
    · rw [continue_done cx tc _ e hd, continue_done cx' tc _ e hd]
    · have hd' : e.done = false := by simpa using hd
      rw [continue_succ cx tc n e hd', continue_succ cx' tc n e hd', hstep e hi hd']
      exact bind_congr_ok fun e' hs => ih e' (hpres e e' hi hd' hs)

/-- a script that may become the current script decodes and is below 2^32 bytes -/
def ScriptOk (r : Bytes) : Prop := Parses r ∧ r.length < 2 ^ 32

/-- the invariant of a session (any phase) under which its operation steps only make queries covered by `SameOn` -/
structure SessInv (e : IEnv) (sv : SigVersion) (s0 : EdStatic) : Prop where
  sigver : e.see.sigversion = sv
  notKey : sv ≠ .TAPROOT
  static : edStatic e.see.execdata = s0
  /-- during the commitment phase the leaf hash that its last step stores is the one already in the execution data -/
  tce : ∀ t, e.tce = some t → t.leaf = e.see.execdata.tapleafHash ∧ e.see.execdata.tapleafHashInit = true
  code : sv = .BASE → Spec.decode e.see.pbegincodehash ≠ none ∧ e.see.pbegincodehash.length < 2 ^ 32
  pc : Parses e.pc
  len : sv = .BASE → e.pc.length < 2 ^ 32
  succ : Parses e.successor
  /-- a saved redeem script that can still be handed over to decodes -/
  redeem : e.isP2sh = true → ∀ r, e.p2shStack.getLast? = some r →
    (e.sigscriptExecuted && !e.sigscriptPushonly) = true ∨ ScriptOk r

theorem SessInv.runInv {e : IEnv} {sv : SigVersion} {s0 : EdStatic} (h : SessInv e sv s0) : RunInv e s0 :=
  ⟨⟨by rw [h.sigver]; exact h.notKey, by rw [h.sigver]; exact h.code, h.static⟩, h.pc, by rw [h.sigver]; exact h.len⟩

theorem sessInv_setup {stack : List Bytes} {script : Bytes} {flags : Nat} {sv : SigVersion} {succ : Bytes} {z : Bool}
    {ed : ExecData} {tce : Option Tce} {pm : List (Bytes × Bytes)} {pk : List Bytes} {e0 : IEnv}
    (h : setupEnvironment stack script flags sv succ z ed tce pm pk = .ok e0)
    (hnk : sv ≠ .TAPROOT) (hscript : Parses script) (hsucc : Parses succ)
    (htce : ∀ t, tce = some t → t.leaf = ed.tapleafHash ∧ ed.tapleafHashInit = true)
    (hred : (sv == .BASE && p2shPattern flags script) = true → ∀ r, stack.getLast? = some r → ScriptOk r) :
    SessInv e0 sv (edStatic ed) := by
  have hr := runInv_setup h hnk hscript
  obtain ⟨-, -, -, rfl⟩ := setupEnvironment_ok h
  refine ⟨rfl, hnk, rfl, htce, hr.sig.code, hscript, hr.len, hsucc, fun hp r hr => ?_⟩
  have hp' : (sv == .BASE && p2shPattern flags script) = true := hp
  simp only [hp', if_true] at hr
  exact Or.inr (hred hp' r hr)

theorem stepSession_congr_of {cx cx' : Ctx} (tc : TapCtx) {e : IEnv}
    (h : e.tce = none → e.pc.isEmpty = false → step cx e.see e.pc = step cx' e.see e.pc) :
    stepSession cx tc e = stepSession cx' tc e := by
  cases ht : e.tce with
  | some t => unfold stepSession; simp only [ht]
  | none =>
    by_cases hp : e.pc.isEmpty = true
    · unfold stepSession
      simp only [ht, hp, Bool.not_true, Bool.false_eq_true, if_false]
    · have hne : e.pc.isEmpty = false := by simpa using hp
      rw [stepSession_op cx tc e ht hne, stepSession_op cx' tc e ht hne, h ht hne]

theorem stepSession_congr {cx cx' : Ctx} (tc : TapCtx) {e : IEnv} {sv : SigVersion} {s0 : EdStatic}
    (hsame : SameOn cx cx' sv s0) (hi : SessInv e sv s0) : stepSession cx tc e = stepSession cx' tc e :=
  stepSession_congr_of tc fun _ _ => step_congr (by rw [hi.sigver]; exact hsame) hi.runInv.sig _

/-- the invariant survives every step, given that at the hand-over to a P2SH-pattern scriptPubKey after a push-only
    scriptSig the top stack element (the future redeem script) decodes (`hO`) -/
theorem sessInv_step {cx' : Ctx} (tc : TapCtx) {e e' : IEnv} {sv : SigVersion} {s0 : EdStatic} (hi : SessInv e sv s0)
    (hO : e.tce = none → e.pc = [] → e.successor ≠ [] → e.see.cond.empty = true → p2shPattern e.see.flags e.successor = true →
      isPushOnly e.see.script = true → ∀ r, e.see.stack.getLast? = some r → ScriptOk r)
    (hs : stepSession cx' tc e = .ok e') : SessInv e' sv s0 := by
  cases stepSession_kind hs with
  | merkle t k' ht =>
    refine ⟨hi.sigver, hi.notKey, hi.static, fun t'' ht'' => ?_, hi.code, hi.pc, hi.len, hi.succ, hi.redeem⟩
    cases ht''
    exact hi.tce t ht
  | tweak t ht =>
    obtain ⟨hl, hinit⟩ := hi.tce t ht
    refine ⟨hi.sigver, hi.notKey, ?_, (fun _ h => nomatch h), hi.code, hi.pc, hi.len, hi.succ, hi.redeem⟩
    rw [← hi.static]
    simp only [edStatic, hl, hinit]
  | op g see' ht _ _ hst =>
    obtain ⟨h1, h2, h3, h4⟩ := step_runInv cx' e s0 hi.runInv see' g.rest hst
    exact ⟨h4.trans hi.sigver, hi.notKey, h1.static, (fun _ h => nomatch ht.symm.trans h),
      fun hb => h1.code ((h4.trans hi.sigver).trans hb), h2, fun hb => Nat.lt_trans h3 (hi.len hb), hi.succ, hi.redeem⟩
  | redeem r ht hpc hisp hnpo hr =>
    have hok : ScriptOk r := (hi.redeem hisp r hr).resolve_left (by rw [hnpo]; decide)
    exact ⟨hi.sigver, hi.notKey, hi.static, (fun _ h => nomatch ht.symm.trans h),
      fun _ => ⟨(parses_iff_decode _).mp hok.1, hok.2⟩, hok.1, fun _ => hok.2, hi.succ, fun h => nomatch h⟩
  | successor ht hpc hce hisp hsucc hsz =>
    have hlen : e.successor.length < 2 ^ 32 := by
      have h10k : Gen.MAX_SCRIPT_SIZE = 10000 := by decide
      omega
    refine ⟨hi.sigver, hi.notKey, hi.static, (fun _ h => nomatch ht.symm.trans h),
      fun _ => ⟨(parses_iff_decode _).mp hi.succ, hlen⟩, hi.succ, fun _ => hlen, Parses.nil, fun hp2 r hr => ?_⟩
    -- the stack is saved only under the P2SH pattern; the saved redeem script matters only after a push-only scriptSig
    simp only at hp2 hr
    rw [hp2, if_pos rfl] at hr
    cases hpo : isPushOnly e.see.script
    · left; rfl
    · right; exact hO ht hpc hsucc hce hp2 hpo r hr
  | finish ht hpc hisp hsucc =>
    exact ⟨hi.sigver, hi.notKey, hi.static, (fun _ h => nomatch ht.symm.trans h), hi.code, hi.pc, hi.len, hi.succ, hi.redeem⟩

/-- **Whole session.**  Two checkers that agree on the queries of a session (`SameOn`) give the same session, step by
    step and for every fuel, from any state satisfying `SessInv` — given an invariant `J` (of the states of the session)
    that guarantees that a redeem script handed over to decodes (`ScriptOk`). -/
theorem session_congr (cx cx' : Ctx) (tc : TapCtx) (sv : SigVersion) (s0 : EdStatic) (hsame : SameOn cx cx' sv s0)
    (J : IEnv → Prop)
    (hJ : ∀ e e', J e → SessInv e sv s0 → e.done = false → stepSession cx' tc e = .ok e' → J e')
    (hO : ∀ e, J e → SessInv e sv s0 → e.tce = none → e.pc = [] → e.successor ≠ [] → e.see.cond.empty = true →
      p2shPattern e.see.flags e.successor = true → isPushOnly e.see.script = true →
      ∀ r, e.see.stack.getLast? = some r → ScriptOk r) :
    ∀ (n : Nat) (e : IEnv), J e → SessInv e sv s0 → continueScript cx tc n e = continueScript cx' tc n e := by
  intro n e hj hi
  refine continueScript_congr_of cx cx' tc (fun e => J e ∧ SessInv e sv s0) ?_ ?_ n e ⟨hj, hi⟩
  · intro e ⟨_, hi⟩ _
    exact stepSession_congr tc hsame hi
  · intro e e' ⟨hj, hi⟩ hd hs
    exact ⟨hJ e e' hj hi hd hs, sessInv_step tc hi (hO e hj hi) hs⟩

theorem session_congr_nop2sh (cx cx' : Ctx) (tc : TapCtx) (sv : SigVersion) (s0 : EdStatic) (hsame : SameOn cx cx' sv s0)
    (n : Nat) (e : IEnv) (hi : SessInv e sv s0) (hs : p2shPattern e.see.flags e.successor = false) :
    continueScript cx tc n e = continueScript cx' tc n e := by
  refine session_congr cx cx' tc sv s0 hsame (fun e => p2shPattern e.see.flags e.successor = false) ?_ ?_ n e hs hi
  · intro e e' hj _ _ hst
    obtain ⟨hf, h⟩ := stepSession_flags_succ tc hst
    rcases h with h | h
    · show p2shPattern e'.see.flags e'.successor = false
      rw [hf, h]; exact hj
    · show p2shPattern e'.see.flags e'.successor = false
      rw [h]; exact p2shPattern_nil _
  · intro e hj _ _ _ _ _ hp
    rw [hj] at hp; cases hp

/-- sessions without a successor script (all witness sessions) -/
theorem session_congr_single (cx cx' : Ctx) (tc : TapCtx) (sv : SigVersion) (s0 : EdStatic) (hsame : SameOn cx cx' sv s0)
    (n : Nat) (e : IEnv) (hi : SessInv e sv s0) (hs : e.successor = []) :
    continueScript cx tc n e = continueScript cx' tc n e :=
  session_congr_nop2sh cx cx' tc sv s0 hsame n e hi (by rw [hs]; exact p2shPattern_nil _)

/-- `J`: the states the session visits by stepping (`C04.advance`) -/
theorem session_congr_visited (cx cx' : Ctx) (tc : TapCtx) (sv : SigVersion) (s0 : EdStatic) (hsame : SameOn cx cx' sv s0)
    (e0 : IEnv) (hi : SessInv e0 sv s0)
    (hO : ∀ k e, C04.advance cx' tc e0 k = some e → e.tce = none → e.pc = [] → e.successor ≠ [] → e.see.cond.empty = true →
      p2shPattern e.see.flags e.successor = true → isPushOnly e.see.script = true →
      ∀ r, e.see.stack.getLast? = some r → ScriptOk r) (n : Nat) :
    continueScript cx tc n e0 = continueScript cx' tc n e0 := by
  refine session_congr cx cx' tc sv s0 hsame (fun e => ∃ k, C04.advance cx' tc e0 k = some e) ?_ ?_ n e0 ⟨0, rfl⟩ hi
  · intro e e' ⟨k, hk⟩ _ hd hst
    exact ⟨k + 1, C04.advance_succ_iff.mpr ⟨e, hk, hd, hst⟩⟩
  · intro e ⟨k, hk⟩ _
    exact hO k e hk

theorem execOpcode_checksig_taproot_congr (cx cx' : Ctx) (e : SEE) (hsv : e.sigversion = .TAPROOT)
    (hk : ∀ sig key, top e.stack 1 = .ok key → cx.checkSchnorr sig key .TAPROOT e.execdata = cx'.checkSchnorr sig key .TAPROOT e.execdata)
    (fExec : Bool) (pc : Bytes) :
    execOpcode cx e .OP_CHECKSIG fExec pc = execOpcode cx' e .OP_CHECKSIG fExec pc := by
  dsimp only [execOpcode, M.fail_bind]
  refine ite_congr rfl (fun _ => rfl) fun _ => bind_congr_ok fun sig _ => bind_congr_ok fun key hkey => ?_
  have : evalChecksig cx e sig key = evalChecksig cx' e sig key := by
    unfold evalChecksig
    refine ite_congr rfl (fun _ => rfl) fun _ => ?_
    simp only [hsv, hk sig key hkey]
  rw [this]

theorem step_checksig_taproot_congr (cx cx' : Ctx) (e : SEE) (rest : Bytes) (hsv : e.sigversion = .TAPROOT)
    (hk : ∀ sig key, top e.stack 1 = .ok key → cx.checkSchnorr sig key .TAPROOT e.execdata = cx'.checkSchnorr sig key .TAPROOT e.execdata) :
    step cx e (0xac :: rest) = step cx' e (0xac :: rest) := by
  have hg : getOp (0xac :: rest) = some ⟨0xac, [], rest⟩ := getOp_op 0xac rest (by decide)
  refine step_congr_of fun g e1 hg' _ he1 => ?_
  obtain rfl := Option.some.inj (hg.symm.trans hg')
  rw [show Opcode.ofNat 0xac = .OP_CHECKSIG by decide]
  -- `e1` differs from `e` at most in the operation count, which the hypotheses do not mention
  obtain ⟨m, rfl⟩ := countOp_ok_cases he1
  exact execOpcode_checksig_taproot_congr cx cx' { e with nOpCount := m } hsv hk _ _

/-- **The key-path session.**  `configure_tx_txin` turns a taproot key-path spend into the script `<program> OP_CHECKSIG`
    run under `SigVersion::TAPROOT` with the signature on the stack.  Its only question to the checker is the Schnorr
    check of a signature against the program with the execution data it was set up with; two checkers that answer that
    question alike give the same session. -/
theorem keypath_congr (cx cx' : Ctx) (tc : TapCtx) (prog : Bytes) (script : Bytes) (hscript : script = 0x20 :: (prog ++ [0xac]))
    (hg : getOp script = some ⟨0x20, prog, [0xac]⟩) (ed : ExecData)
    (hk : ∀ sig, cx.checkSchnorr sig prog .TAPROOT ed = cx'.checkSchnorr sig prog .TAPROOT ed)
    (e0 : IEnv) (h0 : e0.tce = none ∧ e0.isP2sh = false ∧ e0.successor = [] ∧ e0.pc = script ∧
      e0.see.sigversion = .TAPROOT ∧ e0.see.execdata = ed ∧ e0.see.cond.allTrue = true) (n : Nat) :
    continueScript cx tc n e0 = continueScript cx' tc n e0 := by
  let A : IEnv → Prop := fun e => e.pc = script ∧ e.see.sigversion = .TAPROOT ∧ e.see.execdata = ed ∧ e.see.cond.allTrue = true
  let B : IEnv → Prop := fun e => e.pc = [0xac] ∧ e.see.sigversion = .TAPROOT ∧ e.see.execdata = ed ∧ ∃ st, e.see.stack = st ++ [prog]
  let KP : IEnv → Prop := fun e => e.tce = none ∧ e.isP2sh = false ∧ e.successor = [] ∧ (A e ∨ B e ∨ e.pc = [])
  have hne : script.isEmpty = false := by rw [hscript]; rfl
  refine continueScript_congr_of cx cx' tc KP ?_ ?_ n e0 ⟨h0.1, h0.2.1, h0.2.2.1, Or.inl h0.2.2.2⟩
  · intro e ⟨_, _, _, hcase⟩ _
    refine stepSession_congr_of tc fun _ hp => ?_
    rcases hcase with ⟨hpc, _⟩ | ⟨hpc, hsv, hed, st, hst⟩ | hpc
    · -- a push: `StepScript` does not enter the `switch`
      rw [hpc]
      exact step_congr_of fun g _ hg' hlt _ => by
        cases hg.symm.trans hg'
        exact absurd hlt (show ¬ Op.OP_PUSHDATA4 < 32 by decide)
    · rw [hpc]
      refine step_checksig_taproot_congr cx cx' e.see [] hsv fun sig key hkey => ?_
      rw [hst, top1] at hkey
      cases hkey
      rw [hed]; exact hk sig
    · rw [hpc] at hp; cases hp
  · intro e e' ⟨ht, hisp, hsucc, hcase⟩ hd hs
    rcases hcase with ⟨hpc, hsv, hed, hf⟩ | ⟨hpc, hsv, hed, st, hst⟩ | hpc
    · have hp : e.pc.isEmpty = false := by rw [hpc]; exact hne
      obtain ⟨see', pc', hstep, he'⟩ := stepSession_op_ok ht hp hs
      rw [hpc] at hstep
      obtain ⟨m, hr⟩ := step_push_exec hg (by show (32 : Nat) ≤ Op.OP_PUSHDATA4; decide) hf _ hstep
      cases hr
      subst he'
      exact ⟨ht, hisp, hsucc, Or.inr (Or.inl ⟨rfl, hsv, hed, e.see.stack, rfl⟩)⟩
    · have hp : e.pc.isEmpty = false := by rw [hpc]; rfl
      obtain ⟨see', pc', hstep, he'⟩ := stepSession_op_ok ht hp hs
      obtain ⟨g, hgg, hrest, _⟩ := step_decoded cx' e.see e.pc _ hstep
      have hg2 : getOp e.pc = some ⟨0xac, [], []⟩ := by rw [hpc]; exact getOp_op 0xac [] (by decide)
      rw [hg2] at hgg
      cases hgg
      subst he'
      exact ⟨ht, hisp, hsucc, Or.inr (Or.inr hrest)⟩
    · rw [stepSession_end cx' tc e ht hpc hisp hsucc] at hs
      split at hs <;> cases hs
      exact ⟨ht, hisp, hsucc, Or.inr (Or.inr hpc)⟩

/-- in a session that starts without commitment phase and with an empty saved stack, a visited state that still has its
    successor script lies on the run of operations from the start: no hand-over has happened -/
theorem visited_runOps {cx : Ctx} {tc : TapCtx} {e0 : IEnv} (ht0 : e0.tce = none) (hst0 : e0.p2shStack = []) :
    ∀ k e, C04.advance cx tc e0 k = some e → e.successor ≠ [] →
      outer e = outer e0 ∧ ∀ fuel, e0.pc.length ≤ fuel →
        ∃ f, e.pc.length ≤ f ∧ (Refine.runOps cx tc fuel e0).2 = (Refine.runOps cx tc f e).2 :=
  C04.advance_induction cx tc e0 (fun _ => ⟨rfl, fun fuel hf => ⟨fuel, hf, rfl⟩⟩) fun _ a b _ _ ih hs hsucc => by
    have hsa : a.successor ≠ [] := by
      rcases (stepSession_flags_succ tc hs).2 with h | h
      · rw [← h]; exact hsucc
      · exact absurd h hsucc
    obtain ⟨ho, hrun⟩ := ih hsa
    have hta : a.tce = none := (Phases.outer_tce ho).trans ht0
    -- with its successor script still there and nothing saved, `a` can only have made an operation step
    cases stepSession_kind hs with
    | merkle t _ ht => exact nomatch hta.symm.trans ht
    | tweak t ht => exact nomatch hta.symm.trans ht
    | op g see' ht hne hg hst hch =>
      refine ⟨by rw [← ho]; simp [Phases.outer, hch.script], fun fuel hf => ?_⟩
      obtain ⟨f, hf', heq⟩ := hrun fuel hf
      have hlt := getOp_rest_lt hg
      obtain ⟨f', rfl⟩ : ∃ f', f = f' + 1 := ⟨f - 1, by omega⟩
      refine ⟨f', by show g.rest.length ≤ f'; omega, ?_⟩
      rw [heq]
      simp only [Refine.runOps, List.isEmpty_eq_false_iff.mpr hne, Bool.false_eq_true, if_false, hs]
    | redeem r _ _ _ _ hr => rw [Phases.outer_p2shStack ho, hst0] at hr; cases hr
    | successor => exact absurd rfl hsucc
    | finish _ _ _ hse => exact absurd hse hsa

theorem runOps_unparsed_err (cx : Ctx) (tc : TapCtx) : ∀ (fuel : Nat) (e : IEnv), e.tce = none → ¬ Parses e.pc →
    e.pc.length ≤ fuel → ∃ x, (Refine.runOps cx tc fuel e).2 = .error x := by
  refine runOps_induct cx tc (motive := fun fuel e r => ¬ Parses e.pc → e.pc.length ≤ fuel → ∃ x, r.2 = .error x) ?_ ?_ ?_
  · intro n e _ h0 hnp hl
    have h0 : e.pc = [] := h0.elim (fun hn => List.length_eq_zero_iff.mp (by omega)) id
    exact absurd (by rw [h0]; exact Parses.nil) hnp
  · intro n e x _ _ _ _ _; exact ⟨x, rfl⟩
  · intro n e r _ _ hm hlt ih hnp hl
    obtain ⟨g, hg, hrest, _⟩ := step_decoded cx e.see e.pc _ hm
    exact ih (fun hp1 => hnp ((parses_decodeOne (getOp_eq_some_iff.mp hg)).mpr (hrest ▸ hp1))) (by show r.2.length ≤ n; omega)

end Btcdeb.Proofs.SigOps
