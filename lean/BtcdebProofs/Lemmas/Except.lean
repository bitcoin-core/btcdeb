/-
  Facts about `>>=` in `Except ε` that the proofs about both interpreters use.
-/
namespace Btcdeb

-- protected: `Refine.ok_bind` and its kin, for one error type each, are the names in scope where `Btcdeb.Refine` is open
protected theorem ok_bind {ε α β} (a : α) (f : α → Except ε β) : (Except.ok a >>= f) = f a := rfl
protected theorem error_bind {ε α β} (e : ε) (f : α → Except ε β) : ((Except.error e : Except ε α) >>= f) = .error e := rfl

theorem bind_ok {ε α β} {x : Except ε α} {f : α → Except ε β} {b : β} (h : (x >>= f) = .ok b) :
    ∃ a, x = .ok a ∧ f a = .ok b := by
  cases x with
  | error e => cases h
  | ok a => exact ⟨a, rfl, h⟩

/-- With core's `ite_congr`, the descent through two `do` blocks that differ only in what their last actions consult. -/
theorem bind_congr_ok {ε α β} {x : Except ε α} {f g : α → Except ε β} (h : ∀ a, x = .ok a → f a = g a) :
    (x >>= f) = (x >>= g) := by
  cases x with
  | error _ => rfl
  | ok a => exact h a rfl

end Btcdeb
