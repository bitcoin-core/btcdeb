/- Little-endian byte strings: `leValue` and its two inverses, fixed-width `leFixed` and minimal `leBytes` (last byte
   non-zero); a few facts on `UInt8` and on testing a bit through a mask. -/
import Btcdeb.Basic.Bytes
namespace Btcdeb

theorem and_two_pow (x k : Nat) : x &&& 2 ^ k = if x.testBit k then 2 ^ k else 0 := by
  apply Nat.eq_of_testBit_eq
  intro i
  by_cases h : k = i
  · subst h; cases hb : x.testBit k <;> simp [hb]
  · cases x.testBit k <;> simp [h]

theorem and_two_pow_ne_zero (x k : Nat) : (x &&& 2 ^ k != 0) = x.testBit k := by
  rw [and_two_pow]
  cases x.testBit k <;> simp

theorem u8_ofNat_mod (n : Nat) : (UInt8.ofNat (n % 256)).toNat = n % 256 := by
  simp [UInt8.toNat_ofNat']

theorem u8_lt (b : UInt8) : b.toNat < 256 := UInt8.toNat_lt b

theorem u8_ofNat_toNat (b : UInt8) : UInt8.ofNat b.toNat = b := by
  simp

theorem u8_ext {a b : UInt8} (h : a.toNat = b.toNat) : a = b := UInt8.toNat_inj.mp h

@[simp] theorem leValue_nil : leValue [] = 0 := rfl
@[simp] theorem leValue_cons (b : UInt8) (r : Bytes) : leValue (b :: r) = b.toNat + 256 * leValue r := rfl

theorem leValue_append (ys zs : Bytes) :
    leValue (ys ++ zs) = leValue ys + 256 ^ ys.length * leValue zs := by
  induction ys with
  | nil => simp
  | cons y ys ih =>
    simp only [List.cons_append, leValue_cons, ih, List.length_cons, Nat.pow_succ]
    rw [Nat.mul_add, Nat.mul_comm (256 ^ ys.length) 256, Nat.mul_assoc]
    omega

theorem leValue_snoc (ys : Bytes) (a : UInt8) :
    leValue (ys ++ [a]) = leValue ys + 256 ^ ys.length * a.toNat := by
  rw [leValue_append]; simp

theorem leValue_lt (b : Bytes) : leValue b < 256 ^ b.length := by
  induction b with
  | nil => simp
  | cons x xs ih =>
    have := u8_lt x
    simp only [leValue_cons, List.length_cons, Nat.pow_succ]
    omega

theorem leFixed_length (k n : Nat) : (leFixed k n).length = k := by
  induction k generalizing n with
  | zero => rfl
  | succ k ih => simp [leFixed, ih]

theorem leFixed_one (n : Nat) : leFixed 1 n = [UInt8.ofNat n] := by
  simp [leFixed, UInt8.ofNat_mod_size']

theorem leValue_leFixed (k n : Nat) : leValue (leFixed k n) = n % 256 ^ k := by
  induction k generalizing n with
  | zero => simp [leFixed, Nat.mod_one]
  | succ k ih =>
    simp only [leFixed, leValue_cons, ih, u8_ofNat_mod, Nat.pow_succ]
    rw [Nat.mul_comm (256 ^ k) 256, Nat.mod_mul]

theorem leFixed_leValue (b : Bytes) : leFixed b.length (leValue b) = b := by
  induction b with
  | nil => rfl
  | cons x xs ih =>
    have hx := u8_lt x
    simp only [List.length_cons, leFixed, leValue_cons]
    have h1 : (x.toNat + 256 * leValue xs) % 256 = x.toNat := by omega
    have h2 : (x.toNat + 256 * leValue xs) / 256 = leValue xs := by omega
    rw [h1, h2, ih, u8_ofNat_toNat]

theorem leBytes_zero : leBytes 0 = [] := by
  rw [leBytes]; simp

theorem leBytes_pos {n : Nat} (h : n ≠ 0) :
    leBytes n = UInt8.ofNat (n % 256) :: leBytes (n / 256) := by
  rw [leBytes]; simp [h]

theorem leValue_leBytes (n : Nat) : leValue (leBytes n) = n := by
  induction n using Nat.strongRecOn with
  | _ n ih =>
    by_cases h : n = 0
    · subst h; simp [leBytes_zero]
    · rw [leBytes_pos h, leValue_cons, u8_ofNat_mod, ih (n / 256) (by omega)]
      omega

theorem leBytes_eq_nil_iff (n : Nat) : leBytes n = [] ↔ n = 0 := by
  constructor
  · intro h
    by_cases h0 : n = 0
    · exact h0
    · rw [leBytes_pos h0] at h; simp at h
  · intro h; subst h; exact leBytes_zero

theorem leBytes_last_ne_zero (n : Nat) (ys : Bytes) (a : UInt8) (h : leBytes n = ys ++ [a]) :
    a.toNat ≠ 0 := by
  induction n using Nat.strongRecOn generalizing ys with
  | _ n ih =>
    by_cases h0 : n = 0
    · subst h0; rw [leBytes_zero] at h; simp at h
    · rw [leBytes_pos h0] at h
      cases ys with
      | nil =>
        simp at h
        obtain ⟨h1, h2⟩ := h
        have hz : n / 256 = 0 := (leBytes_eq_nil_iff _).mp h2
        rw [← h1, u8_ofNat_mod]; omega
      | cons y ys =>
        simp at h
        exact ih (n / 256) (by omega) ys h.2

theorem leBytes_leValue_snoc (ys : Bytes) (a : UInt8) (ha : a.toNat ≠ 0) :
    leBytes (leValue (ys ++ [a])) = ys ++ [a] := by
  induction ys with
  | nil =>
    have hlt := u8_lt a
    simp only [List.nil_append, leValue_cons, leValue_nil]
    rw [leBytes_pos (by omega)]
    have h1 : (a.toNat + 256 * 0) % 256 = a.toNat := by omega
    have h2 : (a.toNat + 256 * 0) / 256 = 0 := by omega
    rw [h1, h2, leBytes_zero, u8_ofNat_toNat]
  | cons y ys ih =>
    have hlt := u8_lt y
    simp only [List.cons_append, leValue_cons]
    have hpos : leValue (ys ++ [a]) ≠ 0 := by
      rw [leValue_snoc]
      have : 0 < 256 ^ ys.length * a.toNat := Nat.mul_pos (Nat.pow_pos (by omega)) (by omega)
      omega
    rw [leBytes_pos (by omega)]
    have h1 : (y.toNat + 256 * leValue (ys ++ [a])) % 256 = y.toNat := by omega
    have h2 : (y.toNat + 256 * leValue (ys ++ [a])) / 256 = leValue (ys ++ [a]) := by omega
    rw [h1, h2, ih, u8_ofNat_toNat]

theorem leBytes_length_le (n k : Nat) : (leBytes n).length ≤ k ↔ n < 256 ^ k := by
  induction k generalizing n with
  | zero =>
    simp only [Nat.le_zero_eq, List.length_eq_zero_iff, leBytes_eq_nil_iff, Nat.pow_zero]
    omega
  | succ k ih =>
    by_cases h0 : n = 0
    · subst h0; simp [leBytes_zero, Nat.pow_pos]
    · rw [leBytes_pos h0, List.length_cons, Nat.add_le_add_iff_right, ih, Nat.pow_succ]
      omega

end Btcdeb
