/-
  No operation of the model ends abnormally (assertion failure, trap, undefined behaviour) — except the
  tapscript signature check of a session whose signature budget was never initialised
  (`configure_tx_txin` always initialises it).  Hoare-style, syntax-directed.

  The model has three places where an abnormal outcome is written down: the fall-through `assert(0)` of
  `stepExtended` (not reached from the opcode switch), the budget assertion of `evalChecksigTapscript`, and whatever
  the Schnorr checker of the context does.  So the opcode switch is walked once, for an arbitrary context and
  environment, under the assumption that `evalChecksig` does not end abnormally on that environment
  (`execOpcode_noabn_of`, `step_noabn_of`); what has to be known of the checker for that is said once in
  `evalChecksig_noabn_of`.
-/
import Btcdeb
import BtcdebProofs.Lemmas.Frame
namespace Btcdeb.Model
open Btcdeb

/-- `m` does not end abnormally.  A theorem `hna : NoAbn m` is a `∀` and is used by applying it:
    `hna k : m ≠ .error (.abnormal k)`. -/
def NoAbn {α} (m : M α) : Prop := ∀ k, m ≠ .error (.abnormal k)

theorem noabn_bind' {α β} (x : M α) (f : α → M β) (hx : NoAbn x) (hf : ∀ a, x = .ok a → NoAbn (f a)) : NoAbn (x >>= f) := by
  intro k h
  cases hxa : x with
  | error e =>
    rw [hxa] at h
    cases e with
    | abnormal k' => exact hx k' hxa
    | script _ => cases h
    | exc _ => cases h
  | ok a => rw [hxa] at h; exact hf a hxa k h
theorem noabn_bind {α β} (x : M α) (f : α → M β) (hx : NoAbn x) (hf : ∀ a, NoAbn (f a)) : NoAbn (x >>= f) :=
  noabn_bind' x f hx fun a _ => hf a
theorem noabn_fail {α} (x : ScriptError) : NoAbn (fail x : M α) := by intro k h; cases h
theorem noabn_pure {α} (a : α) : NoAbn (pure a : M α) := by intro k h; cases h
theorem noabn_ok {α} (a : α) : NoAbn (.ok a : M α) := by intro k h; cases h
theorem noabn_exc {α} (w : String) : NoAbn (.error (.exc w) : M α) := by intro k h; cases h
theorem noabn_ite {α} (c : Prop) [Decidable c] (a b : M α) (ha : NoAbn a) (hb : NoAbn b) : NoAbn (if c then a else b) := by
  split <;> assumption
theorem noabn_top (st : List Bytes) (i : Nat) : NoAbn (top st i) := by
  unfold top; intro k h; split at h
  · cases h
  · split at h <;> cases h
theorem noabn_pop (st : List Bytes) : NoAbn (pop st) := by
  unfold pop; intro k h; split at h <;> cases h
theorem noabn_num (v : Bytes) (rm : Bool) (n : Nat) : NoAbn (num v rm n) := by
  unfold num; intro k h; split at h <;> cases h
theorem noabn_sizeCheck (e : SEE) : NoAbn (sizeCheck e) :=
  noabn_ite _ _ _ (noabn_fail _) (noabn_pure _)

theorem noabn_checkSignatureEncoding (cx : Ctx) (sig : Bytes) (flags : Nat) : NoAbn (checkSignatureEncoding cx sig flags) := by
  unfold checkSignatureEncoding
  repeat' apply noabn_ite
  all_goals first | exact noabn_ok _ | exact noabn_fail _
theorem noabn_checkPubKeyEncoding (key : Bytes) (flags : Nat) (sv : SigVersion) : NoAbn (checkPubKeyEncoding key flags sv) := by
  unfold checkPubKeyEncoding
  repeat' apply noabn_ite
  all_goals first | exact noabn_ok _ | exact noabn_fail _

/-- Descent through a `do` block, by the head of the block: `fail`, `pure`, the stack primitives and the encoding
    checks never end abnormally; a conditional does not if neither branch does; a bind does not if neither the first
    action nor the continuation does.  What is left are the other actions of the block. -/
macro "noabn_descend" : tactic =>
  `(tactic| with_reducible repeat' first
    | exact noabn_fail _ | exact noabn_pure _ | exact noabn_top _ _ | exact noabn_pop _ | exact noabn_num _ _ _
    | exact noabn_sizeCheck _ | exact noabn_checkSignatureEncoding _ _ _ | exact noabn_checkPubKeyEncoding _ _ _
    | apply noabn_ite | (refine noabn_bind _ _ ?_ fun _ => ?_))

theorem stepExtended_noabn (e : SEE) (op : Opcode) (h : isDisabledOpcode op = true) : NoAbn (stepExtended e op) := by
  cases op
  case OP_CAT | OP_SUBSTR | OP_LEFT | OP_RIGHT | OP_INVERT | OP_AND | OP_OR | OP_XOR | OP_2MUL | OP_2DIV | OP_MUL | OP_DIV
      | OP_MOD | OP_LSHIFT | OP_RSHIFT => dsimp only [stepExtended, M.fail_bind]; noabn_descend
  all_goals cases h

/-- the signature checker never ends abnormally, whatever it is asked (true of `BaseSignatureChecker`; the transaction
    checker asserts on some calls, so sessions with `--tx` go through `CheckerNoAbnOn` of Lemmas/NoAbnormalOn.lean) -/
def CheckerNoAbn (cx : Ctx) : Prop := ∀ sig key sv ed, NoAbn (cx.checkSchnorr sig key sv ed)

theorem evalChecksigPreTapscript_noabn (cx : Ctx) (e : SEE) (sig key : Bytes) : NoAbn (evalChecksigPreTapscript cx e sig key) := by
  simp only [evalChecksigPreTapscript, M.fail_bind]
  noabn_descend

/-- `EvalChecksigTapscript` asserts that the budget is initialised, and hands the checker execution data that differ
    from the environment's in the budget at most -/
theorem evalChecksigTapscript_noabn_of (cx : Ctx) (e : SEE) (sig key : Bytes) (hw : e.execdata.weightInit = true)
    (hchk : ∀ ed, e.execdata.Moved ed → NoAbn (cx.checkSchnorr sig key e.sigversion ed)) :
    NoAbn (evalChecksigTapscript cx e sig key) := by
  have hw' : (!e.execdata.weightInit) = false := by rw [hw]; rfl
  simp only [evalChecksigTapscript, M.fail_bind, pure_bind, hw', Bool.false_eq_true, if_false]
  noabn_descend
  all_goals exact hchk _ ⟨_, _, rfl⟩

theorem evalChecksig_noabn_of (cx : Ctx) (e : SEE) (sig key : Bytes)
    (hw : e.sigversion = .TAPSCRIPT → e.execdata.weightInit = true)
    (hchk : e.sigversion = .TAPROOT ∨ e.sigversion = .TAPSCRIPT → ∀ ed, e.execdata.Moved ed →
      NoAbn (cx.checkSchnorr sig key e.sigversion ed)) :
    NoAbn (evalChecksig cx e sig key) := by
  unfold evalChecksig
  refine noabn_ite _ _ _ (noabn_pure _) ?_
  split
  · rename_i hsv
    have := hchk (.inl hsv) _ (.refl _)
    rw [hsv] at this
    intro k h
    split at h
    · cases h
    · cases h; exact this k ‹_›
  · exact noabn_bind _ _ (evalChecksigPreTapscript_noabn cx e sig key) fun _ => noabn_pure _
  · exact noabn_bind _ _ (evalChecksigPreTapscript_noabn cx e sig key) fun _ => noabn_pure _
  · rename_i hsv
    exact evalChecksigTapscript_noabn_of cx e sig key (hw hsv) (hchk (.inr hsv))

theorem evalChecksig_noabn (cx : Ctx) (hcx : CheckerNoAbn cx) (e : SEE) (sig key : Bytes)
    (hw : e.sigversion = .TAPSCRIPT → e.execdata.weightInit = true) : NoAbn (evalChecksig cx e sig key) :=
  evalChecksig_noabn_of cx e sig key hw fun _ ed _ => hcx sig key _ ed

theorem multisigLoop_noabn (cx : Ctx) (e : SEE) (code : Bytes) (st : List Bytes) :
    ∀ (nSigs nKeys isig ikey : Nat), NoAbn (multisigLoop cx e code st nSigs nKeys isig ikey) := by
  intro nSigs nKeys
  induction nKeys generalizing nSigs with
  | zero => intro isig ikey; cases nSigs <;> exact noabn_pure _
  | succ n ih =>
    intro isig ikey
    cases nSigs with
    | zero => exact noabn_pure _
    | succ m =>
      simp only [multisigLoop]
      noabn_descend
      all_goals exact ih _ _ _

theorem noabn_forIn {α β} (l : List α) (init : β) (f : α → β → M (ForInStep β)) (hf : ∀ a b, NoAbn (f a b)) :
    NoAbn (forIn l init f) := by
  induction l generalizing init with
  | nil => exact noabn_pure _
  | cons x xs ih =>
    simp only [List.forIn_cons]
    refine noabn_bind _ _ (hf _ _) fun r => ?_
    cases r with
    | done b => exact noabn_pure _
    | yield b => exact ih b

theorem execOpcode_noabn_of (cx : Ctx) (e : SEE) (op : Opcode) (fExec : Bool) (pc : Bytes)
    (hsig : ∀ sig key, NoAbn (evalChecksig cx e sig key)) : NoAbn (execOpcode cx e op fExec pc) := by
  cases op <;> dsimp only [execOpcode, M.fail_bind]
  case OP_CAT | OP_SUBSTR | OP_LEFT | OP_RIGHT | OP_INVERT | OP_AND | OP_OR | OP_XOR | OP_2MUL | OP_2DIV | OP_MUL | OP_DIV
      | OP_MOD | OP_LSHIFT | OP_RSHIFT => exact stepExtended_noabn e _ rfl
  case OP_CHECKSIG | OP_CHECKSIGVERIFY | OP_CHECKSIGADD => noabn_descend; all_goals exact hsig _ _
  case OP_CHECKMULTISIG | OP_CHECKMULTISIGVERIFY =>
    noabn_descend
    all_goals first
      | exact multisigLoop_noabn _ _ _ _ _ _ _ _
      | (rw [Std.Legacy.Range.forIn_eq_forIn_range']; refine noabn_forIn _ _ _ fun _ _ => ?_; noabn_descend)
  -- every other opcode is built from `fail`, `pure`, `top`, `pop`, `num` and `sizeCheck` alone
  all_goals noabn_descend

theorem countOp_noabn (e : SEE) (n : Nat) : NoAbn (countOp e n) := by
  unfold countOp; noabn_descend

theorem step_noabn_of (cx : Ctx) (e : SEE) (pc : Bytes)
    (hsig : ∀ n sig key, NoAbn (evalChecksig cx { e with nOpCount := n } sig key)) : NoAbn (step cx e pc) := by
  unfold step
  split
  · exact noabn_fail _
  · refine noabn_ite _ _ _ (noabn_fail _) (noabn_bind' _ _ (countOp_noabn e _) fun e1 h1 => ?_)
    obtain ⟨n, rfl⟩ := Refine.countOp_ok_cases h1
    noabn_descend
    exact execOpcode_noabn_of cx _ _ _ _ (hsig n)

/-- No step ends abnormally: `StepScript` returns true, returns a script error, or throws a C++ exception
    that the callers catch — it never asserts, traps or runs into undefined behaviour — for every
    script, stack, flag set and signature version, provided the signature checker never ends abnormally
    (`CheckerNoAbn`) and the tapscript signature budget was initialised (as `configure_tx_txin` does for every
    tapscript session) -/
theorem step_noabn (cx : Ctx) (hcx : CheckerNoAbn cx) (e : SEE) (pc : Bytes)
    (hw : e.sigversion = .TAPSCRIPT → e.execdata.weightInit = true) : NoAbn (step cx e pc) :=
  step_noabn_of cx e pc fun _ sig key => evalChecksig_noabn cx hcx _ sig key hw

end Btcdeb.Model
