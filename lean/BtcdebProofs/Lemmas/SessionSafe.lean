/-
  Invariants of a debugging session.  The first excludes every abnormal outcome of `StepScript(InterpreterEnv&)`
  (`stepSession_noabn` needs only its `EdReady` part); the second shows that the guard on an empty saved stack at the
  P2SH hand-over (`SCRIPT_ERR_INVALID_STACK_OPERATION` since /repo 16ab03e, `assert(!stack.empty())` before) is not
  reached by `step` / `rewind` alone (`IEnv.Safe.saved_nonempty`):

  * `IEnv.Ready`: the execution data is initialised as the signature version requires (now and in every history
    entry, since `rewind` restores it from there), and the condition stack is well-formed;
  * `IEnv.P2shOk`: while a P2SH-pattern script is being run with an empty saved stack, the session sits at the
    start of that script with an empty stack — where the first operation, `OP_HASH160`, fails.  So the end of
    that script, where the guard stands, is never reached.

  Both are established by `setupEnvironment` and kept by steps and rewinds; `exec` keeps the first only.
-/
import Btcdeb
import BtcdebProofs.Lemmas.NoAbnormalOn
import BtcdebProofs.Lemmas.CondWf
import BtcdebProofs.Lemmas.Session
import BtcdebProofs.Lemmas.Instr
namespace Btcdeb.Model
open Btcdeb

theorem execOpcode_hash160_on_empty (cx : Ctx) (e : SEE) (fExec : Bool) (pc : Bytes) (hst : e.stack = []) :
    execOpcode cx e .OP_HASH160 fExec pc = fail .INVALID_STACK_OPERATION := by
  dsimp only [execOpcode, M.fail_bind]
  rw [hst]
  rfl

theorem step_hash160_on_empty (cx : Ctx) (e : SEE) (rest : Bytes) (hst : e.stack = []) (hc : e.cond.allTrue = true)
    (r : SEE × Bytes) : step cx e (0xa9 :: rest) ≠ .ok r := by
  refine fun h => (?_ : Post (step cx e (0xa9 :: rest)) fun _ => False) r h
  have hg : getOp (0xa9 :: rest) = some { opcode := 0xa9, data := [], rest := rest } := Refine.getOp_op 0xa9 rest (by decide)
  unfold step
  simp only [hg, hc, show Opcode.ofNat 169 = .OP_HASH160 from by decide]
  refine post_ite _ _ _ _ (post_fail _ _) (post_bind_ok fun e1 h1 => ?_)
  have hs1 : e1.stack = [] := by obtain ⟨_, rfl⟩ := Refine.countOp_ok_cases h1; exact hst
  refine post_ite _ _ _ _ (post_fail _ _) (post_ite _ _ _ _ (post_fail _ _) ?_)
  have hpush : ¬ (true && decide (169 ≤ Op.OP_PUSHDATA4)) = true := by decide
  rw [if_neg hpush, if_pos (Bool.true_or _), execOpcode_hash160_on_empty cx e1 _ _ hs1]
  exact post_fail _ _

structure SEE.Ready (e : SEE) : Prop where
  ed : EdReady e.sigversion e.execdata
  cw : e.cond.Wf

/-- `SEE.Ready` now, and for what `rewind` would restore from each history entry -/
structure IEnv.Ready (e : IEnv) : Prop where
  see : e.see.Ready
  hist : ∀ s ∈ e.history, EdReady e.see.sigversion s.execdata ∧ s.cond.Wf

/-- a P2SH-pattern script whose saved stack is empty has not been started, and cannot be -/
def IEnv.P2shOk (e : IEnv) : Prop :=
  e.isP2sh = true → e.p2shStack = [] →
    atStart e = true ∧ e.see.stack = [] ∧ e.see.cond.empty = true ∧ ∃ rest, e.pc = 0xa9 :: rest

structure IEnv.Safe (e : IEnv) : Prop where
  ready : e.Ready
  p2sh : e.P2shOk

theorem SEE.Ready.of_changes {e e' : SEE} {pc : Bytes} (hr : e.Ready) (hc : Changes e e' pc) : e'.Ready :=
  ⟨hc.sigversion ▸ hr.ed.of_moved hc.execdata, hc.cond.wf hr.cw⟩

theorem setupEnvironment_safe {stack : List Bytes} {script : Bytes} {flags : Nat} {sv : SigVersion} {successor : Bytes}
    {allowDisabled : Bool} {execdata : ExecData} {tce : Option Tce} {pm : List (Bytes × Bytes)} {pk : List Bytes} {e0 : IEnv}
    (h : setupEnvironment stack script flags sv successor allowDisabled execdata tce pm pk = .ok e0)
    (hed : EdReady sv execdata) : e0.Safe := by
  obtain ⟨_, _, _, rfl⟩ := Refine.setupEnvironment_ok h
  refine ⟨⟨⟨hed, CondStack.wf_default⟩, fun s hs => by cases hs⟩, fun hp hst => ?_⟩
  -- a P2SH-pattern script saved the initial stack: if that is empty, so is the current one
  simp only at hp hst
  rw [if_pos hp] at hst
  obtain ⟨_, hrest, _⟩ := p2shPattern_form (Bool.and_eq_true_iff.mp hp).2
  exact ⟨beq_self_eq_true _, hst, rfl, _, hrest⟩

/-- The interpreter step is the only possible source of an abnormal outcome: the P2SH hand-over answers an empty saved
    stack with `SCRIPT_ERR_INVALID_STACK_OPERATION` (/repo 16ab03e). -/
theorem stepSession_noabn (cx : Ctx) (hcx : CheckerNoAbnOn cx) (tc : TapCtx) (e : IEnv)
    (hed : EdReady e.see.sigversion e.see.execdata) : NoAbn (stepSession cx tc e) := by
  unfold stepSession
  split
  · split
    · exact noabn_fail _
    · exact noabn_pure _
    · exact noabn_pure _
  · refine noabn_ite _ _ _ (noabn_bind _ _ (step_noabn_on cx hcx e.see e.pc hed) fun _ => noabn_pure _) ?_
    -- the hand-overs: `fail` and `pure` under conditionals, and the two `match`es of the P2SH hand-over (top of the
    -- stack, then top of the saved stack)
    noabn_descend
    split <;> noabn_descend
    split <;> noabn_descend

theorem IEnv.Safe.saved_nonempty {e : IEnv} (hs : e.Safe) (hpc : e.pc = []) (hp : e.isP2sh = true) : e.p2shStack ≠ [] := by
  intro hst
  obtain ⟨_, _, _, rest, hrest⟩ := hs.p2sh hp hst
  rw [hpc] at hrest; cases hrest

theorem stepSession_ready (cx : Ctx) (tc : TapCtx) (ep e : IEnv) (hr : ep.Ready) (hs : stepSession cx tc ep = .ok e) :
    e.Ready := by
  cases stepSession_kind hs with
  | merkle => exact ⟨hr.see, hr.hist⟩
  | tweak =>
    -- the leaf hash is set
    refine ⟨⟨⟨hr.see.ed.1, fun hsv => ?_⟩, hr.see.cw⟩, hr.hist⟩
    obtain ⟨a, _, c, d⟩ := hr.see.ed.2 hsv
    exact ⟨a, rfl, c, d⟩
  | op g see' _ _ _ _ hc =>
    -- the old state goes to the history
    have hr' := hr.see.of_changes hc
    have hsv := hc.sigversion
    refine ⟨⟨hr'.ed, hr'.cw⟩, fun s hs => ?_⟩
    rcases List.mem_cons.mp hs with rfl | hs
    · exact ⟨hsv ▸ hr.see.ed, hr.see.cw⟩
    · exact hsv ▸ hr.hist s hs
  | redeem | successor | finish => exact ⟨⟨hr.see.ed, hr.see.cw⟩, hr.hist⟩

theorem stepSession_p2shOk (cx : Ctx) (tc : TapCtx) (ep e : IEnv) (hr : ep.Ready) (hp : ep.P2shOk)
    (hs : stepSession cx tc ep = .ok e) : e.P2shOk := by
  cases stepSession_kind hs with
  | merkle | tweak => exact hp
  | op g see' _ _ _ hst =>
    -- impossible while a P2SH script with an empty saved stack is pending
    intro h1 h2
    obtain ⟨_, hstk, hce, rest, hrest⟩ := hp h1 h2
    rw [hrest] at hst
    exact absurd hst (step_hash160_on_empty cx ep.see rest hstk (CondStack.allTrue_of_empty hr.see.cw hce) _)
  | redeem => exact nofun
  | successor _ _ hce =>
    -- a scriptPubKey of the P2SH pattern starts with `OP_HASH160`, and the stack saved is the current one
    intro h1 h2
    simp only at h1 h2
    rw [if_pos h1] at h2
    obtain ⟨_, hrest, _⟩ := p2shPattern_form h1
    exact ⟨beq_self_eq_true _, h2, hce, _, hrest⟩
  | finish _ _ hisp => exact fun h1 => absurd (hisp ▸ h1) Bool.false_ne_true

theorem stepSession_safe (cx : Ctx) (tc : TapCtx) (ep e : IEnv) (hsafe : ep.Safe) (hs : stepSession cx tc ep = .ok e) :
    e.Safe :=
  ⟨stepSession_ready cx tc ep e hsafe.ready hs, stepSession_p2shOk cx tc ep e hsafe.ready hsafe.p2sh hs⟩

theorem instRewind_ready (ep e : IEnv) (hr : ep.Ready) (h : instRewind ep = some e) : e.Ready := by
  unfold instRewind at h
  split at h
  · cases h
  · split at h
    · cases h; exact ⟨hr.see, hr.hist⟩
    · split at h
      · cases h
      · rename_i s rest hh
        cases h
        have hs := hr.hist s (by rw [hh]; simp)
        refine ⟨⟨hs.1, hs.2⟩, ?_⟩
        intro s' hs'
        exact hr.hist s' (by rw [hh]; simp [hs'])

theorem instRewind_p2shOk (ep e : IEnv) (hp : ep.P2shOk) (h : instRewind ep = some e) : e.P2shOk := by
  unfold instRewind at h
  split at h
  · cases h
  · rename_i hat
    split at h
    · cases h; intro h1 h2; exact hp h1 h2
    · split at h
      · cases h
      · cases h
        intro h1 h2
        -- the rewind was accepted, so `ep` was not at the start of its script, where `P2shOk` has a pending state
        exact absurd (hp h1 h2).1 hat

theorem instRewind_safe (ep e : IEnv) (hsafe : ep.Safe) (h : instRewind ep = some e) : e.Safe :=
  ⟨instRewind_ready ep e hsafe.ready h, instRewind_p2shOk ep e hsafe.p2sh h⟩

theorem evalRun_ready (cx : Ctx) (hcx : CheckerNoAbnOn cx) (mainPc : Bytes) :
    ∀ (n : Nat) (e : SEE) (it : Bytes), e.Ready →
      (evalRun cx mainPc n e it).1.Ready ∧ (evalRun cx mainPc n e it).1.sigversion = e.sigversion ∧
        ∀ k, (evalRun cx mainPc n e it).2 ≠ some (.abnormal k) := by
  intro n
  induction n with
  | zero => intro e it hr; simp only [evalRun]; exact ⟨hr, by trivial, by intro k h; cases h⟩
  | succ n ih =>
    intro e it hr
    simp only [evalRun]
    split
    · exact ⟨hr, by trivial, by intro k h; cases h⟩
    · cases hst : step cx e it with
      | error err =>
        simp only
        refine ⟨hr, by trivial, ?_⟩
        intro k h
        cases h
        exact step_noabn_on cx hcx e it hr.ed k hst
      | ok r =>
        obtain ⟨e', it'⟩ := r
        simp only
        have hc := step_changes cx e it _ hst
        have hr' := hr.of_changes hc
        have hsv : e'.sigversion = e.sigversion := hc.sigversion
        -- `isSep`: an executed OP_CODESEPARATOR resets the script code to `mainPc`, which `Ready` does not read
        split
        all_goals
          split
          · have := ih { e' with pbegincodehash := mainPc } it' ⟨hr'.ed, hr'.cw⟩
            exact ⟨this.1, by rw [this.2.1]; exact hsv, this.2.2⟩
          · have := ih e' it' hr'
            exact ⟨this.1, by rw [this.2.1]; exact hsv, this.2.2⟩

theorem instEval_ready (cx : Ctx) (hcx : CheckerNoAbnOn cx) (e e' : IEnv) (args : List Bytes) (err : Option StepErr)
    (hr : e.Ready) (h : instEval cx e args = some (e', err)) :
    e'.Ready ∧ ∀ k, err ≠ some (.abnormal k) := by
  unfold instEval at h
  split at h
  · cases h
  · split at h
    · cases h
    · rename_i s hs
      simp only [Option.some.injEq, Prod.mk.injEq] at h
      obtain ⟨h1, h2⟩ := h
      have := evalRun_ready cx hcx e.pc (s.length + 1) e.see s hr.see
      subst h1 h2
      refine ⟨⟨this.1, ?_⟩, this.2.2⟩
      intro s' hs'
      simp only at hs' ⊢
      rw [this.2.1]
      exact hr.hist s' hs'

theorem continueScript_noabn (cx : Ctx) (hcx : CheckerNoAbnOn cx) (tc : TapCtx) :
    ∀ (fuel : Nat) (e : IEnv), e.Ready → NoAbn (continueScript cx tc fuel e)
  | 0, _, _ => noabn_pure _
  | n + 1, e, hr => by
    rw [continueScript]
    exact noabn_ite _ _ _ (noabn_pure _) (noabn_bind' _ _ (stepSession_noabn cx hcx tc e hr.see.ed) fun e1 h1 =>
      continueScript_noabn cx hcx tc n e1 (stepSession_ready cx tc e e1 hr h1))

theorem IEnv.Ready.never_abnormal {cx : Ctx} (hcx : CheckerNoAbnOn cx) (tc : TapCtx) {e : IEnv} (hr : e.Ready) :
    NoAbn (stepSession cx tc e) ∧ NoAbn (instStep cx tc e) ∧
    (∀ args e' err, instEval cx e args = some (e', err) → ∀ k, err ≠ some (.abnormal k)) ∧
    ∀ fuel, NoAbn (continueScript cx tc fuel e) :=
  have hstep := stepSession_noabn cx hcx tc e hr.see.ed
  ⟨hstep, noabn_ite _ _ _ (noabn_fail .OK) hstep, fun args e' err h => (instEval_ready cx hcx e e' args err hr h).2,
    fun fuel => continueScript_noabn cx hcx tc fuel e hr⟩

end Btcdeb.Model
