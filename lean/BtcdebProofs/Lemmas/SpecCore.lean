/-
  For legacy and segwit-v0 scripts the specification's execution reads and writes only the "core" of its
  state (stacks, conditional nesting, operation count, script-code start): the opcode position, the code
  separator position and the tapscript signature budget are carried along but never looked at.
  (Needed because the debugger keeps counting opcode positions across scriptSig / scriptPubKey / redeem
  script, while validation starts every script afresh.)
  For that the evaluation of a script is needed from any opcode position: `evalFrom`, the body of `Spec.evalScript` after its
  size check (`evalScript_result`), through which the other files read the specification's evaluation.
-/
import Btcdeb
import BtcdebProofs.Lemmas.Except
namespace Btcdeb.Proofs.SpecCore
open Btcdeb

/-- the part of the specification state that legacy and segwit-v0 execution reads -/
def Core (st : Spec.St) := (st.stack, st.alt, st.cond, st.opCount, st.codeFrom)

def ResCore (r r' : Spec.R Spec.St) : Prop :=
  match r, r' with
  | .ok s, .ok s' => Core s = Core s'
  | .error x, .error y => x = y
  | _, _ => False

theorem resCore_checkSize {s s' : Spec.St} (h : Core s = Core s') : ResCore (Spec.checkSize s) (Spec.checkSize s') := by
  simp only [Core, Prod.mk.injEq] at h
  unfold Spec.checkSize
  rw [h.1, h.2.1]
  split
  · rfl
  · simp [ResCore, Core, h]

theorem resCore_error (x : ScriptError) : ResCore (.error x) (.error x) := rfl
theorem resCore_ok {s s' : Spec.St} (h : Core s = Core s') : ResCore (.ok s) (.ok s') := h

theorem resCore_bind {α} (x : Spec.R α) (f f' : α → Spec.R Spec.St) (h : ∀ a, ResCore (f a) (f' a)) :
    ResCore (x >>= f) (x >>= f') := by
  cases x with
  | error e => rfl
  | ok a => exact h a

theorem resCore_bind2 {x x' : Spec.R Spec.St} {f f' : Spec.St → Spec.R Spec.St} (hx : ResCore x x')
    (h : ∀ s s', Core s = Core s' → ResCore (f s) (f' s')) : ResCore (x >>= f) (x' >>= f') := by
  cases x <;> cases x'
  · exact hx
  · exact hx.elim
  · exact hx.elim
  · exact h _ _ hx

theorem rOk_bind {α β} (a : α) (f : α → Spec.R β) : ((Except.ok a : Spec.R α) >>= f) = f a := rfl
theorem rErr_bind {α β} (x : ScriptError) (f : α → Spec.R β) : ((Except.error x : Spec.R α) >>= f) = .error x := rfl

theorem resCore_ite (c : Prop) [Decidable c] (a b a' b' : Spec.R Spec.St) (h1 : c → ResCore a a') (h2 : ¬c → ResCore b b') :
    ResCore (if c then a else b) (if c then a' else b') := by
  split
  · exact h1 ‹_›
  · exact h2 ‹_›

/-- Both sides of a `ResCore` goal are the same program run on two states with the same core.  Walk down both at
    once: a leaf is an error or a result on states with the same core; a conditional, a bind or a `match` whose
    condition, first action or scrutinee is the same on both sides is entered.  (`Spec.checkSize` is irreducible
    where the walk is used, so that a leaf lemma that does not apply fails at once.) -/
macro "core_walk" : tactic => `(tactic| repeat' first
  | (apply resCore_bind; intro _)
  | (apply resCore_ite <;> intro _)
  | exact resCore_error _
  | exact resCore_checkSize rfl
  | exact resCore_ok rfl
  | split)

attribute [local irreducible] Spec.checkSize

/-- a signature check under BASE / WITNESS_V0 reads the script-code start only, and every path of `Spec.checkSig`
    ends in an error or hands the state it was given on unchanged (`h` then relates what follows) -/
theorem resCore_checkSig (cfg : Spec.Cfg) (hsv : cfg.sigversion = .BASE ∨ cfg.sigversion = .WITNESS_V0)
    (st st' : Spec.St) (hcf : st'.codeFrom = st.codeFrom) (sig key : Bytes) (f f' : Bool × Spec.St → Spec.R Spec.St)
    (h : ∀ ok, ResCore (f (ok, st)) (f' (ok, st'))) :
    ResCore (Spec.checkSig cfg st sig key >>= f) (Spec.checkSig cfg st' sig key >>= f') := by
  unfold Spec.checkSig
  rw [hcf]
  by_cases hm : Spec.mockHit cfg sig key = true
  · rw [if_pos hm, if_pos hm]
    exact h true
  · rw [if_neg hm, if_neg hm]
    have hB : (SigVersion.BASE == SigVersion.BASE) = true := rfl
    have hW : ¬(SigVersion.WITNESS_V0 == SigVersion.BASE) = true := by decide
    -- both versions take the first arm of the `match`; they differ in the script code that is signed
    rcases hsv with h1 | h1 <;> rw [h1] <;> dsimp only
    case' inl =>
      -- BASE: the code without the signature's push, or SIG_FINDANDDELETE
      rw [if_pos hB, if_pos hB]
      split
      · exact resCore_error _
    case' inr => rw [if_neg hW, if_neg hW]
    -- the rest is the same for any script code: two encoding checks, then NULLFAIL or the oracle's answer with the state
    all_goals
      simp only [pure_bind, bind_assoc]
      apply resCore_bind; intro _
      apply resCore_bind; intro _
      split
      · exact resCore_error _
      · exact h _

theorem resCore_execMultisig (cfg : Spec.Cfg) (rm verify : Bool)
    (s al : List Bytes) (c : List Bool) (o : Nat) (cf : Bytes) (a a' : Nat) (w w' : Int) (wi wi' : Bool) :
    ResCore (Spec.execMultisig cfg rm verify ⟨s, al, c, o, cf, a, w, wi⟩)
      (Spec.execMultisig cfg rm verify ⟨s, al, c, o, cf, a', w', wi'⟩) := by
  unfold Spec.execMultisig
  simp only [Btcdeb.error_bind]
  core_walk

/-- every arm of `Spec.execExtended` decodes numbers from stack elements, tests them, and ends in an error or in
    the given state with a new stack -/
theorem resCore_execExtended (rm : Bool) (op : Opcode)
    (s al : List Bytes) (c : List Bool) (o : Nat) (cf : Bytes) (a a' : Nat) (w w' : Int) (wi wi' : Bool) :
    ResCore (Spec.execExtended rm op ⟨s, al, c, o, cf, a, w, wi⟩)
      (Spec.execExtended rm op ⟨s, al, c, o, cf, a', w', wi'⟩) := by
  unfold Spec.execExtended
  simp only [Btcdeb.error_bind]
  core_walk

attribute [local irreducible] Spec.execMultisig Spec.execExtended Spec.checkSig in
/-- of the opcode position only OP_CODESEPARATOR takes note, in a field outside the core -/
theorem resCore_execOp (cfg : Spec.Cfg) (hsv : cfg.sigversion = .BASE ∨ cfg.sigversion = .WITNESS_V0)
    (op : Opcode) (ex : Bool) (after : Bytes) (pos pos' : Nat) (st st' : Spec.St) (h : Core st = Core st') :
    ResCore (Spec.execOp cfg op ex after pos st) (Spec.execOp cfg op ex after pos' st') := by
  obtain ⟨s, al, c, o, cf, a, w, wi⟩ := st
  obtain ⟨s', al', c', o', cf', a', w', wi'⟩ := st'
  simp only [Core, Prod.mk.injEq] at h
  obtain ⟨rfl, rfl, rfl, rfl, rfl⟩ := h
  unfold Spec.execOp
  simp only [Btcdeb.error_bind]
  -- the walk stops at the operations that have lemmas of their own
  core_walk
  all_goals first
    | exact resCore_execMultisig _ _ _ _ _ _ _ _ _ _ _ _ _ _
    | exact resCore_execExtended _ _ _ _ _ _ _ _ _ _ _ _ _
    | (apply resCore_checkSig _ hsv _ _ ?_ <;> first | exact rfl | (intro _; dsimp only; core_walk))

theorem resCore_countOp (cfg : Spec.Cfg) (opcode : Nat) (st st' : Spec.St) (h : Core st = Core st') :
    ResCore (Spec.countOp cfg opcode st) (Spec.countOp cfg opcode st') := by
  have h' := h
  simp only [Core, Prod.mk.injEq] at h'
  unfold Spec.countOp
  rw [h'.2.2.2.1]
  core_walk
  · apply resCore_ok; simp [Core, h']
  · exact resCore_ok h

theorem resCore_execInstr (cfg : Spec.Cfg) (hsv : cfg.sigversion = .BASE ∨ cfg.sigversion = .WITNESS_V0)
    (i : Spec.Instr) (after : Bytes) (pos pos' : Nat) (st st' : Spec.St) (h : Core st = Core st') :
    ResCore (Spec.execInstr cfg i after pos st) (Spec.execInstr cfg i after pos' st') := by
  have hc : st.cond = st'.cond := congrArg (·.2.2.1) h
  unfold Spec.execInstr
  simp only
  rw [hc]
  apply resCore_ite <;> intro _
  · exact resCore_error _
  · refine resCore_bind2 (resCore_countOp cfg i.opcode st st' h) fun s s' hs => ?_
    have hs' : s.stack = s'.stack := congrArg (·.1) hs
    apply resCore_ite <;> intro _
    · exact resCore_error _
    · apply resCore_ite <;> intro _
      · exact resCore_error _
      · apply resCore_ite <;> intro _
        · apply resCore_ite <;> intro _
          · exact resCore_error _
          · exact resCore_checkSize (by simpa [Core, hs'] using hs)
        · apply resCore_ite <;> intro _
          · exact resCore_execOp cfg hsv _ _ _ _ _ _ _ hs
          · exact resCore_checkSize hs

theorem evalInstrs_cons (cfg : Spec.Cfg) (i : Spec.Instr) (after : Bytes) (rest : List (Spec.Instr × Bytes)) (pos : Nat)
    (st : Spec.St) :
    (Spec.evalInstrs cfg ((i, after) :: rest) pos st).2 =
      Spec.execInstr cfg i after pos st >>= fun st' => (Spec.evalInstrs cfg rest (pos + 1) st').2 := by
  simp only [Spec.evalInstrs]
  cases Spec.execInstr cfg i after pos st <;> rfl

theorem resCore_evalInstrs (cfg : Spec.Cfg) (hsv : cfg.sigversion = .BASE ∨ cfg.sigversion = .WITNESS_V0) :
    ∀ (l : List (Spec.Instr × Bytes)) (pos pos' : Nat) (st st' : Spec.St), Core st = Core st' →
      ResCore (Spec.evalInstrs cfg l pos st).2 (Spec.evalInstrs cfg l pos' st').2
  | [], _, _, _, _, h => h
  | (i, after) :: rest, pos, pos', st, st', h => by
    rw [evalInstrs_cons, evalInstrs_cons]
    exact resCore_bind2 (resCore_execInstr cfg hsv i after pos pos' st st' h)
      fun s s' hs => resCore_evalInstrs cfg hsv rest (pos + 1) (pos' + 1) s s' hs

/-- the specification's evaluation of a script from a given opcode position and state (the body of
    `Spec.evalScript` after the size check) -/
def evalFrom (cfg : Spec.Cfg) (script : Bytes) (pos : Nat) (st : Spec.St) : Spec.R Spec.St :=
  let d := Spec.decodePrefix script.length script
  match (Spec.evalInstrs cfg d.1 pos st).2 with
  | .error e => .error e
  | .ok st' =>
    if !d.2 then .error .BAD_OPCODE
    else if !st'.cond.isEmpty then .error .UNBALANCED_CONDITIONAL
    else .ok st'

/-- the form its users need; `evalFrom` itself keeps the `match` of `Spec.evalScript`, whose body it is -/
theorem evalFrom_eq_bind (cfg : Spec.Cfg) (script : Bytes) (pos : Nat) (st : Spec.St) :
    evalFrom cfg script pos st =
      (Spec.evalInstrs cfg (Spec.decodePrefix script.length script).1 pos st).2 >>= fun st' =>
        if !(Spec.decodePrefix script.length script).2 then .error .BAD_OPCODE
        else if !st'.cond.isEmpty then .error .UNBALANCED_CONDITIONAL
        else .ok st' := by
  unfold evalFrom
  simp only
  cases (Spec.evalInstrs cfg (Spec.decodePrefix script.length script).1 pos st).2 <;> rfl

theorem evalScript_result (cfg : Spec.Cfg) (script : Bytes) (st0 : Spec.St) :
    (Spec.evalScript cfg script st0).result =
      if (cfg.sigversion == .BASE || cfg.sigversion == .WITNESS_V0) && script.length > Spec.maxScriptSize then .error .SCRIPT_SIZE
      else evalFrom cfg script 0 { st0 with codeFrom := script } := by
  unfold Spec.evalScript evalFrom
  split
  · rfl
  · simp only
    cases (Spec.evalInstrs cfg (Spec.decodePrefix script.length script).1 0 { st0 with codeFrom := script }).2 with
    | error e => rfl
    | ok st' =>
      simp only
      split
      · rfl
      · split <;> rfl

theorem evalFrom_ok {cfg : Spec.Cfg} {script : Bytes} {pos : Nat} {st st' : Spec.St} (h : evalFrom cfg script pos st = .ok st') :
    (Spec.decodePrefix script.length script).2 = true ∧
    (Spec.evalInstrs cfg (Spec.decodePrefix script.length script).1 pos st).2 = .ok st' ∧ st'.cond = [] := by
  rw [evalFrom_eq_bind] at h
  obtain ⟨s1, hx, h⟩ := bind_ok h
  by_cases hd : (!(Spec.decodePrefix script.length script).2) = true
  · rw [if_pos hd] at h; cases h
  rw [if_neg hd] at h
  by_cases hc : (!s1.cond.isEmpty) = true
  · rw [if_pos hc] at h; cases h
  rw [if_neg hc] at h
  cases h
  exact ⟨by simpa using hd, hx, by simpa using hc⟩

theorem evalScript_ok {cfg : Spec.Cfg} {script : Bytes} {st0 st' : Spec.St}
    (h : (Spec.evalScript cfg script st0).result = .ok st') :
    ((cfg.sigversion = .BASE ∨ cfg.sigversion = .WITNESS_V0) → script.length ≤ Spec.maxScriptSize) ∧
    (Spec.decodePrefix script.length script).2 = true ∧
    (Spec.evalInstrs cfg (Spec.decodePrefix script.length script).1 0 { st0 with codeFrom := script }).2 = .ok st' ∧
    st'.cond = [] := by
  rw [evalScript_result] at h
  by_cases hsz : ((cfg.sigversion == .BASE || cfg.sigversion == .WITNESS_V0) && decide (script.length > Spec.maxScriptSize)) = true
  · rw [if_pos hsz] at h; cases h
  rw [if_neg hsz] at h
  refine ⟨fun hv => ?_, evalFrom_ok h⟩
  simp only [Bool.and_eq_true, Bool.or_eq_true, beq_iff_eq, decide_eq_true_eq, not_and] at hsz
  exact Nat.le_of_not_gt (hsz hv)

theorem resCore_refl (r : Spec.R Spec.St) : ResCore r r := by
  cases r <;> rfl

/-- **position independence**: for legacy and segwit-v0 scripts the outcome of evaluating a script (the error, or
    the core of the final state) depends on the core of the start state only, not on the opcode position -/
theorem resCore_evalFrom (cfg : Spec.Cfg) (hsv : cfg.sigversion = .BASE ∨ cfg.sigversion = .WITNESS_V0)
    (script : Bytes) (pos pos' : Nat) (st st' : Spec.St) (h : Core st = Core st') :
    ResCore (evalFrom cfg script pos st) (evalFrom cfg script pos' st') := by
  rw [evalFrom_eq_bind, evalFrom_eq_bind]
  refine resCore_bind2 (resCore_evalInstrs cfg hsv _ pos pos' st st' h) fun s s' hs => ?_
  have hc : s.cond = s'.cond := congrArg (·.2.2.1) hs
  rw [hc]
  core_walk
  exact resCore_ok hs

end Btcdeb.Proofs.SpecCore
