/-
  Character tables.  The specification has an alphabet as a list of characters; the C++ holds the same alphabet as a
  byte string and looks bytes up in a reverse table (`mapBase58`, `CHARSET_REV`).  All three are compared through
  the list of the character codes: the reverse table by a check in linear sweeps (`revCheck`), which also shows that no
  character occurs twice; reading a string digit by digit is then the inverse of writing digits as characters.
-/
import Btcdeb.Basic.Bytes
import BtcdebProofs.Lemmas.TableEval
import BtcdebProofs.Lemmas.ListAux
namespace Btcdeb.CharTable
open Btcdeb ListAux Proofs.TableEval

/-! A reverse table is checked against its alphabet in linear sweeps: `revCheck codes norm T` decides that `T[n]` is the
    position of `norm n` among `codes`, or -1 (`revCheck_getD`), and in passing that no code occurs twice (`revCheck_nodup`).
    `norm` is the identity for `mapBase58` and the case folding for `CHARSET_REV`, which reads both cases alike. -/

def backOk (codes : List Nat) (norm : Nat → Nat) : List Int → Nat → Bool
  | [], _ => true
  | r :: T, n => (r == -1 || (decide (0 ≤ r) && codes[r.toNat]? == some (norm n))) && backOk codes norm T (n + 1)

def fwdOk (T : List Int) : List Nat → Nat → Bool
  | [], _ => true
  | c :: cs, d => (T.getD c (-1) == (d : Int)) && fwdOk T cs (d + 1)

def revCheck (codes : List Nat) (norm : Nat → Nat) (T : List Int) : Bool :=
  backOk codes norm T 0 && fwdOk T codes 0 &&
    (List.range T.length).all (fun n => norm n == n || T.getD n (-1) == T.getD (norm n) (-1))

theorem backOk_getD {codes : List Nat} {norm : Nat → Nat} : ∀ {T : List Int} {n₀ : Nat}, backOk codes norm T n₀ = true →
    ∀ i, T.getD i (-1) = -1 ∨ ∃ d : Nat, T.getD i (-1) = (d : Int) ∧ codes[d]? = some (norm (n₀ + i))
  | [], _, _, i => Or.inl (by simp)
  | r :: T, n₀, h, i => by
    simp only [backOk, Bool.and_eq_true, Bool.or_eq_true, beq_iff_eq, decide_eq_true_eq] at h
    cases i with
    | zero =>
      rcases h.1 with e | ⟨h0, e⟩
      · exact Or.inl (by simpa using e)
      · exact Or.inr ⟨r.toNat, by simp [Int.toNat_of_nonneg h0], by simpa using e⟩
    | succ i =>
      have := backOk_getD h.2 i
      rwa [Nat.add_assoc, Nat.add_comm 1 i] at this

theorem fwdOk_getElem {T : List Int} : ∀ {cs : List Nat} {d₀ : Nat}, fwdOk T cs d₀ = true →
    ∀ i (h : i < cs.length), T.getD cs[i] (-1) = ((d₀ + i : Nat) : Int)
  | c :: cs, d₀, h, i, hi => by
    simp only [fwdOk, Bool.and_eq_true, beq_iff_eq] at h
    cases i with
    | zero => simpa using h.1
    | succ i =>
      have := fwdOk_getElem h.2 i (by simpa using hi)
      rwa [Nat.add_assoc, Nat.add_comm 1 i] at this

section
variable {codes : List Nat} {norm : Nat → Nat} {T : List Int} (h : revCheck codes norm T = true)
include h

theorem revCheck_getD {n : Nat} (hn : n < T.length) :
    T.getD n (-1) = (match codes.idxOf? (norm n) with | some d => (d : Int) | none => -1) := by
  simp only [revCheck, Bool.and_eq_true, List.all_eq_true, List.mem_range, Bool.or_eq_true, beq_iff_eq] at h
  obtain ⟨⟨hb, hf⟩, hc⟩ := h
  cases hi : codes.idxOf? (norm n) with
  | some d =>
    -- `norm n` is the `d`-th code: its entry is `d`, and `n` has the same entry
    obtain ⟨hd, he, _⟩ := List.idxOf?_eq_some_iff.mp hi
    have := fwdOk_getElem hf d hd
    rw [he, Nat.zero_add] at this
    rcases hc n hn with e | e
    · rwa [e] at this
    · rwa [← e] at this
  | none =>
    -- an entry other than -1 would point at `norm n` among the codes
    rcases backOk_getD hb n with e | ⟨d, _, e⟩
    · exact e
    · rw [Nat.zero_add] at e
      exact absurd (List.mem_of_getElem? e) (List.idxOf?_eq_none_iff.mp hi)

/-- two positions with the same code have the same entry, which is either position -/
theorem revCheck_nodup : codes.Nodup := by
  simp only [revCheck, Bool.and_eq_true] at h
  refine List.pairwise_iff_getElem.mpr fun i j hi hj hij e => ?_
  have a := fwdOk_getElem h.1.2 i hi
  have b := fwdOk_getElem h.1.2 j hj
  rw [e] at a
  rw [a] at b
  omega

end

theorem natCast_beq_neg_one (d : Nat) : ((d : Int) == -1) = false := by
  rw [beq_eq_false_iff_ne]; omega

/-- An alphabet: the specification writes it as the characters `l`, the C++ holds it as the byte string `b`; no character
    occurs twice.  `Spec.base58Digit`, `Spec.bech32Digit` are `digit l`; `Spec.base58Char`, `Spec.bech32Char` are `char l x`. -/
structure Alphabet (l : List Char) (b : Bytes) : Prop where
  codes : l.map Char.toNat = b.map UInt8.toNat
  nodup : (b.map UInt8.toNat).Nodup

abbrev digit (l : List Char) (c : UInt8) : Option Nat := l.idxOf? (Char.ofNat c.toNat)
abbrev char (l : List Char) (x : Char) (d : Nat) : UInt8 := UInt8.ofNat (l.getD d x).toNat

theorem digit_codes (l : List Char) (c : UInt8) : digit l c = (l.map Char.toNat).idxOf? c.toNat := by
  have hc := toNat_ofNat_byte c
  induction l with
  | nil => rfl
  | cons x xs ih =>
    have : (x == Char.ofNat c.toNat) = (x.toNat == c.toNat) := by
      rw [Bool.eq_iff_iff, beq_iff_eq, beq_iff_eq]
      exact ⟨fun e => by rw [e, hc], fun e => by rw [← Char.ofNat_toNat x, e]⟩
    rw [digit, List.map_cons, List.idxOf?_cons, List.idxOf?_cons, this, ← ih]

namespace Alphabet
variable {l : List Char} {b : Bytes} (A : Alphabet l b)
include A

theorem length_eq : l.length = b.length := by simpa using congrArg List.length A.codes

theorem char_toNat (x : Char) {d : Nat} (h : d < b.length) : (l.getD d x).toNat = b[d].toNat := by
  have hl : d < l.length := A.length_eq ▸ h
  have e : (l.map Char.toNat)[d]'(by simpa using hl) = (b.map UInt8.toNat)[d]'(by simpa using h) := by simp only [A.codes]
  rw [List.getElem_map, List.getElem_map] at e
  rw [List.getD_eq_getElem?_getD, List.getElem?_eq_getElem hl, Option.getD_some, e]

theorem char_eq_getD (x : Char) (y : UInt8) {d : Nat} (h : d < b.length) : char l x d = b.getD d y := by
  rw [char, A.char_toNat x h, UInt8.ofNat_toNat, List.getD_eq_getElem?_getD, List.getElem?_eq_getElem h, Option.getD_some]

theorem char_mem (x : Char) {d : Nat} (h : d < b.length) : char l x d ∈ b := by
  rw [char, A.char_toNat x h, UInt8.ofNat_toNat]
  exact List.getElem_mem h

theorem digit_eq_some (x : Char) (c : UInt8) (d : Nat) : digit l c = some d ↔ d < b.length ∧ char l x d = c := by
  rw [digit_codes, A.codes, List.idxOf?_eq_some_iff]
  constructor
  · rintro ⟨hd, he, _⟩
    have hd' : d < b.length := by simpa using hd
    rw [List.getElem_map] at he
    exact ⟨hd', by rw [char, A.char_toNat x hd', he, UInt8.ofNat_toNat]⟩
  · rintro ⟨hd, rfl⟩
    have hd' : d < (b.map UInt8.toNat).length := by simpa using hd
    have e : (b.map UInt8.toNat)[d] = (char l x d).toNat := by
      rw [char, A.char_toNat x hd, UInt8.ofNat_toNat, List.getElem_map]
    exact ⟨hd', e, fun j hj => e ▸ List.pairwise_iff_getElem.mp A.nodup j d (by omega) hd' hj⟩

theorem mapM_digit_char (x : Char) : ∀ (ds : List Nat), (∀ d ∈ ds, d < b.length) → (ds.map (char l x)).mapM (digit l) = some ds := by
  intro ds
  induction ds with
  | nil => intro _; rfl
  | cons d ds ih =>
    intro h
    rw [List.map_cons, mapM_option_cons, (A.digit_eq_some x _ d).2 ⟨h d List.mem_cons_self, rfl⟩,
      ih (fun y hy => h y (List.mem_cons_of_mem _ hy))]
    rfl

theorem mapM_digit_inv (x : Char) : ∀ (s : Bytes) (ds : List Nat), s.mapM (digit l) = some ds →
    (∀ d ∈ ds, d < b.length) ∧ s = ds.map (char l x) := by
  intro s
  induction s with
  | nil => intro ds h; cases h; exact ⟨fun d hd => (nomatch hd), rfl⟩
  | cons c s ih =>
    intro ds h
    rw [mapM_option_cons] at h
    obtain ⟨d, hc, h⟩ := Option.bind_eq_some_iff.mp h
    obtain ⟨ds', hs, rfl⟩ := Option.map_eq_some_iff.mp h
    obtain ⟨e1, e2⟩ := ih ds' hs
    obtain ⟨hd, rfl⟩ := (A.digit_eq_some x c d).1 hc
    exact ⟨fun y hy => (List.mem_cons.mp hy).elim (fun e => e ▸ hd) (e1 y), by rw [List.map_cons, ← e2]⟩

theorem mapM_digit_eq_some (x : Char) (s : Bytes) (ds : List Nat) :
    s.mapM (digit l) = some ds ↔ (∀ d ∈ ds, d < b.length) ∧ s = ds.map (char l x) :=
  ⟨A.mapM_digit_inv x s ds, fun ⟨h, e⟩ => e ▸ A.mapM_digit_char x ds h⟩

theorem revCheck_digit {norm : Nat → Nat} {nb : UInt8 → UInt8} (hn : ∀ c : UInt8, norm c.toNat = (nb c).toNat) {T : List Int}
    (h : revCheck (b.map UInt8.toNat) norm T = true) (c : UInt8) (hc : c.toNat < T.length) :
    T.getD c.toNat (-1) = (match digit l (nb c) with | some d => (d : Int) | none => -1) := by
  rw [revCheck_getD h hc, hn, digit_codes, A.codes]

end Alphabet
end Btcdeb.CharTable
