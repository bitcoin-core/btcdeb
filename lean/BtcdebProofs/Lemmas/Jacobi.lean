/-
  The loop of `Value::do_jacobi_symbol` computes the Jacobi symbol as given by the recursive law.
-/
import Btcdeb.Model.Transforms
import Btcdeb.Spec.Transforms
namespace Btcdeb.Jacobi
open Btcdeb

/-- what `do_jacobi_symbol` reads off the final `(k, t)` -/
def readOff (r : Nat × Bool) : Int := if r.1 == 1 then (if r.2 then -1 else 1) else 0

def sign (t : Bool) : Int := if t then -1 else 1

theorem sign_xor (a b : Bool) : sign (a ^^ b) = sign a * sign b := by
  cases a <;> cases b <;> rfl

theorem readOff_flip (k : Nat) (t : Bool) : readOff (k, t) = sign t * readOff (k, false) := by
  unfold readOff sign
  cases t <;> simp
  split <;> simp

theorem strip_even (k n : Nat) (t : Bool) (h : n % 2 = 0) (h0 : n ≠ 0) :
    Model.jacobiStrip k n t = Model.jacobiStrip k (n / 2) (t ^^ (k % 8 == 3 || k % 8 == 5)) := by
  rw [Model.jacobiStrip]
  simp [h, h0]

theorem strip_odd (k n : Nat) (t : Bool) (h : n % 2 = 1) : Model.jacobiStrip k n t = (n, t) := by
  rw [Model.jacobiStrip]
  have : ¬ (n % 2 = 0 ∧ n ≠ 0) := by omega
  simp [this]

theorem loop_step (n k : Nat) (t : Bool) (h0 : n ≠ 0) :
    Model.jacobiLoop n k t =
      Model.jacobiLoop (k % (Model.jacobiStrip k n t).1) (Model.jacobiStrip k n t).1
        ((Model.jacobiStrip k n t).2 ^^ (k % 4 == 3 && (Model.jacobiStrip k n t).1 % 4 == 3)) := by
  rw [Model.jacobiLoop]
  simp [h0]

/-- an even `n` loses a factor two, at the price of the sign (2/k) -/
theorem loop_even (n k : Nat) (t : Bool) (h0 : n ≠ 0) (he : n % 2 = 0) :
    Model.jacobiLoop n k t = Model.jacobiLoop (n / 2) k (t ^^ (k % 8 == 3 || k % 8 == 5)) := by
  rw [loop_step n k t h0, loop_step (n / 2) k _ (by omega), strip_even k n t he h0]

/-- an odd `n` changes places with `k`, at the price of the reciprocity sign -/
theorem loop_odd (n k : Nat) (t : Bool) (h0 : n ≠ 0) (ho : n % 2 = 1) :
    Model.jacobiLoop n k t = Model.jacobiLoop (k % n) n (t ^^ (k % 4 == 3 && n % 4 == 3)) := by
  rw [loop_step n k t h0, strip_odd k n t ho]

theorem rec_even (n k : Nat) (h0 : n ≠ 0) (he : n % 2 = 0) :
    Spec.jacobiRec n k = sign (k % 8 == 3 || k % 8 == 5) * Spec.jacobiRec (n / 2) k := by
  rw [Spec.jacobiRec, dif_neg h0, dif_pos he]
  congr 1
  by_cases h3 : k % 8 = 3 <;> by_cases h5 : k % 8 = 5 <;> simp [sign, h3, h5]

theorem rec_odd (n k : Nat) (h0 : n ≠ 0) (ho : n % 2 = 1) :
    Spec.jacobiRec n k = sign (k % 4 == 3 && n % 4 == 3) * Spec.jacobiRec (k % n) n := by
  rw [Spec.jacobiRec, dif_neg h0, dif_neg (by omega)]
  congr 1
  by_cases h3 : k % 4 = 3 <;> by_cases h5 : n % 4 = 3 <;> simp [sign, h3, h5]

/-- the loop and the recursive law take the same steps, and the flag `t` carries the product of the signs so far -/
theorem loop_eq : ∀ (n k : Nat) (t : Bool),
    readOff (Model.jacobiLoop n k t) = sign t * Spec.jacobiRec n k := by
  intro n
  induction n using Nat.strongRecOn with
  | _ n ih =>
    intro k t
    by_cases h0 : n = 0
    · subst h0
      rw [Model.jacobiLoop, Spec.jacobiRec, dif_pos rfl, dif_pos rfl, readOff_flip]
      by_cases hk : k = 1 <;> simp [readOff, hk]
    · by_cases he : n % 2 = 0
      · rw [loop_even n k t h0 he, ih (n / 2) (by omega), sign_xor, rec_even n k h0 he, Int.mul_assoc]
      · rw [loop_odd n k t h0 (by omega), ih (k % n) (Nat.mod_lt _ (Nat.pos_of_ne_zero h0)), sign_xor,
          rec_odd n k h0 (by omega), Int.mul_assoc]

end Btcdeb.Jacobi
