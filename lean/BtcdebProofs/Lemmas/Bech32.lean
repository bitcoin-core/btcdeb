/-
  Bech32 / Bech32m.  The checksum remainder (`PolyMod`) is linear over XOR, so the six symbols `CreateChecksum` appends
  are the only tail that verifies and one wrong symbol is always detected; `CheckCharacters` in closed form; encode/decode
  round trip and soundness of the decoder; the model's `PolyMod`, `CreateChecksum` and `Encode` are the BIP reference
  functions of the specification (`Decode` and `LowerCase`: Bech32Decode.lean).
  Character code 49 is `1`, the separator between the human-readable part and the data.
-/
import Btcdeb.Model.Encodings
import Btcdeb.Spec.Encodings
import BtcdebProofs.Lemmas.CharTable
import BtcdebProofs.Lemmas.Numeral
namespace Btcdeb.Bech32
open Btcdeb ListAux CharTable Numeral Proofs.TableEval

/-- what the five conditional XORs of `PolyMod` add for the top coefficient `c0` -/
def gen (c0 : Nat) : Nat :=
  (if c0.testBit 0 then 0x3b6a57b2 else 0) ^^^ ((if c0.testBit 1 then 0x26508e6d else 0) ^^^
  ((if c0.testBit 2 then 0x1ea119fa else 0) ^^^ ((if c0.testBit 3 then 0x3d4233dd else 0) ^^^
  (if c0.testBit 4 then 0x2a1462b3 else 0))))

/-- one round of `PolyMod` on natural numbers -/
def stepN (c v : Nat) : Nat := ((c % 2 ^ 25) <<< 5) ^^^ (v ^^^ gen ((c >>> 25) % 2 ^ 8))

theorem polyModStep_eq (c : Nat) (v : UInt8) : Model.polyModStep c v = stepN c v.toNat := by
  unfold Model.polyModStep stepN gen
  simp only []
  generalize ((c >>> 25) % 256) = c0
  have e1 : (33554432 : Nat) = 2 ^ 25 := rfl
  have e2 : (2 : Nat) ^ 8 = 256 := rfl
  rw [e1]
  generalize ((c % 2 ^ 25) <<< 5) = x
  generalize v.toNat = w
  cases c0.testBit 0 <;> cases c0.testBit 1 <;> cases c0.testBit 2 <;> cases c0.testBit 3 <;> cases c0.testBit 4 <;>
    simp [Nat.xor_assoc]

def polyFrom (c : Nat) (vs : List Nat) : Nat := vs.foldl stepN c

theorem polyMod_eq (v : Bytes) : Model.polyMod v = polyFrom 1 (v.map UInt8.toNat) := by
  unfold Model.polyMod polyFrom
  rw [List.foldl_map]
  congr 1
  funext c x
  exact polyModStep_eq c x

theorem ite_xor (p q : Bool) (k : Nat) :
    (if (p ^^ q) = true then k else 0) = (if p = true then k else 0) ^^^ (if q = true then k else 0) := by
  cases p <;> cases q <;> simp

theorem gen_xor (a b : Nat) : gen (a ^^^ b) = gen a ^^^ gen b := by
  unfold gen
  simp only [Nat.testBit_xor, ite_xor]
  ac_rfl

theorem stepN_xor (a b v w : Nat) : stepN (a ^^^ b) (v ^^^ w) = stepN a v ^^^ stepN b w := by
  unfold stepN
  rw [Nat.xor_mod_two_pow, Nat.shiftLeft_xor_distrib, Nat.shiftRight_xor_distrib, Nat.xor_mod_two_pow, gen_xor]
  ac_rfl

theorem polyFrom_xor : ∀ (vs ws : List Nat) (a b : Nat), vs.length = ws.length →
    polyFrom (a ^^^ b) (List.zipWith (· ^^^ ·) vs ws) = polyFrom a vs ^^^ polyFrom b ws := by
  intro vs
  induction vs with
  | nil => intro ws a b h; cases ws with
    | nil => rfl
    | cons _ _ => simp at h
  | cons v vs ih =>
    intro ws a b h
    cases ws with
    | nil => simp at h
    | cons w ws =>
      simp only [List.zipWith_cons_cons, polyFrom, List.foldl_cons]
      rw [stepN_xor]
      exact ih ws _ _ (by simpa using h)

theorem gen_lt (c0 : Nat) : gen c0 < 2 ^ 30 := by
  unfold gen
  cases c0.testBit 0 <;> cases c0.testBit 1 <;> cases c0.testBit 2 <;> cases c0.testBit 3 <;> cases c0.testBit 4 <;> simp

theorem gen_zero : gen 0 = 0 := by simp [gen]

theorem stepN_lt (c v : Nat) (hv : v < 2 ^ 30) : stepN c v < 2 ^ 30 := by
  unfold stepN
  apply Nat.xor_lt_two_pow
  · rw [Nat.shiftLeft_eq]
    have : c % 2 ^ 25 < 2 ^ 25 := Nat.mod_lt _ (by decide)
    omega
  · exact Nat.xor_lt_two_pow hv (gen_lt _)

theorem polyFrom_lt : ∀ (vs : List Nat) (c : Nat), c < 2 ^ 30 → (∀ v ∈ vs, v < 2 ^ 30) → polyFrom c vs < 2 ^ 30 := by
  intro vs
  induction vs with
  | nil => intro c hc _; exact hc
  | cons v vs ih =>
    intro c _ hv
    exact ih _ (stepN_lt c v (hv v (by simp))) (fun x hx => hv x (by simp [hx]))

/-- the checksum register stays below 2^30 (a `uint32_t` never wraps) -/
theorem polyMod_lt (v : Bytes) : Model.polyMod v < 2 ^ 30 := by
  rw [polyMod_eq]
  exact polyFrom_lt _ _ (by decide) (fun x hx => Nat.lt_trans (bytes_allLt v x hx) (by decide))

theorem shift_xor_eq_add (c v : Nat) (hv : v < 32) : (c <<< 5) ^^^ v = c * 32 + v := by
  apply Nat.eq_of_testBit_eq
  intro j
  have e : c * 32 + v = 2 ^ 5 * c + v := by omega
  rw [e, Nat.testBit_two_pow_mul_add c (by omega : v < 2 ^ 5), Nat.testBit_xor, Nat.testBit_shiftLeft]
  by_cases hj : j < 5
  · have : ¬ (j ≥ 5) := by omega
    simp [hj, this]
  · have hj' : j ≥ 5 := by omega
    have : v.testBit j = false := Nat.testBit_lt_two_pow (Nat.lt_of_lt_of_le (by omega : v < 2 ^ 5) (Nat.pow_le_pow_right (by omega) hj'))
    simp [hj, hj', this]

theorem stepN_small (c v : Nat) (hc : c < 2 ^ 25) (hv : v < 32) : stepN c v = c * 32 + v := by
  unfold stepN
  have h1 : c % 2 ^ 25 = c := Nat.mod_eq_of_lt hc
  have h2 : c >>> 25 = 0 := by rw [Nat.shiftRight_eq_div_pow]; exact Nat.div_eq_of_lt hc
  rw [h1, h2]
  simp only [Nat.zero_mod, gen_zero, Nat.xor_zero]
  exact shift_xor_eq_add c v hv

/-- as long as the register has room, rounds only shift symbols in: it holds the value of the symbols read -/
theorem polyFrom_small : ∀ (vs : List Nat) (c : Nat), (∀ v ∈ vs, v < 32) → (c + 1) * 32 ^ vs.length ≤ 2 ^ 30 →
    polyFrom c vs = vs.foldl (fun a d => a * 32 + d) c := by
  intro vs
  induction vs with
  | nil => intro c _ _; rfl
  | cons v vs ih =>
    intro c hv hc
    have h32 : (c + 1) * 32 ≤ 2 ^ 30 := by
      refine Nat.le_trans (Nat.mul_le_mul_left _ ?_) hc
      rw [List.length_cons, Nat.pow_succ]
      exact Nat.le_mul_of_pos_left _ (Nat.pow_pos (by decide))
    have hv' := hv v List.mem_cons_self
    simp only [polyFrom, List.foldl_cons]
    rw [stepN_small c v (by omega) hv']
    refine ih _ (AllLt.tail hv) (Nat.le_trans ?_ hc)
    rw [List.length_cons, Nat.pow_succ, Nat.mul_comm (32 ^ vs.length) 32, ← Nat.mul_assoc]
    exact Nat.mul_le_mul_right _ (by omega)

theorem zipWith_zero_xor : ∀ (vs : List Nat), List.zipWith (· ^^^ ·) (List.replicate vs.length 0) vs = vs := by
  intro vs
  induction vs with
  | nil => rfl
  | cons v vs ih => rw [List.length_cons, List.replicate_succ, List.zipWith_cons_cons, ih, Nat.zero_xor]

/-- the last six symbols enter the remainder linearly, as the 30-bit number they denote -/
theorem polyFrom_six (c : Nat) (vs : List Nat) (hl : vs.length = 6) (hv : ∀ v ∈ vs, v < 32) :
    polyFrom c vs = polyFrom c (List.replicate 6 0) ^^^ Spec.numeralValue 32 vs := by
  have := polyFrom_xor (List.replicate vs.length 0) vs c 0 (by simp)
  rw [Nat.xor_zero, zipWith_zero_xor, polyFrom_small vs 0 hv (by rw [hl]; decide), hl] at this
  exact this

theorem polyMod_append (pre rest : Bytes) :
    Model.polyMod (pre ++ rest) = polyFrom (Model.polyMod pre) (rest.map UInt8.toNat) := by
  rw [polyMod_eq, polyMod_eq, List.map_append]
  simp [polyFrom, List.foldl_append]

theorem const_lt (enc : Model.Bech32Encoding) : Model.encodingConstant enc < 2 ^ 30 := by
  cases enc <;> decide

/-- what `CreateChecksum` sees before it adds the constant: the remainder of the data followed by six zero symbols -/
def zeroTail (hrp values : Bytes) : Nat := polyFrom (Model.polyMod (Model.expandHRP hrp ++ values)) (List.replicate 6 0)

theorem createChecksum_eq (enc : Model.Bech32Encoding) (hrp values : Bytes) :
    (Model.createChecksum enc hrp values).map UInt8.toNat =
      Spec.fixedNumeral 32 6 (zeroTail hrp values ^^^ Model.encodingConstant enc) := by
  have hm : Model.polyMod (Model.expandHRP hrp ++ values ++ List.replicate 6 0) = zeroTail hrp values := by
    rw [polyMod_append, List.map_replicate]; rfl
  have h32 : ∀ x : Nat, (UInt8.ofNat (x % 32)).toNat = x % 32 := fun x => UInt8.toNat_ofNat_of_lt' (show x % 32 < 256 by omega)
  rw [Model.createChecksum, hm]
  -- the six `(mod >> 5 * (5 - i)) & 31` are the base-32 digits of a 30-bit number, most significant first
  simp [List.range, List.range.loop, h32, Spec.fixedNumeral, Spec.fixedNumeralLE, Nat.shiftRight_eq_div_pow, Nat.div_div_eq_div_mul]

theorem createChecksum_length (enc : Model.Bech32Encoding) (hrp values : Bytes) : (Model.createChecksum enc hrp values).length = 6 := by
  simp [Model.createChecksum]

theorem createChecksum_lt (enc : Model.Bech32Encoding) (hrp values : Bytes) :
    ∀ c ∈ Model.createChecksum enc hrp values, c.toNat < 32 := by
  intro c hc
  have : c.toNat ∈ Spec.fixedNumeral 32 6 (zeroTail hrp values ^^^ Model.encodingConstant enc) := by
    rw [← createChecksum_eq]; exact List.mem_map_of_mem hc
  exact (fixedLE_allLt 32 (by decide) _ _).reverse _ this

theorem append_createChecksum_lt (enc : Model.Bech32Encoding) (hrp : Bytes) {values : Bytes} (hvals : ∀ v ∈ values, v.toNat < 32) :
    ∀ v ∈ values ++ Model.createChecksum enc hrp values, v.toNat < 32 := fun v hv =>
  (List.mem_append.mp hv).elim (hvals v) (createChecksum_lt enc hrp values v)

theorem xor_eq_iff (a v k : Nat) : a ^^^ v = k ↔ v = a ^^^ k := by
  constructor <;> rintro rfl <;> rw [← Nat.xor_assoc, Nat.xor_self, Nat.zero_xor]

theorem polyFrom_six_iff {c k : Nat} (hc : c < 2 ^ 30) (hk : k < 2 ^ 30) {cs : List Nat} (hl : cs.length = 6) (hv : AllLt 32 cs) :
    polyFrom c cs = k ↔ cs = Spec.fixedNumeral 32 6 (polyFrom c (List.replicate 6 0) ^^^ k) := by
  have hz : polyFrom c (List.replicate 6 0) < 2 ^ 30 :=
    polyFrom_lt _ _ hc (fun v hv => by rw [(List.mem_replicate.mp hv).2]; decide)
  rw [polyFrom_six c cs hl hv, xor_eq_iff]
  constructor
  · intro h; rw [← h, ← hl]; exact eq_fixedNumeral 32 cs hv
  · intro h; rw [h, numeralValue_fixedNumeral 32 6 _ (Nat.xor_lt_two_pow hz hk)]

theorem checksum_iff (enc : Model.Bech32Encoding) (hrp data cs : Bytes) (hl : cs.length = 6) (h32 : ∀ c ∈ cs, c.toNat < 32) :
    Model.polyMod (Model.expandHRP hrp ++ (data ++ cs)) = Model.encodingConstant enc ↔ cs = Model.createChecksum enc hrp data := by
  rw [← List.append_assoc, polyMod_append,
    polyFrom_six_iff (polyMod_lt _) (const_lt enc) (by rw [List.length_map, hl]) (List.forall_mem_map.mpr h32)]
  show _ = Spec.fixedNumeral 32 6 (zeroTail hrp data ^^^ _) ↔ _
  rw [← createChecksum_eq]
  exact List.map_inj_right (fun _ _ => UInt8.toNat_inj.mp)

/-- characters a lower-case Bech32 string may contain -/
def PlainChar (c : UInt8) : Prop := 33 ≤ c.toNat ∧ c.toNat ≤ 126 ∧ ¬ (65 ≤ c.toNat ∧ c.toNat ≤ 90)

theorem lowerCase_plain (c : UInt8) (h : ¬ (65 ≤ c.toNat ∧ c.toNat ≤ 90)) : Model.lowerCase c = c := by
  unfold Model.lowerCase
  split
  · rename_i hu; simp at hu; omega
  · rfl

theorem map_lowerCase_plain (l : Bytes) (h : ∀ c ∈ l, PlainChar c) : l.map Model.lowerCase = l := by
  simpa using List.map_congr_left (g := id) (fun c hc => lowerCase_plain c (h c hc).2.2)

theorem charsetRev_rev : revCheck (Model.bech32Charset.map UInt8.toNat) (fun n => (Model.lowerCase (UInt8.ofNat n)).toNat)
    Model.bech32CharsetRev = true := by decide +kernel
theorem alphabet : Alphabet Spec.bech32Charset Model.bech32Charset := ⟨by decide, revCheck_nodup charsetRev_rev⟩
theorem mem_charset : ∀ c ∈ Model.bech32Charset, c ≠ 49 ∧ PlainChar c := by unfold PlainChar; decide

theorem charset_spec {v : Nat} (h : v < 32) : Model.bech32Charset.getD v 0 = Spec.bech32Char v :=
  (alphabet.char_eq_getD 'q' 0 h).symm

theorem char_plain {v : Nat} (h : v < 32) : Spec.bech32Char v ≠ 49 ∧ PlainChar (Spec.bech32Char v) :=
  mem_charset _ (alphabet.char_mem 'q' h)

theorem charsetRev_spec (c : UInt8) : Model.bech32CharsetRev.getD c.toNat (-1) =
    (match Spec.bech32Digit (Model.lowerCase c) with | some d => (d : Int) | none => -1) := by
  by_cases h : c.toNat < 128
  · exact alphabet.revCheck_digit (nb := Model.lowerCase) (fun c => by rw [UInt8.ofNat_toNat]) charsetRev_rev c h
  · -- beyond the table: the default, and no character of the set has such a code
    rw [List.getD_eq_getElem?_getD, List.getElem?_eq_none (by show 128 ≤ c.toNat; omega), lowerCase_plain c (by omega)]
    cases hd : Spec.bech32Digit c with
    | none => rfl
    | some d =>
      obtain ⟨hd', hc⟩ := (alphabet.digit_eq_some 'q' c d).1 hd
      have := (char_plain hd').2.2.1
      rw [show Spec.bech32Char d = c from hc] at this
      omega

theorem bech32Values_eq : ∀ (cs : Bytes),
    Model.bech32Values cs = ((cs.map Model.lowerCase).mapM Spec.bech32Digit).map (List.map UInt8.ofNat) := by
  intro cs
  induction cs with
  | nil => rfl
  | cons c cs ih =>
    rw [Model.bech32Values, charsetRev_spec, List.map_cons, mapM_option_cons, ih]
    cases Spec.bech32Digit (Model.lowerCase c) with
    | none => rfl
    | some d =>
      simp only [natCast_beq_neg_one, Bool.false_eq_true, ↓reduceIte, Int.toNat_natCast, Option.bind_some]
      cases (cs.map Model.lowerCase).mapM Spec.bech32Digit <;> rfl

theorem bech32Values_eq_some (cs vs : Bytes) : Model.bech32Values cs = some vs ↔
    (∀ v ∈ vs, v.toNat < 32) ∧ cs.map Model.lowerCase = vs.map (fun v => Model.bech32Charset.getD v.toNat 0) := by
  rw [bech32Values_eq, Option.map_eq_some_iff]
  constructor
  · rintro ⟨ds, hm, rfl⟩
    obtain ⟨hall, e⟩ := (alphabet.mapM_digit_eq_some 'q' _ ds).1 hm
    refine ⟨fun v hv => ?_, ?_⟩
    · obtain ⟨d, hd, rfl⟩ := List.mem_map.mp hv
      rw [UInt8.toNat_ofNat_of_lt' (Nat.lt_trans (hall d hd) (by decide))]; exact hall d hd
    · rw [e, List.map_map]
      exact List.map_congr_left (fun d hd => by rw [Function.comp_apply, UInt8.toNat_ofNat_of_lt' (Nat.lt_trans (hall d hd) (by decide)), charset_spec (hall d hd)]; rfl)
  · rintro ⟨h32, e⟩
    refine ⟨vs.map UInt8.toNat, (alphabet.mapM_digit_eq_some 'q' _ _).2 ⟨fun d hd => ?_, ?_⟩, ?_⟩
    · obtain ⟨v, hv, rfl⟩ := List.mem_map.mp hd; exact h32 v hv
    · rw [e, List.map_map]
      exact List.map_congr_left (fun v hv => by rw [Function.comp_apply, charset_spec (h32 v hv)]; rfl)
    · exact map_ofNat_toNat vs

theorem rfind_append (hrp data : Bytes) (h : (49 : UInt8) ∉ data) : Model.rfindOne (hrp ++ 49 :: data) = some hrp.length := by
  unfold Model.rfindOne
  have : (hrp ++ 49 :: data).reverse = data.reverse ++ 49 :: hrp.reverse := by simp
  rw [this, idxOf_append 49 _ _ (by simpa using h)]
  simp only [List.length_reverse, List.length_append, List.length_cons]
  congr 1
  omega

theorem rfind_split (s : Bytes) (pos : Nat) (h : Model.rfindOne s = some pos) :
    ∃ hd dt, s = hd ++ 49 :: dt ∧ hd.length = pos ∧ (49 : UInt8) ∉ dt := by
  unfold Model.rfindOne at h
  cases hi : s.reverse.idxOf? 49 with
  | none => simp [hi] at h
  | some k =>
    simp [hi] at h
    obtain ⟨pre, post, e1, e2, e3⟩ := idxOf_split 49 _ _ hi
    have hs : s = post.reverse ++ 49 :: pre.reverse := by
      have := congrArg List.reverse e1
      simpa using this
    refine ⟨post.reverse, pre.reverse, hs, ?_, by simpa using e3⟩
    have hl : s.length = post.length + 1 + pre.length := by rw [hs]; simp; omega
    simp only [List.length_reverse]
    omega

/-- the range test of `CheckCharacters` (`c < 33 || c > 126`); `PlainChar` is its negation less the upper-case letters -/
def outOfRange (c : UInt8) : Bool := decide (c.toNat < 33) || decide (c.toNat > 126)

theorem checkCharactersStep_fold_false (cs : Bytes) : ∀ l u, (cs.foldl Model.checkCharactersStep (l, u, false)).2.2 = false := by
  induction cs with
  | nil => intro l u; rfl
  | cons c cs ih =>
    intro l u
    simp only [List.foldl_cons]
    have : ∃ l' u', Model.checkCharactersStep (l, u, false) c = (l', u', false) := by
      unfold Model.checkCharactersStep
      simp only []
      split
      · split <;> exact ⟨_, _, rfl⟩
      · split
        · split <;> exact ⟨_, _, rfl⟩
        · split <;> exact ⟨_, _, rfl⟩
    obtain ⟨l', u', h⟩ := this
    rw [h]; exact ih l' u'

theorem checkCharactersStep_eq (l u ok : Bool) (c : UInt8) :
    Model.checkCharactersStep (l, u, ok) c =
      if Spec.isLowerB c then (if u then (l, u, false) else (true, u, ok))
      else if Spec.isUpperB c then (if l then (l, u, false) else (l, true, ok))
      else if outOfRange c then (l, u, false) else (l, u, ok) := by
  unfold Model.checkCharactersStep Spec.isLowerB Spec.isUpperB outOfRange
  rfl

theorem charClass_excl (c : UInt8) :
    (Spec.isLowerB c = true → Spec.isUpperB c = false ∧ outOfRange c = false) ∧
    (Spec.isUpperB c = true → outOfRange c = false) := by
  unfold Spec.isLowerB Spec.isUpperB outOfRange
  simp only [Bool.and_eq_true, decide_eq_true_eq, Bool.and_eq_false_iff, decide_eq_false_iff_not, Bool.or_eq_false_iff]
  omega

theorem checkCharactersStep_fold (cs : Bytes) : ∀ (l u : Bool), (l && u) = false →
    (cs.foldl Model.checkCharactersStep (l, u, true)).2.2 =
      (!(cs.any outOfRange) && !((l || cs.any Spec.isLowerB) && (u || cs.any Spec.isUpperB))) := by
  induction cs with
  | nil => intro l u h; cases l <;> cases u <;> simp_all
  | cons c cs ih =>
    intro l u h
    simp only [List.foldl_cons, List.any_cons]
    rw [checkCharactersStep_eq]
    obtain ⟨e1, e2⟩ := charClass_excl c
    cases hlo : Spec.isLowerB c with
    | true =>
      obtain ⟨h2, h3⟩ := e1 hlo
      simp only [↓reduceIte, h2, h3, Bool.false_or, Bool.true_or, Bool.or_true]
      cases u with
      | true => simp [checkCharactersStep_fold_false]
      | false => simp only [Bool.false_eq_true, ↓reduceIte]; rw [ih true false rfl]; simp
    | false =>
      simp only [Bool.false_eq_true, ↓reduceIte, Bool.false_or]
      cases hup : Spec.isUpperB c with
      | true =>
        have h3 := e2 hup
        simp only [↓reduceIte, h3, Bool.false_or, Bool.true_or, Bool.or_true]
        cases l with
        | true => simp [checkCharactersStep_fold_false]
        | false => simp only [Bool.false_eq_true, ↓reduceIte]; rw [ih false true rfl]; simp
      | false =>
        simp only [Bool.false_eq_true, ↓reduceIte, Bool.false_or]
        cases hr : outOfRange c with
        | true => simp [checkCharactersStep_fold_false]
        | false => simp only [Bool.false_eq_true, ↓reduceIte, Bool.false_or]; exact ih l u h

theorem checkCharacters_spec (s : Bytes) :
    Model.checkCharacters s = (!(s.any outOfRange) && !(s.any Spec.isUpperB && s.any Spec.isLowerB)) := by
  unfold Model.checkCharacters
  rw [checkCharactersStep_fold s false false rfl]
  simp [Bool.and_comm]

theorem checkCharacters_plain (s : Bytes) (h : ∀ c ∈ s, PlainChar c) : Model.checkCharacters s = true := by
  have h1 : s.any outOfRange = false := List.any_eq_false.mpr fun c hc => by
    obtain ⟨lo, hi, _⟩ := h c hc
    simp only [outOfRange, Bool.or_eq_true, decide_eq_true_eq]
    omega
  have h2 : s.any Spec.isUpperB = false := List.any_eq_false.mpr fun c hc => by
    simpa [Spec.isUpperB] using (h c hc).2.2
  rw [checkCharacters_spec, h1, h2]
  rfl

theorem verifyChecksum_create (enc : Model.Bech32Encoding) (henc : enc ≠ .INVALID) (hrp values : Bytes) :
    Model.verifyChecksum hrp (values ++ Model.createChecksum enc hrp values) = enc := by
  unfold Model.verifyChecksum
  simp only []
  rw [(checksum_iff enc hrp values _ (createChecksum_length ..) (createChecksum_lt enc hrp values)).2 rfl]
  cases enc with
  | INVALID => exact absurd rfl henc
  | BECH32 => rfl
  | BECH32M => rfl

theorem encode_some (enc : Model.Bech32Encoding) (hrp values : Bytes) (henc : enc ≠ .INVALID)
    (hhrp : ∀ c ∈ hrp, ¬ (65 ≤ c.toNat ∧ c.toNat ≤ 90)) (hvals : ∀ v ∈ values, v.toNat < 32) :
    Model.bech32Encode enc hrp values =
      some (hrp ++ 49 :: (values ++ Model.createChecksum enc hrp values).map (fun c => Model.bech32Charset.getD c.toNat 0)) := by
  unfold Model.bech32Encode
  have h1 : hrp.any (fun c => decide (65 ≤ c.toNat) && decide (c.toNat ≤ 90)) = false := by
    rw [List.any_eq_false]
    intro c hc
    have := hhrp c hc
    simp only [Bool.and_eq_true, decide_eq_true_eq]
    exact this
  have h2 : (enc == Model.Bech32Encoding.INVALID) = false := by
    cases enc <;> simp_all
  have h3 : (values ++ Model.createChecksum enc hrp values).any (fun c => decide (c.toNat ≥ 32)) = false := by
    rw [List.any_eq_false]
    intro c hc
    have := append_createChecksum_lt enc hrp hvals c hc
    simp; omega
  simp only [h1, h2, h3, Bool.false_eq_true, ↓reduceIte]
  simp

/-- `bech32::Decode(bech32::Encode(enc, hrp, values))` gives the three arguments back -/
theorem decode_encode (enc : Model.Bech32Encoding) (hrp values : Bytes) (henc : enc ≠ .INVALID) (hne : hrp ≠ [])
    (hhrp : ∀ c ∈ hrp, PlainChar c) (hvals : ∀ v ∈ values, v.toNat < 32) (hlen : hrp.length + 1 + values.length + 6 ≤ 90) :
    (Model.bech32Encode enc hrp values).bind Model.bech32Decode = some (enc, hrp, values) := by
  rw [encode_some enc hrp values henc (fun c hc => (hhrp c hc).2.2) hvals, Option.bind_some]
  have hcsl := createChecksum_length enc hrp values
  have hver := verifyChecksum_create enc henc hrp values
  have hall := append_createChecksum_lt enc hrp hvals
  generalize Model.createChecksum enc hrp values = cs at hcsl hver hall
  have hdc : ∀ c ∈ (values ++ cs).map (fun c => Model.bech32Charset.getD c.toNat 0), c ≠ 49 ∧ PlainChar c := by
    intro c hc
    obtain ⟨v, hv, rfl⟩ := List.mem_map.mp hc
    rw [charset_spec (hall v hv)]; exact char_plain (hall v hv)
  have hvm := (bech32Values_eq_some _ _).2 ⟨hall, map_lowerCase_plain _ (fun c hc => (hdc c hc).2)⟩
  have hdl : ((values ++ cs).map (fun c => Model.bech32Charset.getD c.toNat 0)).length = values.length + 6 := by
    simp [hcsl]
  generalize (values ++ cs).map (fun c => Model.bech32Charset.getD c.toNat 0) = dataChars at hvm hdc hdl
  have hplain : ∀ c ∈ hrp ++ 49 :: dataChars, PlainChar c := by
    intro c hc
    rcases List.mem_append.mp hc with h | h
    · exact hhrp c h
    · rcases List.mem_cons.mp h with rfl | e
      · exact ⟨by decide, by decide, by decide⟩
      · exact (hdc c e).2
  have hpos : hrp.length ≠ 0 := fun e => hne (List.eq_nil_of_length_eq_zero e)
  have hcond : (decide ((hrp ++ 49 :: dataChars).length > 90) || hrp.length == 0 ||
      decide (hrp.length + 7 > (hrp ++ 49 :: dataChars).length)) = false := by
    simp only [List.length_append, List.length_cons, hdl, Bool.or_eq_false_iff, decide_eq_false_iff_not, beq_eq_false_iff_ne]
    omega
  have hdrop : (hrp ++ 49 :: dataChars).drop (hrp.length + 1) = dataChars := by simp
  have htake : (hrp ++ 49 :: dataChars).take hrp.length = hrp := by simp
  have hlow := map_lowerCase_plain hrp hhrp
  rw [Model.bech32Decode, checkCharacters_plain _ hplain, rfind_append hrp dataChars (fun hm => (hdc 49 hm).1 rfl)]
  simp only [Bool.not_true, Bool.false_eq_true, ↓reduceIte, hcond, hdrop, htake, hvm, hlow, hver]
  cases enc <;> first | exact absurd rfl henc | simp [hcsl]

theorem lowerCase_not_upper (c : UInt8) : ¬ (65 ≤ (Model.lowerCase c).toNat ∧ (Model.lowerCase c).toNat ≤ 90) := by
  unfold Model.lowerCase
  split
  · rename_i hu
    simp at hu
    have : c.toNat - 65 + 97 < 256 := by omega
    simp [Nat.mod_eq_of_lt this]
  · rename_i hu; simpa using hu

theorem verifyChecksum_const (hrp values : Bytes) (enc : Model.Bech32Encoding) (henc : enc ≠ .INVALID)
    (h : Model.verifyChecksum hrp values = enc) : Model.polyMod (Model.expandHRP hrp ++ values) = Model.encodingConstant enc := by
  unfold Model.verifyChecksum at h
  simp only [] at h
  split at h
  · rename_i hc; subst h; simpa using hc
  · split at h
    · rename_i hc; subst h; simpa using hc
    · exact absurd h.symm henc

theorem decode_inv (s hrp data : Bytes) (enc : Model.Bech32Encoding) (h : Model.bech32Decode s = some (enc, hrp, data)) :
    ∃ hd dt values, s = hd ++ 49 :: dt ∧ (49 : UInt8) ∉ dt ∧ Model.bech32Values dt = some values ∧ 6 ≤ values.length ∧
      hrp = hd.map Model.lowerCase ∧ enc ≠ .INVALID ∧ Model.verifyChecksum hrp values = enc ∧
      data = values.take (values.length - 6) := by
  unfold Model.bech32Decode at h
  split at h
  · cases h
  · cases hp : Model.rfindOne s with
    | none => simp [hp] at h
    | some pos =>
      rw [hp] at h
      simp only [] at h
      split at h
      · cases h
      · rename_i hcond
        obtain ⟨hd, dt, hs, hpos, h49⟩ := rfind_split s pos hp
        have hdrop : s.drop (pos + 1) = dt := by
          rw [hs, ← hpos, List.drop_append, List.drop_eq_nil_of_le (by omega)]
          have : hd.length + 1 - hd.length = 1 := by omega
          rw [this]; rfl
        have htake : s.take pos = hd := by rw [hs, ← hpos]; simp
        rw [hdrop, htake] at h
        cases hv : Model.bech32Values dt with
        | none => simp [hv] at h
        | some values =>
          rw [hv] at h
          simp only [] at h
          have hlen6 : 6 ≤ values.length := by
            have v1 : values.length = dt.length := by simpa using (congrArg List.length ((bech32Values_eq_some dt values).1 hv).2).symm
            simp only [Bool.or_eq_true, decide_eq_true_eq, beq_iff_eq, not_or, Nat.not_lt] at hcond
            have : s.length = hd.length + 1 + dt.length := by rw [hs]; simp; omega
            omega
          cases hvc : Model.verifyChecksum (hd.map Model.lowerCase) values with
          | INVALID => simp [hvc] at h
          | BECH32 | BECH32M =>
            all_goals
              rw [hvc] at h
              simp only [Option.some.injEq, Prod.mk.injEq] at h
              obtain ⟨rfl, rfl, rfl⟩ := h
              exact ⟨hd, dt, values, hs, h49, hv, hlen6, rfl, by simp, hvc, rfl⟩

theorem decode_sound (s hrp data : Bytes) (enc : Model.Bech32Encoding) (h : Model.bech32Decode s = some (enc, hrp, data)) :
    Model.bech32Encode enc hrp data = some (s.map Model.lowerCase) := by
  obtain ⟨hd, dt, values, hs, _, hv, hlen6, rfl, henc, hvc, rfl⟩ := decode_inv s _ _ enc h
  obtain ⟨v2, v3⟩ := (bech32Values_eq_some dt values).1 hv
  have hconst := verifyChecksum_const _ _ _ henc hvc
  have hsplit : values = values.take (values.length - 6) ++ values.drop (values.length - 6) := (List.take_append_drop _ _).symm
  rw [hsplit] at hconst
  have hcs := (checksum_iff _ (hd.map Model.lowerCase) _ _ (by simp; omega)
    (fun c hc => v2 c (List.mem_of_mem_drop hc))).1 hconst
  rw [encode_some _ _ _ henc (by
      intro c hc
      obtain ⟨x, _, rfl⟩ := List.mem_map.mp hc
      exact lowerCase_not_upper x)
    (fun v hv' => v2 v (List.mem_of_mem_take hv'))]
  rw [← hcs, ← hsplit, ← v3, hs]
  simp [Model.lowerCase]

theorem decode_values_lt (s hrp data : Bytes) (enc : Model.Bech32Encoding) (h : Model.bech32Decode s = some (enc, hrp, data)) :
    ∀ v ∈ data, v.toNat < 32 := by
  obtain ⟨_, dt, values, _, _, hv, _, _, _, _, rfl⟩ := decode_inv s hrp data enc h
  exact fun v hv' => ((bech32Values_eq_some dt values).1 hv).1 v (List.mem_of_mem_take hv')

theorem xor_eq_zero {a b : Nat} (h : a ^^^ b = 0) : a = b := by
  simpa using ((xor_eq_iff a b 0).1 h).symm

/-- the generator has a non-zero constant term: a non-zero top coefficient never adds a multiple of 32 -/
theorem gen_mod_ne : ∀ c0, c0 < 32 → c0 ≠ 0 → gen c0 % 32 ≠ 0 := by decide +kernel

theorem stepN_zero_ne (c : Nat) (hc : c < 2 ^ 30) (hne : c ≠ 0) : stepN c 0 ≠ 0 := by
  intro h
  unfold stepN at h
  have hc0 : c >>> 25 < 32 := by rw [Nat.shiftRight_eq_div_pow]; omega
  have e8 : (c >>> 25) % 2 ^ 8 = c >>> 25 := Nat.mod_eq_of_lt (by omega)
  rw [e8, Nat.zero_xor] at h
  -- equal numbers have equal residues mod 32; the shifted part is a multiple of 32
  have hx : (c % 2 ^ 25) <<< 5 = gen (c >>> 25) := xor_eq_zero h
  have hmod : gen (c >>> 25) % 32 = 0 := by
    rw [← hx, Nat.shiftLeft_eq]; omega
  by_cases h0 : c >>> 25 = 0
  · rw [h0, gen_zero, Nat.shiftLeft_eq] at hx
    rw [Nat.shiftRight_eq_div_pow] at h0
    omega
  · exact gen_mod_ne _ hc0 h0 hmod

theorem polyFrom_zeros_ne : ∀ (k : Nat) (c : Nat), c < 2 ^ 30 → c ≠ 0 → polyFrom c (List.replicate k 0) ≠ 0 := by
  intro k
  induction k with
  | zero => intro c _ h; exact h
  | succ k ih =>
    intro c hc hne
    simp only [List.replicate_succ, polyFrom, List.foldl_cons]
    exact ih _ (stepN_lt c 0 (by decide)) (stepN_zero_ne c hc hne)

theorem zipWith_xor_self : ∀ (l : List Nat), List.zipWith (· ^^^ ·) l l = List.replicate l.length 0 := by
  intro l
  induction l with
  | nil => rfl
  | cons x xs ih => rw [List.zipWith_cons_cons, ih, Nat.xor_self, List.length_cons, List.replicate_succ]

/-- the remainder after the same symbols tells two registers apart: by linearity their difference runs through
    zero symbols, which never annihilate it -/
theorem polyFrom_inj (l : List Nat) {c c' : Nat} (hc : c < 2 ^ 30) (hc' : c' < 2 ^ 30) (h : polyFrom c l = polyFrom c' l) :
    c = c' := by
  refine xor_eq_zero (Decidable.byContradiction fun hne => ?_)
  have := polyFrom_xor l l c c' rfl
  rw [zipWith_xor_self, h, Nat.xor_self] at this
  exact polyFrom_zeros_ne _ _ (Nat.xor_lt_two_pow hc hc') hne this

theorem polyMod_single_diff (l1 l2 : Bytes) (a a' : UInt8) (h : a ≠ a') :
    Model.polyMod (l1 ++ a :: l2) ≠ Model.polyMod (l1 ++ a' :: l2) := by
  intro heq
  rw [polyMod_append, polyMod_append] at heq
  have hlt : ∀ x : UInt8, stepN (Model.polyMod l1) x.toNat < 2 ^ 30 := fun x =>
    stepN_lt _ _ (by have := x.toNat_lt; omega)
  have hs : stepN (Model.polyMod l1) a.toNat = stepN (Model.polyMod l1) a'.toNat := polyFrom_inj _ (hlt a) (hlt a') heq
  have := stepN_xor (Model.polyMod l1) (Model.polyMod l1) a.toNat a'.toNat
  rw [hs, Nat.xor_self, Nat.xor_self] at this
  exact h (UInt8.toNat_inj.mp (xor_eq_zero (by simpa [stepN, gen_zero] using this)))

theorem single_error_detected (hrp l1 l2 : Bytes) (a a' : UInt8) (h : a ≠ a') (enc : Model.Bech32Encoding) (henc : enc ≠ .INVALID)
    (hv : Model.verifyChecksum hrp (l1 ++ a :: l2) = enc) : Model.verifyChecksum hrp (l1 ++ a' :: l2) ≠ enc := by
  intro hv'
  have c1 := verifyChecksum_const _ _ _ henc hv
  have c2 := verifyChecksum_const _ _ _ henc hv'
  rw [← List.append_assoc] at c1 c2
  exact polyMod_single_diff _ _ a a' h (c1.trans c2.symm)

theorem specStep_eq (chk v : Nat) (h : chk < 2 ^ 30) : Spec.bech32PolymodStep chk v = stepN chk v := by
  unfold Spec.bech32PolymodStep stepN gen
  have hb : chk >>> 25 < 32 := by rw [Nat.shiftRight_eq_div_pow]; omega
  have e8 : (chk >>> 25) % 2 ^ 8 = chk >>> 25 := Nat.mod_eq_of_lt (by omega)
  have em : chk &&& 0x1ffffff = chk % 2 ^ 25 := by
    have : (0x1ffffff : Nat) = 2 ^ 25 - 1 := rfl
    rw [this, Nat.and_two_pow_sub_one_eq_mod]
  rw [e8, em]
  simp only []
  generalize chk >>> 25 = b
  generalize (chk % 2 ^ 25) <<< 5 = x
  have ht : ∀ i, ((b >>> i) % 2 == 1) = b.testBit i := by
    intro i
    rw [Nat.testBit_eq_decide_div_mod_eq, Nat.shiftRight_eq_div_pow]
    rfl
  have hr : List.range 5 = [0, 1, 2, 3, 4] := rfl
  simp only [hr, List.foldl_cons, List.foldl_nil, ht, Spec.bech32Generator, List.getD_cons_zero, List.getD_cons_succ]
  cases b.testBit 0 <;> cases b.testBit 1 <;> cases b.testBit 2 <;> cases b.testBit 3 <;> cases b.testBit 4 <;>
    simp [Nat.xor_assoc]

theorem polyMod_eq_spec (v : Bytes) : Model.polyMod v = Spec.bech32Polymod (v.map UInt8.toNat) := by
  rw [polyMod_eq]
  unfold Spec.bech32Polymod polyFrom
  have : ∀ (vs : List Nat) (c : Nat), c < 2 ^ 30 → (∀ x ∈ vs, x < 2 ^ 30) →
      vs.foldl stepN c = vs.foldl Spec.bech32PolymodStep c := by
    intro vs
    induction vs with
    | nil => intros; rfl
    | cons x xs ih =>
      intro c hc hx
      simp only [List.foldl_cons]
      rw [specStep_eq c x hc]
      exact ih _ (stepN_lt c x (hx x (by simp))) (fun y hy => hx y (by simp [hy]))
  exact this _ _ (by decide) (fun x hx => Nat.lt_trans (bytes_allLt v x hx) (by decide))

def variantOf : Model.Bech32Encoding → Spec.Bech32Variant
  | .BECH32M => .bech32m
  | _ => .bech32

theorem expandHRP_spec (hrp : Bytes) : (Model.expandHRP hrp).map UInt8.toNat = Spec.bech32HrpExpand hrp := by
  unfold Model.expandHRP Spec.bech32HrpExpand
  simp only [List.map_append, List.map_map, List.map_cons, List.map_nil]
  congr 1
  · congr 1
    apply List.map_congr_left
    intro c _
    simp [UInt8.toNat_shiftRight, Nat.shiftRight_eq_div_pow]
  · apply List.map_congr_left
    intro c _
    show (c &&& 0x1f).toNat = c.toNat % 32
    rw [UInt8.toNat_and]
    have : (0x1f : UInt8).toNat = 2 ^ 5 - 1 := rfl
    rw [this, Nat.and_two_pow_sub_one_eq_mod]

theorem const_spec (enc : Model.Bech32Encoding) (henc : enc ≠ .INVALID) :
    Model.encodingConstant enc = Spec.bech32Const (variantOf enc) := by
  cases enc <;> first | exact absurd rfl henc | rfl

theorem createChecksum_spec (enc : Model.Bech32Encoding) (henc : enc ≠ .INVALID) (hrp values : Bytes) :
    (Model.createChecksum enc hrp values).map UInt8.toNat =
      Spec.bech32CreateChecksum (variantOf enc) hrp (values.map UInt8.toNat) := by
  have hp : Model.polyMod (Model.expandHRP hrp ++ values ++ List.replicate 6 0) =
      Spec.bech32Polymod (Spec.bech32HrpExpand hrp ++ values.map UInt8.toNat ++ [0, 0, 0, 0, 0, 0]) := by
    rw [polyMod_eq_spec, List.map_append, List.map_append, expandHRP_spec]
    rfl
  rw [Model.createChecksum, List.map_map, hp, const_spec enc henc, Spec.bech32CreateChecksum]
  refine List.map_congr_left (fun i _ => ?_)
  exact UInt8.toNat_ofNat_of_lt' (show _ % 32 < 256 by omega)

/-- under the conditions under which the C++ neither asserts nor reads outside `CHARSET`, `bech32::Encode` returns the
    string BIP173 / BIP350 define -/
theorem encode_spec (enc : Model.Bech32Encoding) (henc : enc ≠ .INVALID) (hrp values : Bytes)
    (hhrp : ∀ c ∈ hrp, ¬ (65 ≤ c.toNat ∧ c.toNat ≤ 90)) (hvals : ∀ v ∈ values, v.toNat < 32) :
    Model.bech32Encode enc hrp values = some (Spec.bech32Encode (variantOf enc) hrp (values.map UInt8.toNat)) := by
  rw [encode_some enc hrp values henc hhrp hvals]
  unfold Spec.bech32Encode
  congr 1
  rw [List.append_assoc]
  congr 1
  show 49 :: _ = UInt8.ofNat 49 :: _
  congr 1
  rw [← createChecksum_spec enc henc, ← List.map_append, List.map_map]
  apply List.map_congr_left
  intro c hc
  exact charset_spec (append_createChecksum_lt enc hrp hvals c hc)

end Btcdeb.Bech32
