/-
  `bech32::Decode` of bech32.cpp is BIP173 / BIP350's reference `bech32_decode`.
-/
import BtcdebProofs.Lemmas.Bech32
namespace Btcdeb.Bech32
open Btcdeb

theorem lowerCase_spec (c : UInt8) : Model.lowerCase c = Spec.toLowerB c := by
  unfold Model.lowerCase Spec.toLowerB Spec.isUpperB
  split
  · rename_i h
    simp only [Bool.and_eq_true, decide_eq_true_eq] at h
    have : c.toNat - 65 + 97 = c.toNat + 32 := by omega
    rw [this]
  · rfl

theorem values_spec (cs : Bytes) :
    (Model.bech32Values cs).map (fun vs => vs.map UInt8.toNat) = (cs.map Spec.toLowerB).mapM Spec.bech32Digit := by
  rw [bech32Values_eq, show cs.map Spec.toLowerB = cs.map Model.lowerCase from List.map_congr_left (fun c _ => (lowerCase_spec c).symm)]
  cases hm : (cs.map Model.lowerCase).mapM Spec.bech32Digit with
  | none => rfl
  | some ds =>
    obtain ⟨hall, _⟩ := (alphabet.mapM_digit_eq_some 'q' _ ds).1 hm
    rw [Option.map_some, Option.map_some]
    exact congrArg some (Numeral.map_toNat_ofNat ds (fun d hd => Nat.lt_trans (hall d hd) (by decide)))

theorem toLower_one (x : UInt8) : (Spec.toLowerB x == 49) = (x == 49) := by
  unfold Spec.toLowerB Spec.isUpperB
  split
  · rename_i h
    simp only [Bool.and_eq_true, decide_eq_true_eq] at h
    have h1 : x ≠ 49 := by intro e; subst e; simp at h
    have h2 : UInt8.ofNat (x.toNat + 32) ≠ 49 := by
      intro e
      have := congrArg UInt8.toNat e
      have hlt : x.toNat + 32 < 256 := by omega
      simp [Nat.mod_eq_of_lt hlt] at this
      omega
    have e1 : (UInt8.ofNat (x.toNat + 32) == 49) = false := by simpa using h2
    have e2 : (x == 49) = false := by simpa using h1
    rw [e1, e2]
  · rfl

theorem idxOf_map_lower : ∀ (l : Bytes), (l.map Spec.toLowerB).idxOf? 49 = l.idxOf? 49 := by
  intro l
  induction l with
  | nil => rfl
  | cons x xs ih => rw [List.map_cons, List.idxOf?_cons, List.idxOf?_cons, toLower_one, ih]

theorem rfind_spec (s : Bytes) : Model.rfindOne s = Spec.lastSeparator (s.map Spec.toLowerB) := by
  unfold Model.rfindOne Spec.lastSeparator
  have : UInt8.ofNat '1'.toNat = 49 := by decide
  rw [this, ← List.map_reverse, idxOf_map_lower, List.length_map]
  rfl

theorem verify_spec (hrp values : Bytes) :
    (match Model.verifyChecksum hrp values with
     | .INVALID => none
     | e => some (variantOf e)) = Spec.bech32Verify hrp (values.map UInt8.toNat) := by
  unfold Model.verifyChecksum Spec.bech32Verify
  simp only []
  rw [polyMod_eq_spec, List.map_append, expandHRP_spec]
  generalize Spec.bech32Polymod (Spec.bech32HrpExpand hrp ++ values.map UInt8.toNat) = c
  show (match (if c == 1 then Model.Bech32Encoding.BECH32 else if c == 0x2bc830a3 then .BECH32M else .INVALID) with
      | .INVALID => none | e => some (variantOf e)) =
    (if c == 1 then some Spec.Bech32Variant.bech32 else if c == 0x2bc830a3 then some .bech32m else none)
  by_cases h1 : (c == 1) = true
  · simp [h1, variantOf]
  · by_cases h2 : (c == 0x2bc830a3) = true
    · simp [h1, h2, variantOf]
    · simp [h1, h2]

/-- `bech32::Decode` is BIP173 / BIP350's `bech32_decode`: same acceptance, same variant, same human-readable part,
    same 5-bit data -/
theorem decode_spec (s : Bytes) :
    (Model.bech32Decode s).map (fun r => (variantOf r.1, r.2.1, r.2.2.map UInt8.toNat)) = Spec.bech32Decode s := by
  unfold Model.bech32Decode Spec.bech32Decode
  rw [checkCharacters_spec]
  have hoor : (s.any fun c => decide (c.toNat < 33) || decide (c.toNat > 126)) = s.any outOfRange := rfl
  rw [hoor]
  cases h1 : s.any outOfRange with
  | true => simp
  | false =>
    cases h2 : (s.any Spec.isUpperB && s.any Spec.isLowerB) with
    | true => simp
    | false =>
      simp only [Bool.not_false, Bool.and_self, Bool.not_true, Bool.false_eq_true, ↓reduceIte]
      rw [← rfind_spec]
      cases hp : Model.rfindOne s with
      | none => simp
      | some pos =>
        simp only [List.length_map]
        have hcond : (decide (s.length > 90) || pos == 0 || decide (pos + 7 > s.length)) =
            (decide (pos < 1) || decide (pos + 7 > s.length) || decide (s.length > 90)) := by
          have : (pos == 0) = decide (pos < 1) := by
            cases pos <;> simp
          rw [this]
          cases decide (s.length > 90) <;> cases decide (pos < 1) <;> cases decide (pos + 7 > s.length) <;> rfl
        rw [hcond]
        cases hc : (decide (pos < 1) || decide (pos + 7 > s.length) || decide (s.length > 90)) with
        | true => simp
        | false =>
          simp only [Bool.false_eq_true, ↓reduceIte]
          rw [← List.map_drop, ← values_spec]
          cases hv : Model.bech32Values (s.drop (pos + 1)) with
          | none => simp
          | some values =>
            simp only [Option.map_some]
            have hhrp : (s.take pos).map Model.lowerCase = (s.map Spec.toLowerB).take pos := by
              rw [← List.map_take]
              apply List.map_congr_left
              intro c _
              exact lowerCase_spec c
            rw [← hhrp, ← verify_spec]
            cases Model.verifyChecksum ((s.take pos).map Model.lowerCase) values with
            | INVALID => rfl
            | BECH32 => simp [variantOf, List.map_take]
            | BECH32M => simp [variantOf, List.map_take]

end Btcdeb.Bech32
