/-
  One decoded instruction, in the three vocabularies of the development: `Spec.decodeOne` (the specification's
  decoder), `Model.getOp` (`GetScriptOp`) and `instrLen` (the number of bytes the instruction takes, as
  `Spec.deleteAt` computes it).  The shape of an instruction is stated once for `Spec.decodeOne` — an equation
  for the opcodes above OP_PUSHDATA4, an iff for the push opcodes — and the other two are tied to it once each.
  On top: scripts that are sequences of complete instructions (`Parses` ⇔ `Spec.decode ≠ none`), the
  specification's instruction list unfolded along `GetScriptOp`, and the induction along `GetScriptOp`.
  A few names keep the namespace of the files that use them (`Proofs.Sighash`, `Proofs.SigOps`, `Proofs.SpecEval`).
-/
import Btcdeb
import BtcdebProofs.Lemmas.LE
namespace Btcdeb.Refine
open Btcdeb Model

/-- length of the instruction at the head of `s` in the spec's vocabulary
    (`none`: empty script or truncated instruction) -/
def instrLen (s : Bytes) : Option Nat :=
  match s with
  | [] => none
  | b :: rest =>
    let opc := b.toNat
    let lb := Spec.pushLenBytes opc
    if opc ≤ 0x4e then
      if rest.length < lb then none
      else
        let n := if lb = 0 then opc else leValue (rest.take lb)
        let total := 1 + lb + n
        if s.length < total then none else some total
    else some 1

theorem decodeOne_op (b : UInt8) (rest : Bytes) (h : 0x4e < b.toNat) :
    Spec.decodeOne (b :: rest) = some (⟨b.toNat, []⟩, rest) := by
  simp only [Spec.decodeOne, Nat.not_le.mpr h, if_false]

/-- `lf` is the length field (0, 1, 2 or 4 bytes).  An iff, because both directions are read off it: what the decoders do on
    a script of known shape, and what a result of known shape says about the script. -/
theorem decodeOne_push_iff {b : UInt8} {rest : Bytes} {i : Spec.Instr} {after : Bytes} (hb : b.toNat ≤ 0x4e) :
    Spec.decodeOne (b :: rest) = some (i, after) ↔
      ∃ lf, rest = lf ++ (i.data ++ after) ∧ i.opcode = b.toNat ∧ lf.length = Spec.pushLenBytes b.toNat ∧
        i.data.length = (if lf.length = 0 then b.toNat else leValue lf) := by
  simp only [Spec.decodeOne, hb, if_true]
  generalize Spec.pushLenBytes b.toNat = lb
  constructor
  · intro h
    by_cases h1 : rest.length < lb
    · rw [if_pos h1] at h; cases h
    · rw [if_neg h1] at h
      have hl : (rest.take lb).length = lb := by rw [List.length_take]; omega
      generalize hn : (if lb = 0 then b.toNat else leValue (rest.take lb)) = n at h
      by_cases h2 : (rest.drop lb).length < n
      · rw [if_pos h2] at h; cases h
      · rw [if_neg h2, Option.some.injEq, Prod.mk.injEq] at h
        obtain ⟨rfl, rfl⟩ := h
        refine ⟨rest.take lb, ?_, rfl, hl, ?_⟩
        · rw [List.take_append_drop, List.take_append_drop]
        · rw [hl, hn, List.length_take]; omega
  · rintro ⟨lf, rfl, ho, rfl, hd⟩
    have h1 : ¬ (lf ++ (i.data ++ after)).length < lf.length := by simp
    have h2 : ¬ (i.data ++ after).length < i.data.length := by simp
    rw [if_neg h1, List.take_left' rfl, List.drop_left' rfl, ← hd, if_neg h2, List.take_left' rfl, List.drop_left' rfl, ← ho]

theorem pushLenBytes_eq_zero {n : Nat} : Spec.pushLenBytes n = 0 ↔ n < 0x4c := by
  unfold Spec.pushLenBytes
  by_cases h : n < 0x4c
  · simp [h]
  · simp only [h, if_false, iff_false]
    repeat' split
    all_goals decide

theorem decodeOne_push (b : UInt8) (data rest : Bytes) (h : b.toNat < 0x4c) (hl : data.length = b.toNat) :
    Spec.decodeOne (b :: (data ++ rest)) = some (⟨b.toNat, data⟩, rest) :=
  (decodeOne_push_iff (by omega)).mpr ⟨[], rfl, rfl, (pushLenBytes_eq_zero.mpr h).symm, by simpa using hl⟩

theorem decodeOne_split {s after : Bytes} {i : Spec.Instr} (h : Spec.decodeOne s = some (i, after)) :
    ∃ w, w ≠ [] ∧ s = w ++ after ∧ ∀ x, Spec.decodeOne (w ++ x) = some (i, x) := by
  cases s with
  | nil => cases h
  | cons b rest =>
    by_cases hb : b.toNat ≤ 0x4e
    · obtain ⟨lf, rfl, h'⟩ := (decodeOne_push_iff hb).mp h
      exact ⟨b :: (lf ++ i.data), List.cons_ne_nil _ _, by simp,
        fun x => (decodeOne_push_iff hb).mpr ⟨lf, by simp, h'⟩⟩
    · have hb : 0x4e < b.toNat := by omega
      rw [decodeOne_op b rest hb] at h
      cases h
      exact ⟨[b], List.cons_ne_nil _ _, rfl, fun x => decodeOne_op b x hb⟩

theorem getOp_decodeOne (pc : Bytes) :
    (getOp pc).map (fun g => ((⟨g.opcode, g.data⟩ : Spec.Instr), g.rest)) = Spec.decodeOne pc := by
  cases pc with
  | nil => rfl
  | cons b rest =>
    -- behind a length field of `k` bytes both decoders do the same
    have field : ∀ (k o : Nat),
        (match (if rest.length < k then none else some (leValue (rest.take k), rest.drop k) : Option (Nat × Bytes)) with
          | none => none
          | some (nSize, pc2) => if pc2.length < nSize then none else some (⟨o, pc2.take nSize, pc2.drop nSize⟩ : GotOp)).map
          (fun g : GotOp => ((⟨g.opcode, g.data⟩ : Spec.Instr), g.rest)) =
        if rest.length < k then none
        else if (rest.drop k).length < leValue (rest.take k) then none
        else some (⟨o, (rest.drop k).take (leValue (rest.take k))⟩, (rest.drop k).drop (leValue (rest.take k))) := by
      intro k o
      by_cases hl : rest.length < k
      · rw [if_pos hl, if_pos hl]; rfl
      · rw [if_neg hl, if_neg hl]; dsimp only; split <;> rfl
    simp only [getOp, Spec.decodeOne, Spec.pushLenBytes, Op.OP_PUSHDATA4, Op.OP_PUSHDATA1, Op.OP_PUSHDATA2]
    by_cases h1 : b.toNat ≤ 78
    · have : b.toNat < 76 ∨ b.toNat = 76 ∨ b.toNat = 77 ∨ b.toNat = 78 := by omega
      rcases this with h | h | h | h <;>
        simp only [h, h1, if_true, if_false, Nat.lt_irrefl, Nat.reduceLT, Nat.reduceEqDiff, Nat.reduceLeDiff, Nat.not_lt_zero,
          List.drop_zero, reduceCtorEq]
      · split <;> rfl
      · exact field 1 76
      · exact field 2 77
      · exact field 4 78
    · simp only [h1, if_false, Option.map_some]

theorem getOp_eq_some_iff {s : Bytes} {g : GotOp} :
    getOp s = some g ↔ Spec.decodeOne s = some (⟨g.opcode, g.data⟩, g.rest) := by
  rw [← getOp_decodeOne]
  cases getOp s with
  | none => simp
  | some g' => cases g; cases g'; simp [and_assoc]

theorem getOp_of_decodeOne {s : Bytes} {i : Spec.Instr} {after : Bytes} (h : Spec.decodeOne s = some (i, after)) :
    getOp s = some { opcode := i.opcode, data := i.data, rest := after } :=
  getOp_eq_some_iff.mpr h

theorem getOp_none_of_decodeOne {pc : Bytes} (h : Spec.decodeOne pc = none) : getOp pc = none :=
  Option.map_eq_none_iff.mp ((getOp_decodeOne pc).trans h)

theorem decodeOne_rest_lt {pc : Bytes} {i : Spec.Instr} {after : Bytes} (h : Spec.decodeOne pc = some (i, after)) :
    after.length < pc.length :=
  getOp_rest_lt (getOp_of_decodeOne h)

theorem instrLen_eq (s : Bytes) : instrLen s = (Spec.decodeOne s).map fun p => s.length - p.2.length := by
  cases s with
  | nil => rfl
  | cons b rest =>
    simp only [Spec.decodeOne, instrLen]
    generalize Spec.pushLenBytes b.toNat = lb
    by_cases h1 : b.toNat ≤ 0x4e
    · rw [if_pos h1, if_pos h1]
      by_cases h2 : rest.length < lb
      · rw [if_pos h2, if_pos h2]; rfl
      · rw [if_neg h2, if_neg h2]
        generalize (if lb = 0 then b.toNat else leValue (rest.take lb)) = n
        -- the two functions make the same test
        have hlen : (rest.drop lb).length < n ↔ (b :: rest).length < 1 + lb + n := by
          simp only [List.length_drop, List.length_cons]; omega
        by_cases h3 : (rest.drop lb).length < n
        · rw [if_pos h3, if_pos (hlen.mp h3)]; rfl
        · rw [if_neg h3, if_neg (mt hlen.mpr h3)]
          simp only [Option.map_some, List.length_drop, List.length_cons] at h3 ⊢
          congr 1; omega
    · rw [if_neg h1, if_neg h1]; simp

theorem instrLen_eq_some_iff {s : Bytes} {t : Nat} :
    instrLen s = some t ↔ ∃ i, Spec.decodeOne s = some (i, s.drop t) ∧ 0 < t ∧ t ≤ s.length := by
  rw [instrLen_eq]
  constructor
  · intro h
    cases hd : Spec.decodeOne s with
    | none => rw [hd] at h; cases h
    | some p =>
      obtain ⟨w, hw, rfl, -⟩ := decodeOne_split hd
      rw [hd] at h
      simp only [Option.map_some, Option.some.injEq, List.length_append, Nat.add_sub_cancel] at h
      subst h
      exact ⟨p.1, by rw [List.drop_left], List.length_pos_iff.mpr hw, by simp⟩
  · rintro ⟨i, hd, h0, hl⟩
    rw [hd]
    simp only [Option.map_some, List.length_drop]
    congr 1; omega

theorem decodeOne_opcode {b : UInt8} {rest after : Bytes} {i : Spec.Instr} (h : Spec.decodeOne (b :: rest) = some (i, after)) :
    i.opcode = b.toNat := by
  by_cases hb : b.toNat ≤ 0x4e
  · obtain ⟨_, _, ho, _⟩ := (decodeOne_push_iff hb).mp h
    exact ho
  · rw [decodeOne_op b rest (by omega)] at h
    cases h; rfl

theorem getOp_op (b : UInt8) (rest : Bytes) (h : 0x4e < b.toNat) :
    getOp (b :: rest) = some { opcode := b.toNat, data := [], rest := rest } :=
  getOp_of_decodeOne (decodeOne_op b rest h)

theorem getOp_push_direct (b : UInt8) (data rest : Bytes) (h : b.toNat < 0x4c) (hl : data.length = b.toNat) :
    getOp (b :: (data ++ rest)) = some { opcode := b.toNat, data := data, rest := rest } :=
  getOp_of_decodeOne (decodeOne_push b data rest h hl)

theorem getOp_push_end (b : UInt8) (data : Bytes) (h : b.toNat < 0x4c) (hl : data.length = b.toNat) :
    getOp (b :: data) = some { opcode := b.toNat, data := data, rest := [] } := by
  have := getOp_push_direct b data [] h hl
  rwa [List.append_nil] at this

/-- the opcode byte of `Spec.lengthPush` for data of `n` bytes -/
def lengthOp (n : Nat) : Nat := if n < 0x4c then n else if n ≤ 0xff then 0x4c else if n ≤ 0xffff then 0x4d else 0x4e

theorem lengthOp_le (n : Nat) : lengthOp n ≤ 0x4e := by
  unfold lengthOp
  split
  · omega
  · split
    · omega
    · split <;> omega

theorem pushOf_eq_lengthPush : Spec.pushOf = Spec.lengthPush := rfl

/-- 2^32 is what the longest length field, of four bytes, can hold -/
theorem decodeOne_lengthPush (d rest : Bytes) (hd : d.length < 2 ^ 32) :
    Spec.decodeOne (Spec.lengthPush d ++ rest) = some (⟨lengthOp d.length, d⟩, rest) := by
  have hof : ∀ n, n ≤ 0xff → (UInt8.ofNat n).toNat = n := fun n h => by rw [UInt8.toNat_ofNat']; omega
  -- the length in a field of `k` bytes
  have field : ∀ (b : UInt8) (k : Nat), b.toNat ≤ 0x4e → Spec.pushLenBytes b.toNat = k → k ≠ 0 → d.length < 256 ^ k →
      Spec.decodeOne (b :: (leFixed k d.length ++ (d ++ rest))) = some (⟨b.toNat, d⟩, rest) := fun b k hb hk hk0 hlt =>
    (decodeOne_push_iff hb).mpr ⟨_, rfl, rfl, by rw [leFixed_length, hk],
      by rw [leFixed_length, if_neg hk0, leValue_leFixed, Nat.mod_eq_of_lt hlt]⟩
  unfold Spec.lengthPush lengthOp
  by_cases h1 : d.length < 0x4c
  · have := decodeOne_push (UInt8.ofNat d.length) d rest (by rw [hof _ (by omega)]; exact h1) (hof _ (by omega)).symm
    rw [hof _ (by omega)] at this
    simpa [h1] using this
  · by_cases h2 : d.length ≤ 0xff
    · have := field 0x4c 1 (by decide) rfl (by decide) (by simp; omega)
      simpa [h1, h2, leFixed, Nat.mod_eq_of_lt (show d.length < 256 by omega)] using this
    · by_cases h3 : d.length ≤ 0xffff
      · simpa [h1, h2, h3] using field 0x4d 2 (by decide) rfl (by decide) (by simp; omega)
      · simpa [h1, h2, h3] using field 0x4e 4 (by decide) rfl (by decide) (by simp; omega)

theorem decodePrefix_succ (fuel : Nat) (s : Bytes) (hs : s ≠ []) :
    Spec.decodePrefix (fuel + 1) s =
      match Spec.decodeOne s with
      | none => ([], false)
      | some (i, after) => ((i, after) :: (Spec.decodePrefix fuel after).1, (Spec.decodePrefix fuel after).2) := by
  cases s with
  | nil => exact absurd rfl hs
  | cons b rest =>
    simp only [Spec.decodePrefix]
    cases Spec.decodeOne (b :: rest) with
    | none => rfl
    | some p => rfl

theorem decodePrefix_fuel : ∀ (fuel fuel' : Nat) (s : Bytes), s.length ≤ fuel → s.length ≤ fuel' →
    Spec.decodePrefix fuel s = Spec.decodePrefix fuel' s := by
  intro fuel
  induction fuel with
  | zero =>
    intro fuel' s h _
    obtain rfl : s = [] := List.length_eq_zero_iff.mp (by omega)
    cases fuel' <;> rfl
  | succ f ih =>
    intro fuel' s h h'
    cases s with
    | nil => cases fuel' <;> rfl
    | cons b r =>
      obtain ⟨f', rfl⟩ : ∃ f', fuel' = f' + 1 := ⟨fuel' - 1, by simp only [List.length_cons] at h'; omega⟩
      rw [decodePrefix_succ f _ (List.cons_ne_nil _ _), decodePrefix_succ f' _ (List.cons_ne_nil _ _)]
      cases hd : Spec.decodeOne (b :: r) with
      | none => rfl
      | some p =>
        have hlt := decodeOne_rest_lt hd
        simp only [List.length_cons] at hlt h h'
        simp only [ih f' p.2 (by omega) (by omega)]

theorem decodePrefix_step {s : Bytes} {i : Spec.Instr} {after : Bytes} (h : Spec.decodeOne s = some (i, after)) :
    Spec.decodePrefix s.length s =
      ((i, after) :: (Spec.decodePrefix after.length after).1, (Spec.decodePrefix after.length after).2) := by
  have hlt := decodeOne_rest_lt h
  cases s with
  | nil => cases h
  | cons b r =>
    simp only [List.length_cons] at hlt ⊢
    rw [decodePrefix_succ r.length (b :: r) (List.cons_ne_nil _ _), h]
    simp only
    rw [decodePrefix_fuel r.length after.length after (by omega) (Nat.le_refl _)]

/-- what every scan of a script by repeated `GetScriptOp` (`HasValidOps`, `IsPushOnly`, the OP_SUCCESSx scan) is compared with -/
theorem decodePrefix_getOp (s : Bytes) :
    Spec.decodePrefix s.length s =
      match getOp s with
      | none => ([], s.isEmpty)
      | some g => ((⟨g.opcode, g.data⟩, g.rest) :: (Spec.decodePrefix g.rest.length g.rest).1,
                   (Spec.decodePrefix g.rest.length g.rest).2) := by
  cases hg : getOp s with
  | some g => exact decodePrefix_step (getOp_eq_some_iff.mp hg)
  | none =>
    cases s with
    | nil => rfl
    | cons b r =>
      have hd : Spec.decodeOne (b :: r) = none := by rw [← getOp_decodeOne, hg]; rfl
      rw [List.length_cons, decodePrefix_succ _ _ (List.cons_ne_nil _ _), hd]
      rfl

theorem getOp_induction {P : Bytes → Prop} (step : ∀ s, (∀ g, getOp s = some g → P g.rest) → P s) (s : Bytes) : P s := by
  induction hn : s.length using Nat.strongRecOn generalizing s with
  | _ n ih => exact step s fun g hg => ih _ (hn ▸ getOp_rest_lt hg) _ rfl

theorem decode_iff_complete (s : Bytes) : Spec.decode s ≠ none ↔ (Spec.decodePrefix s.length s).2 = true := by
  unfold Spec.decode Spec.decodeWithRest
  cases h : (Spec.decodePrefix s.length s).2 <;> simp [h]

end Btcdeb.Refine

namespace Btcdeb.Proofs.SpecEval

theorem decodePrefix_nil (fuel : Nat) : Spec.decodePrefix fuel [] = ([], true) := by
  cases fuel <;> rfl

end Btcdeb.Proofs.SpecEval

namespace Btcdeb.Proofs.SigOps
open Btcdeb Btcdeb.Model Btcdeb.Refine

theorem instrLen_of_decodeOne {s : Bytes} {i : Spec.Instr} {after : Bytes} (h : Spec.decodeOne s = some (i, after)) :
    ∃ t, instrLen s = some t ∧ after = s.drop t := by
  obtain ⟨w, hw, rfl, -⟩ := decodeOne_split h
  exact ⟨w.length, instrLen_eq_some_iff.mpr ⟨i, by rwa [List.drop_left], List.length_pos_iff.mpr hw, by simp⟩,
    by rw [List.drop_left]⟩

end Btcdeb.Proofs.SigOps

namespace Btcdeb.Refine
open Btcdeb Model

theorem getOp_some {s : Bytes} {g : GotOp} (h : getOp s = some g) :
    ∃ t, instrLen s = some t ∧ 0 < t ∧ t ≤ s.length ∧ g.rest = s.drop t := by
  obtain ⟨t, ht, hr⟩ := Proofs.SigOps.instrLen_of_decodeOne (getOp_eq_some_iff.mp h)
  obtain ⟨-, -, h0, hl⟩ := instrLen_eq_some_iff.mp ht
  exact ⟨t, ht, h0, hl, hr⟩

theorem getOp_of_instrLen {b : UInt8} {r : Bytes} {t : Nat} (ht : instrLen (b :: r) = some t) :
    ∃ g, getOp (b :: r) = some g ∧ g.opcode = b.toNat ∧ g.rest = (b :: r).drop t := by
  obtain ⟨i, hd, -⟩ := instrLen_eq_some_iff.mp ht
  exact ⟨_, getOp_of_decodeOne hd, decodeOne_opcode hd, rfl⟩

end Btcdeb.Refine

namespace Btcdeb.Proofs.Sighash
open Btcdeb Btcdeb.Model Btcdeb.Refine

/-- The script is a sequence of complete instructions: the inductive form of `Spec.decode s ≠ none`
    (`SigOps.parses_iff_decode`), over which the two loops of `SerializeScriptCode` are followed. -/
inductive Parses : Bytes → Prop
  | nil : Parses []
  | step {s : Bytes} {t : Nat} : instrLen s = some t → Parses (s.drop t) → Parses s

theorem parses_decodeOne {s after : Bytes} {i : Spec.Instr} (h : Spec.decodeOne s = some (i, after)) :
    Parses s ↔ Parses after := by
  obtain ⟨t, ht, rfl⟩ := SigOps.instrLen_of_decodeOne h
  refine ⟨fun hp => ?_, Parses.step ht⟩
  cases hp with
  | nil => cases h
  | step ht' hp' => rw [ht] at ht'; cases ht'; exact hp'

end Btcdeb.Proofs.Sighash

namespace Btcdeb.Proofs.SigOps
open Btcdeb Btcdeb.Model Btcdeb.Refine Btcdeb.Proofs.Sighash

theorem parses_iff_decode (s : Bytes) : Parses s ↔ Spec.decode s ≠ none := by
  rw [decode_iff_complete]
  constructor
  · intro hp
    induction hp with
    | nil => rfl
    | step ht _ ih =>
      obtain ⟨i, hd, -⟩ := instrLen_eq_some_iff.mp ht
      rw [decodePrefix_step hd]
      exact ih
  · refine getOp_induction (P := fun s => (Spec.decodePrefix s.length s).2 = true → Parses s) (fun s ih h => ?_) s
    rw [decodePrefix_getOp] at h
    cases hg : getOp s with
    | none =>
      rw [hg] at h
      cases s with
      | nil => exact .nil
      | cons _ _ => cases h
    | some g =>
      rw [hg] at h
      exact (parses_decodeOne (getOp_eq_some_iff.mp hg)).mpr (ih g hg h)

end Btcdeb.Proofs.SigOps
