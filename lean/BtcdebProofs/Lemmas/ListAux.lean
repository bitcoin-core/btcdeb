/-
  `takeWhile`, `dropWhile`, `idxOf?`, `getD`, `set`, `filter`, and `mapM` / `foldlM` into `Option` on lists: the facts the
  proofs about scanners, character-by-character decoders and buffers need beyond Lean's library.
-/
namespace Btcdeb.ListAux

variable {α : Type _}

theorem takeWhile_all (p : α → Bool) (l : List α) (h : ∀ x ∈ l, p x = true) : l.takeWhile p = l := by
  simpa using List.takeWhile_append_of_pos (l₂ := []) h

theorem dropWhile_all (p : α → Bool) (l : List α) (h : ∀ x ∈ l, p x = true) : l.dropWhile p = [] := by
  simpa using List.dropWhile_append_of_pos (l₂ := []) h

theorem dropWhile_none (p : α → Bool) (l : List α) (h : ∀ x ∈ l, p x = false) : l.dropWhile p = l := by
  cases l with
  | nil => rfl
  | cons x xs => exact List.dropWhile_cons_of_neg (by simp [h x List.mem_cons_self])

theorem takeWhile_append_cons_of_neg {p : α → Bool} (l : List α) {x : α} (r : List α) (hx : p x = false) :
    (l ++ x :: r).takeWhile p = l.takeWhile p := by
  rw [List.takeWhile_append]
  split
  · next h => rw [List.takeWhile_cons_of_neg (by simp [hx]), List.append_nil, (List.takeWhile_sublist _).eq_of_length h]
  · rfl

theorem takeWhile_append_stop (p : α → Bool) (l : List α) (x : α) (r : List α) (hl : ∀ y ∈ l, p y = true) (hx : p x = false) :
    (l ++ x :: r).takeWhile p = l := by
  rw [takeWhile_append_cons_of_neg l r hx, takeWhile_all p l hl]

theorem takeWhile_split (p q : α → Bool) (hpq : ∀ x, p x = true → q x = true) (l : List α) :
    l.takeWhile q = l.takeWhile p ++ (l.dropWhile p).takeWhile q := by
  conv => lhs; rw [← List.takeWhile_append_dropWhile (p := p) (l := l)]
  exact List.takeWhile_append_of_pos (fun x hx => hpq x (List.all_eq_true.mp List.all_takeWhile x hx))

theorem dropWhile_split (p q : α → Bool) (hpq : ∀ x, p x = true → q x = true) (l : List α) :
    l.dropWhile q = (l.dropWhile p).dropWhile q := by
  conv => lhs; rw [← List.takeWhile_append_dropWhile (p := p) (l := l)]
  exact List.dropWhile_append_of_pos (fun x hx => hpq x (List.all_eq_true.mp List.all_takeWhile x hx))

theorem head?_dropWhile (p : α → Bool) (l : List α) (x : α) (h : (l.dropWhile p).head? = some x) : p x = false := by
  have := List.head?_dropWhile_not p l
  rwa [h] at this

theorem dropWhile_head_not (p : α → Bool) (l : List α) :
    l.dropWhile p = [] ∨ ∃ x xs, l.dropWhile p = x :: xs ∧ p x = false := by
  cases h : l.dropWhile p with
  | nil => exact Or.inl rfl
  | cons x xs => exact Or.inr ⟨x, xs, rfl, head?_dropWhile p l x (by rw [h]; rfl)⟩

theorem head?_takeWhile (q : α → Bool) (l : List α) (x : α) (h : (l.takeWhile q).head? = some x) : l.head? = some x :=
  (Option.filter_eq_some_iff.mp (List.head?_takeWhile ▸ h)).1

theorem getD_mem {d : α} (l : List α) (i : Nat) (h : i < l.length) : l.getD i d ∈ l := by
  rw [List.getD_eq_getElem?_getD, List.getElem?_eq_getElem h]
  exact List.getElem_mem h

theorem getD_lt_of_ne (l : List α) (i : Nat) (d : α) (h : l.getD i d ≠ d) : i < l.length :=
  Nat.lt_of_not_le fun hn => h (by rw [List.getD_eq_getElem?_getD, List.getElem?_eq_none hn]; rfl)

theorem range_map_getD {β : Type _} (l : List α) (d : α) (f : α → β) :
    (List.range l.length).map (fun i => f (l.getD i d)) = l.map f := by
  apply List.ext_getElem
  · simp
  · intro i h1 h2
    simp only [List.length_map, List.length_range] at h1
    simp [List.getD, h1]

theorem take_set_succ (l : List α) (k : Nat) (v : α) (h : k < l.length) : (l.set k v).take (k + 1) = l.take k ++ [v] := by
  rw [List.take_add_one, List.getElem?_set_self h, List.take_set_of_le (Nat.le_refl _)]
  rfl

theorem length_filter_beq_zero (p : α → Bool) (l : List α) : ((l.filter p).length == 0) = !l.any p := by
  induction l with
  | nil => rfl
  | cons c cs ih =>
    rw [List.filter_cons, List.any_cons]
    cases p c
    · exact ih
    · rfl

variable [BEq α] [LawfulBEq α]

theorem takeWhile_beq_eq_replicate (a : α) (l : List α) :
    l.takeWhile (· == a) = List.replicate (l.takeWhile (· == a)).length a :=
  List.eq_replicate_iff.mpr ⟨rfl, fun b hb => by simpa using List.all_eq_true.mp List.all_takeWhile b hb⟩

theorem takeWhile_replicate_append (k : Nat) (a : α) (l : List α) (h : l.head? ≠ some a) :
    (List.replicate k a ++ l).takeWhile (· == a) = List.replicate k a := by
  rw [List.takeWhile_append_of_pos (by simp)]
  cases l with
  | nil => simp
  | cons x xs =>
    rw [List.takeWhile_cons_of_neg (p := (· == a)) (fun e => h (congrArg some (eq_of_beq e))), List.append_nil]

theorem head?_dropWhile_beq (a : α) (l : List α) : (l.dropWhile (· == a)).head? ≠ some a :=
  fun h => by simpa using head?_dropWhile _ l a h

theorem idxOf_append (a : α) (pre post : List α) (h : a ∉ pre) : (pre ++ a :: post).idxOf? a = some pre.length := by
  induction pre with
  | nil => simp [List.idxOf?_cons]
  | cons x xs ih =>
    have hx : (x == a) = false := Bool.eq_false_iff.mpr (fun e => h (eq_of_beq e ▸ List.mem_cons_self))
    simp [List.idxOf?_cons, hx, ih (fun hm => h (List.mem_cons_of_mem _ hm))]

theorem idxOf_split (a : α) (l : List α) (k : Nat) (h : l.idxOf? a = some k) :
    ∃ pre post, l = pre ++ a :: post ∧ pre.length = k ∧ a ∉ pre := by
  obtain ⟨hk, hak, hlt⟩ := List.idxOf?_eq_some_iff.mp h
  refine ⟨l.take k, l.drop (k + 1), ?_, by simp; omega, fun hm => ?_⟩
  · rw [← hak, List.getElem_cons_drop, List.take_append_drop]
  · obtain ⟨j, hj, e⟩ := List.mem_iff_getElem.mp hm
    rw [List.length_take] at hj
    rw [List.getElem_take] at e
    exact hlt j (by omega) e

theorem mapM_option_cons {α β} (f : α → Option β) (c : α) (s : List α) :
    (c :: s).mapM f = (f c).bind fun d => (s.mapM f).map (d :: ·) := by
  rw [List.mapM_cons]
  cases f c <;> cases s.mapM f <;> rfl

theorem mapM_option_replicate_append {α β} (f : α → Option β) {a : α} {b : β} (h : f a = some b) (z : Nat) (s : List α) :
    (List.replicate z a ++ s).mapM f = (s.mapM f).map (List.replicate z b ++ ·) := by
  induction z with
  | zero => simp
  | succ z ih =>
    rw [List.replicate_succ, List.cons_append, mapM_option_cons, ih, h]
    cases s.mapM f <;> rfl

theorem foldlM_eq_foldl {α β σ} {step : σ → α → Option σ} {dec : α → Option β} {act : σ → β → σ}
    (h : ∀ s a, step s a = (dec a).map (act s)) (l : List α) : ∀ s : σ,
    l.foldlM step s = if l.all (fun a => (dec a).isSome) then some ((l.filterMap dec).foldl act s) else none := by
  induction l with
  | nil => intro s; rfl
  | cons a l ih =>
    intro s
    rw [List.foldlM_cons, h]
    cases hd : dec a with
    | none => simp [hd]
    | some b => simp [hd, ih, List.filterMap_cons_some hd]

theorem reverse_dropWhile_sublist {α : Type _} (p : α → Bool) (l : List α) :
    List.Sublist (l.reverse.dropWhile p).reverse l := by
  have := (List.dropWhile_sublist p (l := l.reverse)).reverse
  rwa [List.reverse_reverse] at this

end Btcdeb.ListAux
