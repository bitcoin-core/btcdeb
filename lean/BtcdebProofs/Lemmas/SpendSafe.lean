/-
  Start-up of a `--tx` session (`Model.spendSetup`): the only effectful part is the evaluation of the
  `--pretend-valid` fields through the value-expression parser; everything else is pure and ends in a refusal
  or in a session whose environment satisfies the invariants of `Lemmas/SessionSafe.lean` and whose signature
  checker is built for an input index that exists (`spendSetup_outcome`).  The `--pretend-valid` parser itself never ends
  abnormally (`parsePretendValidExpr_noabn`), so start-up never does.
-/
import Btcdeb
import BtcdebProofs.Lemmas.SessionSafe
import BtcdebProofs.Lemmas.ValueNoAbn
import BtcdebProofs.Lemmas.SpendShapes
import BtcdebProofs.Properties.C13
namespace Btcdeb.Model
open Btcdeb

theorem configureTxTxin_edReady (h : HashCtx) (tc : TapCtx) (tx txin : Tx) (idx vout : Nat) (sv : SigVersion)
    (c : Configured) (hc : configureTxTxin h tc tx txin idx vout sv = some c) : EdReady c.sigver c.execdata := by
  obtain ⟨inp, spent, _, _, ⟨_, _, rfl⟩ | ⟨wlast, v, prog, _, _, ⟨_, hsv, _⟩ | ⟨_, _, hct⟩⟩⟩ :=
    Proofs.Shapes.configureTxTxin_cases hc
  · exact edReady_base _
  · rw [hsv]; exact ⟨nofun, nofun⟩
  · rcases Proofs.Shapes.configureTaproot_some hct _ _ rfl rfl with ⟨_, rfl⟩ | ⟨_, _, _, _, _, _, _, _, _, _, rfl⟩
    · exact ⟨fun _ => rfl, nofun⟩
    · exact ⟨nofun, fun _ => ⟨rfl, rfl, rfl, rfl⟩⟩

theorem parseInputTransaction_lt {h : HashCtx} {tx txin : Tx} {select : Int} {i n : Nat}
    (hp : parseInputTransaction h tx txin select = some (i, n)) : i < tx.vin.length :=
  let ⟨_, _, h1, _⟩ := Proofs.Shapes.parseInputTransaction_some hp
  (List.getElem?_eq_some_iff.mp h1).1

structure SpendSession.Good (cb : CheckerBuilder) (s : SpendSession) : Prop where
  safe : s.env.Safe
  /-- the checker was built for an input that exists, and `txdata.Init` was given one spent output per input
      (so its `assert(m_spent_outputs.size() == txTo.vin.size())` holds) -/
  checker : ∃ (tx : Tx) (nIn : Nat) (amount : Int) (init : Option (List TxOut × Bool)),
    s.cx = cb.build tx nIn amount init ∧ nIn < tx.vin.length ∧
    ∀ spent force, init = some (spent, force) → spent.length = tx.vin.length

/-- `txdata.Init` is given the one spent output only for a transaction with one input -/
theorem singleSpent_length {tx : Tx} {o? : Option TxOut} {pre : Bool} {spent : List TxOut} {force : Bool}
    (h : (if tx.vin.length == 1 then o?.map (fun o => ([o], pre)) else none) = some (spent, force)) :
    spent.length = tx.vin.length := by
  split at h
  · rename_i h1
    cases o? with
    | none => cases h
    | some o => cases h; exact (beq_iff_eq.mp h1).symm
  · cases h

def SpendOutcome (cb : CheckerBuilder) (vcx : VCtx) (a : SpendArgs) : VM (Except SpendRefusal SpendSession) → Prop
  | .ok r => ∀ s, r = .ok s → s.Good cb
  | .error x => ∃ p, a.pretend = some p ∧ parsePretendValidExpr vcx p = .error x

theorem SpendOutcome.refused {cb : CheckerBuilder} {vcx : VCtx} {a : SpendArgs} (r : SpendRefusal) :
    SpendOutcome cb vcx a (pure (.error r)) := fun _ hs => nomatch hs

/-- `spendSetup` walked once.  Its `do` block has two join points: what follows the evaluation of `--pretend-valid`
    (`jp`) and what follows the early return on `HasValidOps` (`jp2`).  `extract_lets` makes each a local definition, about
    which the claim is proved once (`hjp`, `hjp2`) and used at every call; unfolding them instead would copy the rest of
    the block four times.  What is needed of `sel` and `conf?` is taken before their values are cleared, since `split`
    cannot eliminate a discriminant that is a local definition. -/
theorem spendSetup_outcome (h : HashCtx) (tc : TapCtx) (vcx : VCtx) (cb : CheckerBuilder) (a : SpendArgs) :
    SpendOutcome cb vcx a (spendSetup h tc vcx cb a) := by
  unfold spendSetup
  split
  · exact .refused _
  rename_i amts tx _ hpt
  have hvin : 0 < tx.vin.length :=
    List.length_pos_iff.mpr (Proofs.C13.parseTransactionArg_amounts _ _ _ _ hpt).2.2.2
  extract_lets amounts sigver0 sel
  have hsel : ∀ txin i n, sel = .ok (some (txin, i, n)) → i < tx.vin.length := by
    intro txin i n hs
    simp only [sel] at hs
    split at hs
    · cases hs
    · split at hs
      · cases hs
      · split at hs
        · cases hs
        · cases hs; exact parseInputTransaction_lt ‹_›
  clear_value sel
  split
  · exact .refused _
  rename_i sel
  extract_lets auto conf? jp
  clear_value auto
  have hconf : ∀ conf, conf? = .ok conf → EdReady conf.sigver conf.execdata := by
    intro conf hc
    simp only [conf?] at hc
    split at hc
    · split at hc
      · cases hc
      · cases hc; exact configureTxTxin_edReady _ _ _ _ _ _ _ _ ‹_›
    · -- the signature version is BASE or WITNESS_V0, of which `EdReady` asks nothing
      cases hc
      dsimp only [sigver0]
      split <;> exact ⟨nofun, nofun⟩
  clear_value conf?
  have hjp : ∀ pv, SpendOutcome cb vcx a (jp pv) := by
    intro pv
    unfold jp
    split
    · exact .refused _
    rename_i pm pk
    extract_lets jp2
    have hjp2 : ∀ u, SpendOutcome cb vcx a (jp2 u) := by
      intro u
      unfold jp2
      split
      · exact .refused _
      rename_i conf
      split
      rename_i nIn amount hna
      extract_lets init cx
      split
      · exact .refused _
      rename_i env henv
      intro s hs
      cases hs
      refine ⟨setupEnvironment_safe henv (hconf conf rfl), tx, nIn, amount, init, rfl, ?_, fun spent force hinit => ?_⟩
      · -- the checker's input index: the selected input, or input 0 of a transaction that has one
        cases sel with
        | none => cases hna; exact hvin
        | some r => obtain ⟨txin, i, n⟩ := r; cases hna; exact hsel _ _ _ rfl
      · simp only [init] at hinit
        cases sel with
        | none => cases hinit
        | some r => exact singleSpent_length hinit
    split
    · split
      · exact .refused _
      · exact hjp2 ()
    · exact hjp2 ()
  split
  · exact hjp (some ([], []))
  · rename_i p hp
    cases hpp : parsePretendValidExpr vcx p with
    | ok v => exact hjp v
    | error x => exact ⟨p, hp, hpp⟩

theorem pretendLoop_noabn (vcx : VCtx) : ∀ (fuel : Nat) (text : Bytes) (st : PretendState),
    VNoAbn (pretendLoop vcx fuel text st) := by
  intro fuel
  induction fuel with
  | zero => exact fun _ _ => .pure _
  | succ n ih =>
    intro text st
    unfold pretendLoop
    refine .ite _ (.pure _) (.ite _ (.pure _) (.bind (valueData_noabn vcx _) fun s _ => ?_))
    split <;> exact .ite _ (.pure _) (ih _ _)

/-- `--pretend-valid=…` never ends abnormally (an `int(…)` overflow in a field is a C++ exception that `main`
    catches: `error parsing --pretend-valid: script number overflow`, exit status 1) -/
theorem parsePretendValidExpr_noabn (vcx : VCtx) (expr : Bytes) : VNoAbn (parsePretendValidExpr vcx expr) := by
  unfold parsePretendValidExpr
  refine .bind (pretendLoop_noabn vcx _ _ _) fun r _ => ?_
  split
  · exact .pure _
  · exact .ite _ (.pure _) (.pure _)

end Btcdeb.Model
