/-
  The model of `TaprootCommitmentEnv` (`Tce`): what `Iterate()` does below and at the end of the path, what it leaves
  alone, and what a fresh environment answers when it is run to its end — the tweak check on the BIP341 Merkle root
  of the control block (`run_init`, for every control block).  Last, under the names C05 uses: the size condition on a control
  block, in BIP341's form and in the Boolean form `configure_tx_txin` tests, as `33 + 32·m` with `m ≤ 128`.
-/
import Btcdeb
import BtcdebProofs.Lemmas.TapTree
namespace Btcdeb.Model
open Btcdeb

/-! `Tce.iterN` and `Tce.run` are not functions of the model: the theorems about repeated `Iterate()` are stated on them.  The
  model's own loops are tied to `Tce.run`: `Tap.tceRun` by `tceRun_eq_run` below, the commitment steps of a session by
  `C03.commit_phase`. -/

/-- the commitment environment after `n` calls of `Iterate()` (whatever they returned) -/
def Tce.iterN (tc : TapCtx) : Nat → Tce → Tce
  | 0, t => t
  | n + 1, t => Tce.iterN tc n (t.iterate tc).2

/-- call `Iterate()` until it no longer answers `processing` (at most `fuel` calls); the answer of the last
    call and the environment it left. With no fuel left the answer is `processing`. -/
def Tce.run (tc : TapCtx) : Nat → Tce → TceState × Tce
  | 0, t => (.processing, t)
  | n + 1, t =>
    match t.iterate tc with
    | (.processing, t') => Tce.run tc n t'
    | r => r

end Btcdeb.Model

namespace Btcdeb.Proofs.Tce
open Btcdeb Btcdeb.Model Btcdeb.Proofs.TapTree

theorem compactSize_eq_varint (n : Nat) : compactSize n = Spec.varint n := rfl

theorem byteAt_zero (c : Bytes) : byteAt c 0 = (c.headD 0).toNat := by
  cases c <;> rfl

theorem leafVersion_eq (c : Bytes) :
    byteAt c 0 &&& Gen.TAPROOT_LEAF_MASK = (c.headD 0).toNat - (c.headD 0).toNat % 2 := by
  rw [byteAt_zero]
  have hb := UInt8.toNat_lt (c.headD 0)
  generalize (c.headD 0).toNat = b at hb ⊢
  -- the mask 0xfe keeps bits 1..7 and clears bit 0
  have h1 : (b &&& 254) / 2 = b / 2 := by
    rw [Nat.and_div_two, show 254 / 2 = 2 ^ 7 - 1 from rfl, Nat.and_two_pow_sub_one_eq_mod]; omega
  have h0 : (b &&& 254) % 2 = 0 := by
    rw [← Nat.pow_one 2, Nat.and_mod_two_pow]; exact Nat.and_zero _
  show b &&& 254 = b - b % 2
  omega

theorem iterate_processing (tc : TapCtx) (t : Tce) (h : t.i < t.pathLen) :
    t.iterate tc = (.processing,
      { t with
        k := (let node := (t.control.drop (33 + 32 * t.i)).take 32
              if lexLt t.k node then tc.taggedHash "TapBranch" (t.k ++ node)
              else tc.taggedHash "TapBranch" (node ++ t.k))
        i := t.i + 1 }) := by
  unfold Tce.iterate
  rw [if_pos h]
  rfl

theorem iterate_final (tc : TapCtx) (t : Tce) (h : ¬ t.i < t.pathLen) :
    t.iterate tc =
      (if tc.checkTapTweak t.q t.p t.k (byteAt t.control 0 % 2 == 1) then .done else .failed, t) := by
  simp only [Tce.iterate, if_neg h]

/-- `t'` differs from `t` at most in the running hash `k` and the path index `i` -/
structure SameFrame (t t' : Tce) : Prop where
  control : t'.control = t.control
  program : t'.program = t.program
  script : t'.script = t.script
  pathLen : t'.pathLen = t.pathLen
  p : t'.p = t.p
  q : t'.q = t.q
  leaf : t'.leaf = t.leaf

theorem iterate_sameFrame (tc : TapCtx) (t : Tce) : SameFrame t (t.iterate tc).2 := by
  by_cases h : t.i < t.pathLen
  · rw [iterate_processing tc t h]; exact ⟨rfl, rfl, rfl, rfl, rfl, rfl, rfl⟩
  · rw [iterate_final tc t h]; exact ⟨rfl, rfl, rfl, rfl, rfl, rfl, rfl⟩

theorem iterate_leaf {tc : TapCtx} {t t' : Tce} {s : TceState} (h : t.iterate tc = (s, t')) : t'.leaf = t.leaf := by
  have := (iterate_sameFrame tc t).leaf
  rwa [h] at this

theorem iterN_sameFrame (tc : TapCtx) : ∀ (n : Nat) (t : Tce), SameFrame t (Tce.iterN tc n t)
  | 0, _ => ⟨rfl, rfl, rfl, rfl, rfl, rfl, rfl⟩
  | n + 1, t =>
    have h1 := iterate_sameFrame tc t
    have h2 := iterN_sameFrame tc n (t.iterate tc).2
    ⟨h2.control.trans h1.control, h2.program.trans h1.program, h2.script.trans h1.script, h2.pathLen.trans h1.pathLen,
      h2.p.trans h1.p, h2.q.trans h1.q, h2.leaf.trans h1.leaf⟩

theorem iterN_succ (tc : TapCtx) : ∀ (n : Nat) (t : Tce),
    Tce.iterN tc (n + 1) t = ((Tce.iterN tc n t).iterate tc).2
  | 0, _ => rfl
  | n + 1, t => iterN_succ tc n (t.iterate tc).2

theorem run_processing_prefix (tc : TapCtx) : ∀ (n f : Nat) (t : Tce),
    (∀ j, j < n → ((Tce.iterN tc j t).iterate tc).1 = .processing) →
    Tce.run tc (n + f) t = Tce.run tc f (Tce.iterN tc n t)
  | 0, f, t, _ => by simp only [Nat.zero_add, Tce.iterN]
  | n + 1, f, t, h => by
    have h0 : (t.iterate tc).1 = .processing := h 0 (by omega)
    have ih := run_processing_prefix tc n f (t.iterate tc).2 fun j hj => h (j + 1) (by omega)
    rw [show n + 1 + f = (n + f) + 1 by omega]
    simp only [Tce.run, Tce.iterN]
    generalize t.iterate tc = r at h0 ih ⊢
    obtain ⟨s, t'⟩ := r
    subst h0
    exact ih

theorem run_one_final (tc : TapCtx) (t : Tce) (h : ¬ t.i < t.pathLen) :
    Tce.run tc 1 t =
      (if tc.checkTapTweak t.q t.p t.k (byteAt t.control 0 % 2 == 1) then .done else .failed, t) := by
  simp only [Tce.run, iterate_final tc t h]
  cases tc.checkTapTweak t.q t.p t.k (byteAt t.control 0 % 2 == 1) <;> rfl

theorem tceRun_eq_run (tc : TapCtx) : ∀ (fuel : Nat) (t : Tce), Tap.tceRun tc fuel t = (Tce.run tc fuel t).1
  | 0, _ => rfl
  | fuel + 1, t => by
    simp only [Tap.tceRun, Tce.run]
    generalize t.iterate tc = r
    obtain ⟨s, t'⟩ := r
    cases s
    · exact tceRun_eq_run tc fuel t'
    · rfl
    · rfl

/-! Only the hash is compared with the specification's here (`hh`); the tweak check stays the model's, so that the
  result serves both an oracle that agrees with `checkTapTweak` (C05) and `tap`'s own key arithmetic (C06). -/

section Init
variable (tc : TapCtx) (o : Spec.TapOracle) (hh : ∀ tag m, tc.taggedHash tag m = o.taggedHash tag m)
  (control program script : Bytes)
include hh

theorem init_leaf :
    (Tce.init tc control program script).leaf =
      Spec.tapLeafHash o ((control.headD 0).toNat - (control.headD 0).toNat % 2) script := by
  simp only [Tce.init, Spec.tapLeafHash, hh, leafVersion_eq, compactSize_eq_varint]

omit hh in
theorem init_pathLen : (Tce.init tc control program script).pathLen = (control.length - 33) / 32 := rfl

theorem iterN_init : ∀ i, i ≤ (control.length - 33) / 32 →
    (∀ j, j < i → ((Tce.iterN tc j (Tce.init tc control program script)).iterate tc).1 = .processing) ∧
    (Tce.iterN tc i (Tce.init tc control program script)).i = i ∧
    (Tce.iterN tc i (Tce.init tc control program script)).k =
      ((Spec.pathNodes ((control.length - 33) / 32) (control.drop 33)).take i).foldl (Spec.tapBranchHash o)
        (Spec.tapLeafHash o ((control.headD 0).toNat - (control.headD 0).toNat % 2) script)
  | 0, _ => ⟨fun j hj => by omega, rfl, by
      rw [List.take_zero, List.foldl_nil, ← init_leaf tc o hh control program script]; rfl⟩
  | i + 1, hi => by
    obtain ⟨ih1, ih2, ih3⟩ := iterN_init i (by omega)
    have hfr := iterN_sameFrame tc i (Tce.init tc control program script)
    have hstep := iterate_processing tc (Tce.iterN tc i (Tce.init tc control program script))
      (by rw [ih2, hfr.pathLen, init_pathLen]; omega)
    refine ⟨fun j hj => ?_, ?_, ?_⟩
    · by_cases hji : j < i
      · exact ih1 j hji
      · rw [show j = i by omega, hstep]
    · rw [iterN_succ, hstep]
      exact congrArg (· + 1) ih2
    · have hnode : (Spec.pathNodes ((control.length - 33) / 32) (control.drop 33))[i]? =
          some ((control.drop (33 + 32 * i)).take 32) := by
        rw [pathNodes_getElem? _ (control.drop 33) i (by simp only [List.length_drop]; omega) (by omega),
          List.drop_drop]
      rw [List.take_add_one, hnode, List.foldl_append, ← ih3, iterN_succ, hstep]
      simp only [Option.toList_some, List.foldl_cons, List.foldl_nil, Spec.tapBranchHash, lexLt_eq_bytesLt, hh, ih2, hfr.control]
      rfl

/-- **What the debugger's check computes, for every control block**: `pathLen + 1` calls give the verdict, the tweak check of
    the witness program against the internal key and `controlRoot`, with the parity bit of the first control byte.  No
    condition on the size: those are the three other conjuncts of `bip341Valid` (`bip341Valid_eq`).  The argument orders
    differ: `Tce.init tc control program script`, `bip341Valid o control script program` (all `Bytes`: a swapped statement
    type-checks). -/
theorem run_init :
    (Tce.run tc ((control.length - 33) / 32 + 1) (Tce.init tc control program script)).1 =
      if tc.checkTapTweak program ((control.drop 1).take 32) (controlRoot o control script)
          ((control.headD 0).toNat % 2 == 1)
      then .done else .failed := by
  obtain ⟨g1, g2, g3⟩ := iterN_init tc o hh control program script _ (Nat.le_refl _)
  have hfr := iterN_sameFrame tc ((control.length - 33) / 32) (Tce.init tc control program script)
  rw [List.take_of_length_le (Nat.le_of_eq (pathNodes_length _ _ (by simp only [List.length_drop]; omega)))] at g3
  rw [run_processing_prefix tc _ 1 _ g1,
    run_one_final tc _ (by rw [g2, hfr.pathLen, init_pathLen]; omega), controlRoot, merkleChain_getLastD_eq_foldl, ← g3,
    hfr.q, hfr.p, hfr.control, byteAt_zero]
  rfl

end Init

end Btcdeb.Proofs.Tce

namespace Btcdeb.Proofs.C05
open Btcdeb

theorem size_iff (n : Nat) : (33 ≤ n ∧ n ≤ 33 + 32 * 128 ∧ (n - 33) % 32 = 0) ↔ ∃ m, m ≤ 128 ∧ n = 33 + 32 * m := by
  constructor
  · rintro ⟨h1, h2, h3⟩
    exact ⟨(n - 33) / 32, by omega, by omega⟩
  · rintro ⟨m, hm, hl⟩
    omega

/-- the boolean size condition of `configure_tx_txin` lets through exactly the lengths `33 + 32·m`, `m ≤ 128` -/
theorem C05_gate_bool (n : Nat) :
    (decide (n < Gen.TAPROOT_CONTROL_BASE_SIZE) || decide (n > Gen.TAPROOT_CONTROL_MAX_SIZE) ||
      (n - Gen.TAPROOT_CONTROL_BASE_SIZE) % Gen.TAPROOT_CONTROL_NODE_SIZE != 0) = false ↔
    ∃ m, m ≤ 128 ∧ n = 33 + 32 * m := by
  rw [← size_iff]
  simp only [Gen.TAPROOT_CONTROL_BASE_SIZE, Gen.TAPROOT_CONTROL_MAX_SIZE, Gen.TAPROOT_CONTROL_NODE_SIZE,
    Bool.or_eq_false_iff, bne_eq_false_iff_eq]
  exact ⟨fun ⟨⟨h1, h2⟩, h3⟩ => ⟨by have := of_decide_eq_false h1; omega, by have := of_decide_eq_false h2; omega, h3⟩,
    fun ⟨h1, h2, h3⟩ => ⟨⟨decide_eq_false (by omega), decide_eq_false (by omega)⟩, h3⟩⟩

end Btcdeb.Proofs.C05
