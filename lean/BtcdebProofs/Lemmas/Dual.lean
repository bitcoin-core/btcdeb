/-
  The two-column display (property C12, `Btcdeb/Model/Dual.lean`):
  `svprintscripts` only appends lines to its state (`Sv.ext`), which gives `svOps` / `svScripts` / `svPrintScripts` in
  closed form (`svPrintScripts_eq`) with `lmax` the width of the widest line; the display as a function of its two columns,
  on characters (`printTexts`), through which the test vectors of Properties/C12Dual.lean are evaluated; the layout
  functions (`fit`, `padLeft`, `padRight`, `dualRows`).
-/
import Btcdeb
import BtcdebProofs.Lemmas.Listing
namespace Btcdeb.Model
open Btcdeb

/-- where the iterator stands after the loop `while (script->GetOp(it, …))` -/
def endPos (it : Bytes) : Bytes :=
  match h : getOp it with
  | none => failPos it
  | some g => endPos g.rest
termination_by it.length
decreasing_by exact getOp_rest_lt h

theorem endPos_none {it : Bytes} (h : getOp it = none) : endPos it = failPos it := by
  rw [endPos]; split
  · rfl
  · rename_i g h'; rw [h] at h'; cases h'

theorem endPos_some {it : Bytes} {g : GotOp} (h : getOp it = some g) : endPos it = endPos g.rest := by
  rw [endPos]; split
  · rename_i h'; rw [h] at h'; cases h'
  · rename_i g' h'; rw [h] at h'; cases h'; rfl

theorem svOps_none {sect : Sect} {total : Nat} {it : Bytes} {s : Sv} (h : getOp it = none) :
    svOps sect total it s = (s, failPos it) := by
  rw [svOps]; split
  · rfl
  · rename_i g h'; rw [h] at h'; cases h'

theorem svOps_some {sect : Sect} {total : Nat} {it : Bytes} {s : Sv} {g : GotOp} (h : getOp it = some g) :
    svOps sect total it s =
      svOps sect total g.rest
        { s.add { sect := sect, kind := .op, offset := total - it.length, text := opText g } with begun := true } := by
  rw [svOps]; split
  · rename_i h'; rw [h] at h'; cases h'
  · rename_i g' h'; rw [h] at h'; cases h'; rfl

theorem opLinesFrom_none {sect : Sect} {total : Nat} {it : Bytes} (h : getOp it = none) : opLinesFrom sect total it = [] := by
  simp [opLinesFrom, decodeFrom_none h]

theorem opLinesFrom_some {sect : Sect} {total : Nat} {it : Bytes} {g : GotOp} (h : getOp it = some g) :
    opLinesFrom sect total it =
      { sect := sect, kind := .op, offset := total - it.length, text := opText g } :: opLinesFrom sect total g.rest := by
  simp [opLinesFrom, decodeFrom_some h]

/-- the lines of one entry of `scripts` that is started afresh (its header pushed, `it = script->begin()`) -/
def sectLines (p : Sect × Bytes × String) : List Line :=
  (if p.2.2 != "" then [headerLine p.1 p.2.2] else []) ++ opLinesFrom p.1 p.2.1.length p.2.1

def tceLines : Option Tce → List Line
  | some t => tapHeader :: t.description.drop t.i ++ [committedHeader]
  | none => []

/-- after the first script something has been listed, or the iterator is at the end of the script -/
def startedAt (it : Bytes) : Bool := !(decodeFrom it).isEmpty || (endPos it).isEmpty

theorem maxLen_append (a b : List (List Char)) : maxLen (a ++ b) = max (maxLen a) (maxLen b) := by
  induction a with
  | nil => simp [maxLen]
  | cons x xs ih => simp only [List.cons_append, maxLen, ih, Nat.max_assoc]

/-- all `svprintscripts` does to its state: it appends lines, widens `lmax` by them, and may set `begun` -/
def Sv.ext (s : Sv) (ls : List Line) (b : Bool) : Sv :=
  { s with l := s.l ++ ls, lmax := max s.lmax (maxLen (ls.map Line.shown)), begun := s.begun || b }

theorem Sv.ext_ext (s : Sv) (a a' : List Line) (b b' : Bool) : (s.ext a b).ext a' b' = s.ext (a ++ a') (b || b') := by
  simp only [Sv.ext, List.map_append, maxLen_append, List.append_assoc, Bool.or_assoc, Nat.max_assoc]

theorem Sv.ext_nil (s : Sv) : s.ext [] false = s := by
  simp [Sv.ext, maxLen]

theorem Sv.add_eq (s : Sv) (ln : Line) : s.add ln = s.ext [ln] false := by
  simp [Sv.add, Sv.ext, maxLen]

theorem Sv.add_begun (s : Sv) (ln : Line) : { s.add ln with begun := true } = s.ext [ln] true := by
  simp [Sv.add, Sv.ext, maxLen]

/-- marking a state as begun when the iterator is at the end (functions.cpp:78) -/
theorem Sv.ext_ite (s : Sv) (ls : List Line) (b c : Bool) :
    (if c = true then { s.ext ls b with begun := true } else s.ext ls b) = s.ext ls (b || c) := by
  cases c <;> simp [Sv.ext]

theorem svOps_eq (sect : Sect) (total : Nat) (it : Bytes) : ∀ s : Sv,
    svOps sect total it s = (s.ext (opLinesFrom sect total it) (!(decodeFrom it).isEmpty), endPos it) := by
  induction it using decodeFrom.induct with
  | case1 it hg => intro s; rw [svOps_none hg, opLinesFrom_none hg, endPos_none hg, decodeFrom_none hg]; simp [Sv.ext_nil]
  | case2 it g hg ih =>
    intro s
    rw [svOps_some hg, opLinesFrom_some hg, endPos_some hg, decodeFrom_some hg, Sv.add_begun, ih, Sv.ext_ext]
    rfl

theorem svScripts_begun : ∀ (scripts : List (Sect × Bytes × String)) (first : Bool) (it : Bytes) (s : Sv), s.begun = true →
    svScripts scripts first it s = s.ext (scripts.flatMap sectLines) false := by
  intro scripts
  induction scripts with
  | nil => intro first it s _; simp [svScripts, Sv.ext_nil]
  | cons p rest ih =>
    intro first it s hb
    obtain ⟨sect, script, header⟩ := p
    have h1 : (if (header != "") = true then s.add (headerLine sect header) else s) =
        s.ext (if (header != "") = true then [headerLine sect header] else []) false := by
      split
      · exact Sv.add_eq _ _
      · exact (Sv.ext_nil s).symm
    simp only [svScripts, hb, Bool.not_true, Bool.false_and, Bool.false_eq_true, if_false, if_true]
    rw [h1, svOps_eq, Sv.ext_ext, Sv.ext_ite, ih, Sv.ext_ext]
    · simp [sectLines, Sv.ext, hb]
    · simp [Sv.ext, hb]

theorem foldl_add (ls : List Line) (s : Sv) : ls.foldl Sv.add s = s.ext ls false := by
  induction ls generalizing s with
  | nil => exact (Sv.ext_nil s).symm
  | cons a rest ih => rw [List.foldl_cons, ih, Sv.add_eq, Sv.ext_ext]; rfl

/-- the header pushed without a width update (`Sv.addQuiet`) is narrower than the one above the commitment lines, so `lmax`
    is the width of the widest line all the same -/
theorem svPrintScripts_start (scripts : List (Sect × Bytes × String)) (it : Bytes) (tce : Option Tce) :
    svPrintScripts scripts it tce = svScripts scripts true it (Sv.ext {} (tceLines tce) false) := by
  cases tce with
  | none => rfl
  | some t =>
    have h1 : tapHeader.shown.length = 26 := congrArg List.length String.toList_ofList
    have h2 : committedHeader.shown.length = 24 := congrArg List.length String.toList_ofList
    simp only [svPrintScripts]
    congr 1
    simp only [foldl_add, Sv.add_eq, Sv.addQuiet, Sv.ext, tceLines, List.map_cons, List.map_append, maxLen, maxLen_append,
      List.map_nil, h1, h2, List.nil_append, List.cons_append, Sv.mk.injEq, Bool.or_false, true_and, and_true]
    omega

theorem svPrintScripts_eq (p : Sect × Bytes × String) (rest : List (Sect × Bytes × String)) (it : Bytes) (tce : Option Tce) :
    svPrintScripts (p :: rest) it tce =
      if startedAt it = true then
        { Sv.ext {} (tceLines tce ++ opLinesFrom p.1 p.2.1.length it ++ rest.flatMap sectLines) false with begun := true }
      else { Sv.ext {} (tceLines tce ++ opLinesFrom p.1 p.2.1.length it) false with stale := !rest.isEmpty } := by
  obtain ⟨sect, script, header⟩ := p
  rw [svPrintScripts_start, svScripts]
  simp only [show (Sv.ext {} (tceLines tce) false).begun = false from rfl, Bool.not_false, Bool.true_and, Bool.not_true,
    Bool.false_eq_true, if_false]
  rw [svOps_eq, Sv.ext_ext, Sv.ext_ite, Bool.false_or,
    show (!(decodeFrom it).isEmpty || (endPos it).isEmpty) = startedAt it from rfl]
  cases startedAt it with
  | true => rw [svScripts_begun _ _ _ _ rfl, Sv.ext_ext]; rfl
  | false =>
    cases rest with
    | nil => rfl
    | cons q rest' => obtain ⟨a, b, c⟩ := q; simp [svScripts, Sv.ext]

/-- the text of an instruction as the display holds it (`Line.shown`), computed on characters.  (The kernel is slow to
    evaluate `String.toList` of a string that a computation has built, so the test vectors of the display are evaluated
    through `printTexts`.) -/
def opChars (g : GotOp) : List Char :=
  (if g.data.length > 0 then g.data.flatMap hexOfByte else (opNameOf g.opcode).toList).take 1023

def opTexts (it : Bytes) : List (List Char) := (decodeFrom it).map (fun p => opChars p.2)

theorem opLinesFrom_shown (sect : Sect) (total : Nat) (it : Bytes) : (opLinesFrom sect total it).map Line.shown = opTexts it := by
  simp only [opLinesFrom, opTexts, List.map_map]
  apply List.map_congr_left
  intro p _
  simp only [Function.comp, Line.shown, opChars, opText, toHex]
  split <;> simp only [String.toList_ofList]

def sectTexts (p : Sect × Bytes × String) : List (List Char) := (if p.2.2 != "" then [p.2.2.toList] else []) ++ opTexts p.2.1

theorem sectLines_shown (p : Sect × Bytes × String) : (sectLines p).map Line.shown = sectTexts p := by
  simp only [sectLines, sectTexts, List.map_append, opLinesFrom_shown]
  split <;> rfl

def tceTexts : Option Tce → List (List Char)
  | some t => tapHeader.shown ::
      (((List.range t.pathLen).map fun i => "Branch: ".toList ++ (t.node i).flatMap hexOfByte) ++
        ["CheckTapTweak: ".toList ++ t.p.flatMap hexOfByte]).drop t.i ++ [committedHeader.shown]
  | none => []

theorem tceLines_shown (tce : Option Tce) : (tceLines tce).map Line.shown = tceTexts tce := by
  cases tce with
  | none => rfl
  | some t =>
    have hb : ∀ i, (branchLine t i).shown = "Branch: ".toList ++ (t.node i).flatMap hexOfByte := fun i => by
      simp only [Line.shown, branchLine, toHex, String.toList_append, String.toList_ofList]
    have hc : (checkLine t).shown = "CheckTapTweak: ".toList ++ t.p.flatMap hexOfByte := by
      simp only [Line.shown, checkLine, toHex, String.toList_append, String.toList_ofList]
    simp only [tceLines, tceTexts, List.map_cons, List.map_append, List.map_nil, List.map_drop, Tce.description, List.map_map,
      Function.comp_def, hb, hc]

def leftTexts (e : IEnv) : List (List Char) :=
  tceTexts e.tce ++ opTexts e.pc ++ (if startedAt e.pc then (dualScripts e).tail.flatMap sectTexts else [])

/-- `print_dualstack` computed on characters -/
def printTexts (st : DualState) (e : IEnv) : List (List Char) × DualState :=
  dualLayout st (leftTexts e) (maxLen (leftTexts e)) (dualRight e)

theorem fit_length (cap : Nat) (s : List Char) (h : 3 ≤ cap) : (fit cap s).length ≤ cap := by
  unfold fit; split
  · simp; omega
  · omega

theorem fit_id {cap : Nat} {s : List Char} (h : s.length ≤ cap) : fit cap s = s := by
  unfold fit; rw [if_neg (by omega)]

theorem padRight_length {n : Nat} {s : List Char} (h : s.length ≤ n) : (padRight n s).length = n := by
  simp [padRight]; omega

theorem padLeft_length {n : Nat} {s : List Char} (h : s.length ≤ n) : (padLeft n s).length = n := by
  simp [padLeft]; omega

theorem printDualstack_widths (st : DualState) (e : IEnv) :
    (printDualstack st e).2.glmax = max st.glmax (dualSv e).lmax ∧
    (printDualstack st e).2.grmax = max st.grmax (maxLen (dualRight e)) := by
  simp only [printDualstack, dualLayout, dualWidths]
  constructor <;> split <;> omega

theorem capOf_le66 (g : Nat) : capOf g ≤ 66 := by unfold capOf; split <;> omega
theorem capOf_le (g : Nat) : capOf g ≤ g := by unfold capOf; split <;> omega
theorem capOf_mono {a b : Nat} (h : a ≤ b) : capOf a ≤ capOf b := by unfold capOf; split <;> split <;> omega
theorem capOf_ge {g n : Nat} (h1 : n ≤ g) (h2 : n ≤ 66) : n ≤ capOf g := by unfold capOf; split <;> omega

theorem maxLen_ge : ∀ (r : List (List Char)) (s : List Char), s ∈ r → s.length ≤ maxLen r := by
  intro r
  induction r with
  | nil => intro s h; cases h
  | cons a rest ih =>
    intro s h
    simp only [maxLen]
    rcases List.mem_cons.mp h with rfl | h'
    · omega
    · have := ih s h'; omega

theorem fit_abbrev (g : Nat) (s : List Char) (hs : s.length ≤ g) : fit (capOf g) s = Spec.abbreviated 66 s := by
  unfold Spec.abbreviated
  by_cases h : s.length ≤ 66
  · rw [if_pos h, fit_id (capOf_ge hs h)]
  · rw [if_neg h]
    have hc : capOf g = 66 := by unfold capOf; rw [if_pos (by omega)]
    unfold fit; rw [hc, if_pos (by omega)]

/-- the cut at 1023 characters made by the `buf[1024]` of svprintscripts never shows -/
theorem fit_shown (g : Nat) (l : Line) (hs : l.shown.length ≤ g) : fit (capOf g) l.shown = Spec.abbreviated 66 l.text.toList := by
  rw [fit_abbrev g _ hs]
  unfold Line.shown at hs ⊢
  cases hk : l.kind with
  | op =>
    simp only [hk] at hs ⊢
    by_cases ht : l.text.toList.length ≤ 1023
    · rw [List.take_of_length_le ht]
    · unfold Spec.abbreviated
      have h1 : ¬ (List.take 1023 l.text.toList).length ≤ 66 := by simp; omega
      have h2 : ¬ l.text.toList.length ≤ 66 := by omega
      rw [if_neg h1, if_neg h2, List.take_take]
      simp
  | desc => rfl
  | header => rfl

theorem dualRows_length (lcap rcap : Nat) (l r : List (List Char)) :
    (dualRows lcap rcap l r).length = max l.length r.length := by
  simp [dualRows]

theorem dualRows_get (lcap rcap : Nat) (l r : List (List Char)) (i : Nat) (h : i < max l.length r.length) :
    (dualRows lcap rcap l r)[i]? = some (dualRow lcap rcap l[i]? r[i]?) := by
  simp [dualRows, List.getElem?_map, List.getElem?_range h]

def RowShape (lcap rcap : Nat) (row : List Char) : Prop :=
  ∃ lc rc, row = lc ++ ['|', ' '] ++ rc ∧ lc.length = lcap + 1 ∧ (rc = [] ∨ rc.length = rcap)

theorem dualRow_shape (lcap rcap : Nat) (hl : 3 ≤ lcap) (hr : 3 ≤ rcap) (l r : Option (List Char)) :
    RowShape lcap rcap (dualRow lcap rcap l r) := by
  refine ⟨_, _, rfl, ?_, ?_⟩
  · apply padRight_length
    cases l with
    | none => simp
    | some s => have := fit_length lcap s hl; simp only; omega
  · cases r with
    | none => exact Or.inl rfl
    | some s => exact Or.inr (padLeft_length (fit_length rcap s hr))

theorem dualRows_shape (lcap rcap : Nat) (hl : 3 ≤ lcap) (hr : 3 ≤ rcap) (l r : List (List Char)) :
    ∀ row ∈ dualRows lcap rcap l r, RowShape lcap rcap row := by
  intro row h
  simp only [dualRows, List.mem_map] at h
  obtain ⟨i, _, rfl⟩ := h
  exact dualRow_shape lcap rcap hl hr _ _

end Btcdeb.Model
