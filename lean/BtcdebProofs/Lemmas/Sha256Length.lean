/-
  The output of the executable SHA-256 has 32 bytes (needed to split a Base58Check string into payload and checksum).
-/
import Btcdeb.Crypto.Sha256
namespace Btcdeb.Crypto
theorem compress_size (H M : Array UInt32) (off : Nat) : (Sha256.compress H M off).size = 8 := by
  unfold Sha256.compress
  simp only [Id.run, bind, pure, forIn]
  generalize (Sha256.schedule M off) = W
  -- whatever the 64 rounds leave in the eight registers, the function returns an array literal of eight sums
  rfl

theorem mdIterate_size (iv words : Array UInt32) (h : iv.size = 8) : (mdIterate Sha256.compress iv words).size = 8 := by
  unfold mdIterate
  generalize List.range (words.size / 16) = l
  induction l generalizing iv with
  | nil => exact h
  | cons x xs ih => simp only [List.foldl_cons]; exact ih _ (compress_size _ _ _)

theorem sha256_length (m : Bytes) : (sha256 m).length = 32 := by
  unfold sha256
  simp only []
  have := mdIterate_size Sha256.H0 (wordsOfBytes be32 (mdPad (beFixed 8) m) (Array.mkEmpty ((mdPad (beFixed 8) m).length / 4))) rfl
  generalize mdIterate Sha256.compress Sha256.H0 _ = H at this
  obtain ⟨l⟩ := H
  simp only [List.size_toArray] at this
  match l, this with
  | [a, b, c, d, e, f, g, h], _ => rfl

end Btcdeb.Crypto
