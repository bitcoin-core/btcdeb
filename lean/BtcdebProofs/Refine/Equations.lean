/-
  The dispatch of the two interpreters, as equations: what `execOpcode` (the `switch` of `StepScript`) and
  `Spec.execOp` do on each class of opcodes that both of them treat alike, with the opcode a variable, `Spec.execOp`
  on the single opcodes of the standard scripts and of the signature checks, and the
  body of `step` once the instruction is decoded (the decoders themselves: Lemmas/Instr.lean).  Everything about
  single opcodes starts from these.  At the end the operation count of both sides and `setup_environment`, inverted.
-/
import Btcdeb
namespace Btcdeb.Refine
open Btcdeb Model

theorem execOpcode_smallInt {op : Opcode} {n : Int} (h : Spec.smallInt op = some n) (cx : Ctx) (e : SEE) (fExec : Bool)
    (pc : Bytes) : execOpcode cx e op fExec pc = sizeCheck { e with stack := e.stack ++ [serialize n] } := by
  cases op <;> cases h <;> rfl

theorem execOp_smallInt {op : Opcode} {n : Int} (h : Spec.smallInt op = some n) (cfg : Spec.Cfg) (ex : Bool)
    (after : Bytes) (pos : Nat) (st : Spec.St) :
    Spec.execOp cfg op ex after pos st = Spec.checkSize { st with stack := Spec.encodeNum n :: st.stack } := by
  cases op <;> cases h <;> rfl

theorem execOpcode_nopN {op : Opcode} (h : Spec.isNopN op = true) (cx : Ctx) (e : SEE) (fExec : Bool) (pc : Bytes) :
    execOpcode cx e op fExec pc =
      if hasFlag e.flags Flag.DISCOURAGE_UPGRADABLE_NOPS then fail .DISCOURAGE_UPGRADABLE_NOPS else sizeCheck e := by
  cases op <;> first | exact Bool.noConfusion h | rfl

theorem execOp_nopN {op : Opcode} (h : Spec.isNopN op = true) (cfg : Spec.Cfg) (ex : Bool) (after : Bytes) (pos : Nat)
    (st : Spec.St) :
    Spec.execOp cfg op ex after pos st =
      if hasFlag cfg.flags Flag.DISCOURAGE_UPGRADABLE_NOPS then .error .DISCOURAGE_UPGRADABLE_NOPS
      else Spec.checkSize st := by
  cases op <;> first | exact Bool.noConfusion h | rfl

theorem execOpcode_extended {op : Opcode} (h : Spec.disabled op = true) (cx : Ctx) (e : SEE) (fExec : Bool) (pc : Bytes) :
    execOpcode cx e op fExec pc = stepExtended e op := by
  cases op <;> first | exact Bool.noConfusion h | rfl

theorem execOp_extended {op : Opcode} (h : Spec.disabled op = true) (cfg : Spec.Cfg) (ex : Bool) (after : Bytes)
    (pos : Nat) (st : Spec.St) :
    Spec.execOp cfg op ex after pos st = Spec.execExtended (hasFlag cfg.flags Flag.MINIMALDATA) op st := by
  unfold Spec.execOp
  rw [if_pos h]

theorem execOpcode_unary {op : Opcode} (h : Spec.isUnary op = true) (cx : Ctx) (e : SEE) (fExec : Bool) (pc : Bytes) :
    execOpcode cx e op fExec pc = (do
      if e.stack.length < 1 then fail .INVALID_STACK_OPERATION
      let v ← top e.stack 1
      let bn ← num v e.requireMinimal
      let st ← pop e.stack
      sizeCheck { e with stack := st ++ [serialize (unaryNum op bn)] }) := by
  cases op <;> first | exact Bool.noConfusion h | rfl

theorem execOp_unary {op : Opcode} (h : Spec.isUnary op = true) (cfg : Spec.Cfg) (ex : Bool) (after : Bytes) (pos : Nat)
    (st : Spec.St) :
    Spec.execOp cfg op ex after pos st =
      match st.stack with
      | x :: s => do
        let n ← Spec.numOf (hasFlag cfg.flags Flag.MINIMALDATA) 4 x
        Spec.checkSize { st with stack := Spec.encodeNum (Spec.unary op n) :: s }
      | _ => .error .INVALID_STACK_OPERATION := by
  cases op <;> first | exact Bool.noConfusion h | rfl

theorem execOpcode_binary {op : Opcode} (h : Spec.isBinary op = true) (cx : Ctx) (e : SEE) (fExec : Bool) (pc : Bytes) :
    execOpcode cx e op fExec pc = (do
      if e.stack.length < 2 then fail .INVALID_STACK_OPERATION
      let v1 ← top e.stack 2; let v2 ← top e.stack 1
      let bn1 ← num v1 e.requireMinimal
      let bn2 ← num v2 e.requireMinimal
      let r := serialize (binaryNum op bn1 bn2)
      let st ← pop e.stack; let st ← pop st
      if op == .OP_NUMEQUALVERIFY then
        if castToBool r then sizeCheck { e with stack := st } else fail .NUMEQUALVERIFY
      else sizeCheck { e with stack := st ++ [r] }) := by
  cases op <;> first | exact Bool.noConfusion h | rfl

theorem execOp_binary {op : Opcode} (h : Spec.isBinary op = true) (cfg : Spec.Cfg) (ex : Bool) (after : Bytes) (pos : Nat)
    (st : Spec.St) :
    Spec.execOp cfg op ex after pos st =
      match st.stack with
      | y :: x :: s => do
        let a ← Spec.numOf (hasFlag cfg.flags Flag.MINIMALDATA) 4 x
        let b ← Spec.numOf (hasFlag cfg.flags Flag.MINIMALDATA) 4 y
        let r := Spec.binary op a b
        if op == .OP_NUMEQUALVERIFY then
          (if r ≠ 0 then Spec.checkSize { st with stack := s } else .error .NUMEQUALVERIFY)
        else Spec.checkSize { st with stack := Spec.encodeNum r :: s }
      | _ => .error .INVALID_STACK_OPERATION := by
  cases op <;> first | exact Bool.noConfusion h | rfl

/-- the hypothesis is the five tests `Spec.execOp` makes before its final `match`; for a concrete opcode it is `rfl`, and the
    five facts take `Spec.execOp` to that `match` (`op_start`) -/
theorem classifiers_of_other (op : Opcode)
    (h : (Spec.disabled op || (Spec.smallInt op).isSome || Spec.isNopN op || Spec.isUnary op || Spec.isBinary op) = false) :
    Spec.disabled op = false ∧ Spec.smallInt op = none ∧ Spec.isNopN op = false ∧ Spec.isUnary op = false ∧
      Spec.isBinary op = false := by
  simpa [Option.isSome_eq_false_iff, and_assoc] using h

theorem execOp_DUP (cfg : Spec.Cfg) (ex : Bool) (after : Bytes) (pos : Nat) (st : Spec.St) :
    Spec.execOp cfg .OP_DUP ex after pos st =
      match st.stack with
      | x :: s => Spec.checkSize { st with stack := x :: x :: s }
      | _ => .error .INVALID_STACK_OPERATION := rfl

theorem execOp_HASH160 (cfg : Spec.Cfg) (ex : Bool) (after : Bytes) (pos : Nat) (st : Spec.St) :
    Spec.execOp cfg .OP_HASH160 ex after pos st =
      match st.stack with
      | x :: s => Spec.checkSize { st with stack := cfg.oracle.ripemd160 (cfg.oracle.sha256 x) :: s }
      | _ => .error .INVALID_STACK_OPERATION := rfl

theorem execOp_EQUAL (cfg : Spec.Cfg) (ex : Bool) (after : Bytes) (pos : Nat) (st : Spec.St) :
    Spec.execOp cfg .OP_EQUAL ex after pos st =
      match st.stack with
      | x2 :: x1 :: s => Spec.checkSize { st with stack := Spec.ofBool (x1 == x2) :: s }
      | _ => .error .INVALID_STACK_OPERATION := rfl

theorem execOp_EQUALVERIFY (cfg : Spec.Cfg) (ex : Bool) (after : Bytes) (pos : Nat) (st : Spec.St) :
    Spec.execOp cfg .OP_EQUALVERIFY ex after pos st =
      match st.stack with
      | x2 :: x1 :: s => if x1 == x2 then Spec.checkSize { st with stack := s } else .error .EQUALVERIFY
      | _ => .error .INVALID_STACK_OPERATION := rfl

theorem execOp_RESERVED (cfg : Spec.Cfg) (ex : Bool) (after : Bytes) (pos : Nat) (st : Spec.St) :
    Spec.execOp cfg .OP_RESERVED ex after pos st = .error .BAD_OPCODE := rfl

theorem execOp_CHECKSIG (cfg : Spec.Cfg) (ex : Bool) (after : Bytes) (pos : Nat) (st : Spec.St) :
    Spec.execOp cfg .OP_CHECKSIG ex after pos st =
      match st.stack with
      | key :: sig :: s => Spec.checkSig cfg st sig key >>= fun r => Spec.checkSize { r.2 with stack := Spec.ofBool r.1 :: s }
      | _ => .error .INVALID_STACK_OPERATION := rfl

theorem execOp_CHECKSIGVERIFY (cfg : Spec.Cfg) (ex : Bool) (after : Bytes) (pos : Nat) (st : Spec.St) :
    Spec.execOp cfg .OP_CHECKSIGVERIFY ex after pos st =
      match st.stack with
      | key :: sig :: s => Spec.checkSig cfg st sig key >>= fun r =>
          if r.1 then Spec.checkSize { r.2 with stack := s } else .error .CHECKSIGVERIFY
      | _ => .error .INVALID_STACK_OPERATION := rfl

theorem execOp_CHECKSIGADD (cfg : Spec.Cfg) (ex : Bool) (after : Bytes) (pos : Nat) (st : Spec.St) :
    Spec.execOp cfg .OP_CHECKSIGADD ex after pos st =
      if cfg.sigversion == .BASE || cfg.sigversion == .WITNESS_V0 then .error .BAD_OPCODE
      else match st.stack with
        | key :: nb :: sig :: s => Spec.numOf (hasFlag cfg.flags Flag.MINIMALDATA) 4 nb >>= fun n =>
            Spec.checkSig cfg st sig key >>= fun r =>
              Spec.checkSize { r.2 with stack := Spec.encodeNum (n + (if r.1 then 1 else 0)) :: s }
        | _ => .error .INVALID_STACK_OPERATION := rfl

theorem execOp_CHECKMULTISIG (cfg : Spec.Cfg) (ex : Bool) (after : Bytes) (pos : Nat) (st : Spec.St) :
    Spec.execOp cfg .OP_CHECKMULTISIG ex after pos st =
      Spec.execMultisig cfg (hasFlag cfg.flags Flag.MINIMALDATA) false st := rfl

theorem execOp_CHECKMULTISIGVERIFY (cfg : Spec.Cfg) (ex : Bool) (after : Bytes) (pos : Nat) (st : Spec.St) :
    Spec.execOp cfg .OP_CHECKMULTISIGVERIFY ex after pos st =
      Spec.execMultisig cfg (hasFlag cfg.flags Flag.MINIMALDATA) true st := rfl

theorem step_eq {pc : Bytes} {g : GotOp} (hg : getOp pc = some g) (cx : Ctx) (e : SEE) :
    step cx e pc =
      if g.data.length > Gen.MAX_SCRIPT_ELEMENT_SIZE then fail .PUSH_SIZE
      else countOp e g.opcode >>= fun e1 =>
        if !e1.allowDisabled && isDisabledOpcode (Opcode.ofNat g.opcode) then fail .DISABLED_OPCODE
        else if Opcode.ofNat g.opcode == .OP_CODESEPARATOR && e1.sigversion == .BASE &&
            hasFlag e1.flags Flag.CONST_SCRIPTCODE then fail .OP_CODESEPARATOR
        else if e.cond.allTrue && g.opcode ≤ Op.OP_PUSHDATA4 then
          if e1.requireMinimal && !checkMinimalPush g.data g.opcode then fail .MINIMALDATA
          else sizeCheck { e1 with stack := e1.stack ++ [g.data] } >>= fun e' => pure (e', g.rest)
        else if e.cond.allTrue || (Op.OP_IF ≤ g.opcode && g.opcode ≤ Op.OP_ENDIF) then
          execOpcode cx e1 (Opcode.ofNat g.opcode) e.cond.allTrue g.rest >>= fun e' => pure (e', g.rest)
        else sizeCheck e1 >>= fun e' => pure (e', g.rest) := by
  simp only [step, hg]

theorem step_none {pc : Bytes} (hg : getOp pc = none) (cx : Ctx) (e : SEE) : step cx e pc = fail .BAD_OPCODE := by
  simp only [step, hg]

theorem countOp_ok_cases {e e1 : SEE} {n : Nat} (h : Model.countOp e n = .ok e1) : ∃ m, e1 = { e with nOpCount := m } := by
  unfold Model.countOp at h
  split at h
  · split at h
    · split at h
      · cases h
      · cases h; exact ⟨_, rfl⟩
    · cases h; exact ⟨_, rfl⟩
  · cases h; exact ⟨_, rfl⟩

theorem countOp_error {e : SEE} {n : Nat} {x : StepErr} (h : Model.countOp e n = .error x) : x = .script .OP_COUNT := by
  unfold Model.countOp at h
  repeat' split at h
  all_goals cases h
  rfl

theorem specCountOp_ok_cases {cfg : Spec.Cfg} {n : Nat} {st st' : Spec.St} (h : Spec.countOp cfg n st = .ok st') :
    ∃ m, st' = { st with opCount := m } := by
  unfold Spec.countOp at h
  split at h
  · split at h
    · cases h
    · cases h; exact ⟨_, rfl⟩
  · cases h; exact ⟨_, rfl⟩

theorem setupEnvironment_eq (stack : List Bytes) (script : Bytes) (flags : Nat) (sv : SigVersion) (succ : Bytes) (z : Bool)
    (ed : ExecData) (tce : Option Tce) (pm : List (Bytes × Bytes)) (pk : List Bytes) :
    setupEnvironment stack script flags sv succ z ed tce pm pk =
      if (sv != .TAPSCRIPT && decide (script.length > Gen.MAX_SCRIPT_SIZE)) = true then .error .SCRIPT_SIZE
      else if (!succ.isEmpty && hasFlag flags Flag.SIGPUSHONLY && !isPushOnly script) = true then .error .SIG_PUSHONLY
      else if (sv == .TAPSCRIPT && scanOpSuccess z script) = true then .error .DISCOURAGE_OP_SUCCESS
      else .ok { see := { script := script, pbegincodehash := script, stack := stack, flags := flags, sigversion := sv,
                          requireMinimal := hasFlag flags Flag.MINIMALDATA, allowDisabled := z, execdata := ed,
                          pretendMap := pm, pretendKeys := pk },
                 pc := script, done := script.isEmpty && succ.isEmpty && tce.isNone,
                 isP2sh := sv == .BASE && p2shPattern flags script,
                 p2shStack := if (sv == .BASE && p2shPattern flags script) = true then stack else [],
                 successor := succ, tce := tce } := by
  unfold setupEnvironment IEnv.init
  by_cases h1 : (sv != .TAPSCRIPT && decide (script.length > Gen.MAX_SCRIPT_SIZE)) = true
  · rw [if_pos h1, if_pos h1]
  · rw [if_neg h1, if_neg h1]

theorem setupEnvironment_ok {stack : List Bytes} {script : Bytes} {flags : Nat} {sv : SigVersion} {succ : Bytes} {z : Bool}
    {ed : ExecData} {tce : Option Tce} {pm : List (Bytes × Bytes)} {pk : List Bytes} {e0 : IEnv}
    (h : setupEnvironment stack script flags sv succ z ed tce pm pk = .ok e0) :
    (sv != .TAPSCRIPT && decide (script.length > Gen.MAX_SCRIPT_SIZE)) = false ∧
    (!succ.isEmpty && hasFlag flags Flag.SIGPUSHONLY && !isPushOnly script) = false ∧
    (sv == .TAPSCRIPT && scanOpSuccess z script) = false ∧
    e0 = { see := { script := script, pbegincodehash := script, stack := stack, flags := flags, sigversion := sv,
                    requireMinimal := hasFlag flags Flag.MINIMALDATA, allowDisabled := z, execdata := ed,
                    pretendMap := pm, pretendKeys := pk },
           pc := script, done := script.isEmpty && succ.isEmpty && tce.isNone,
           isP2sh := sv == .BASE && p2shPattern flags script,
           p2shStack := if (sv == .BASE && p2shPattern flags script) = true then stack else [],
           successor := succ, tce := tce } := by
  rw [setupEnvironment_eq] at h
  by_cases h1 : (sv != .TAPSCRIPT && decide (script.length > Gen.MAX_SCRIPT_SIZE)) = true
  · rw [if_pos h1] at h; cases h
  rw [if_neg h1] at h
  by_cases h2 : (!succ.isEmpty && hasFlag flags Flag.SIGPUSHONLY && !isPushOnly script) = true
  · rw [if_pos h2] at h; cases h
  rw [if_neg h2] at h
  by_cases h3 : (sv == .TAPSCRIPT && scanOpSuccess z script) = true
  · rw [if_pos h3] at h; cases h
  rw [if_neg h3] at h
  cases h
  exact ⟨by simpa using h1, by simpa using h2, by simpa using h3, rfl⟩

end Btcdeb.Refine
