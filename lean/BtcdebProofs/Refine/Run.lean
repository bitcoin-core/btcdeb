/-
  Whole-script refinement: stepping the debugger through a script, operation by operation, against the
  specification's evaluation of the decoded instruction list.  Unbounded script length.
-/
import BtcdebProofs.Refine.Step
import BtcdebProofs.Lemmas.EdFlags
import BtcdebProofs.Lemmas.Session
namespace Btcdeb.Refine
open Btcdeb Model

/-- the debugger stepped until the end of the current script (or the first failure): the states after
    each successful operation, and the outcome -/
def runOps (cx : Ctx) (tc : TapCtx) : Nat → IEnv → List IEnv × Except StepErr IEnv
  | 0, e => ([], .ok e)
  | n + 1, e =>
    if e.pc.isEmpty then ([], .ok e)
    else match stepSession cx tc e with
      | .ok e' => let r := runOps cx tc n e'; (e' :: r.1, r.2)
      | .error x => ([], .error x)

/-- the session after one operation: `StepScript`'s result, the next opcode position, the history entry -/
def afterOp (e : IEnv) (r : SEE × Bytes) : IEnv :=
  { e with see := { r.1 with opcodePos := r.1.opcodePos + 1 }, pc := r.2, history := e.snapshot :: e.history,
           currOpSeq := e.currOpSeq + 1 }

/-- Induction along a run of operations (no commitment phase pending): it stops, at the end of the script or of the
    fuel; it fails with the error of `StepScript`; or it makes one operation and goes on from `afterOp`, with a
    shorter rest of the script. -/
theorem runOps_induct (cx : Ctx) (tc : TapCtx) {motive : Nat → IEnv → List IEnv × Except StepErr IEnv → Prop}
    (stop : ∀ n e, e.tce = none → n = 0 ∨ e.pc = [] → motive n e ([], .ok e))
    (fail : ∀ n e x, e.tce = none → e.pc ≠ [] → step cx e.see e.pc = .error x → motive (n + 1) e ([], .error x))
    (op : ∀ n e r, e.tce = none → e.pc ≠ [] → step cx e.see e.pc = .ok r → r.2.length < e.pc.length →
      motive n (afterOp e r) (runOps cx tc n (afterOp e r)) →
      motive (n + 1) e (afterOp e r :: (runOps cx tc n (afterOp e r)).1, (runOps cx tc n (afterOp e r)).2)) :
    ∀ (n : Nat) (e : IEnv), e.tce = none → motive n e (runOps cx tc n e) := by
  intro n
  induction n with
  | zero => exact fun e ht => stop 0 e ht (.inl rfl)
  | succ n ih =>
    intro e ht
    by_cases hpc : e.pc = []
    · have := stop (n + 1) e ht (.inr hpc)
      simpa [runOps, hpc] using this
    · have hne : e.pc.isEmpty = false := by simpa using hpc
      simp only [runOps, hne, Bool.false_eq_true, if_false, stepSession_op cx tc e ht hne]
      cases hs : step cx e.see e.pc with
      | error x => exact fail n e x ht hpc hs
      | ok r => exact op n e r ht hpc hs (step_pc cx e.see e.pc r hs) (ih _ ht)

/-- element-wise relation of two lists of the same length (core has no `List.Forall₂`) -/
inductive Forall2 {α β} (R : α → β → Prop) : List α → List β → Prop
  | nil : Forall2 R [] []
  | cons {a b as bs} : R a b → Forall2 R as bs → Forall2 R (a :: as) (b :: bs)

theorem forall2_imp {α β} {R S : α → β → Prop} (h : ∀ a b, R a b → S a b) :
    ∀ {as : List α} {bs : List β}, Forall2 R as bs → Forall2 S as bs
  | _, _, .nil => .nil
  | _, _, .cons hab rest => .cons (h _ _ hab) (forall2_imp h rest)

theorem forall2_getElem? {α β} {R : α → β → Prop} : ∀ {as : List α} {bs : List β}, Forall2 R as bs →
    as.length = bs.length ∧ ∀ (k : Nat) (a : α), as[k]? = some a → ∃ b, bs[k]? = some b ∧ R a b
  | _, _, .nil => ⟨rfl, fun k a h => by simp at h⟩
  | _, _, .cons hab rest => by
    obtain ⟨hl, hg⟩ := forall2_getElem? rest
    refine ⟨by simp [hl], ?_⟩
    intro k a h
    cases k with
    | zero => simp only [List.getElem?_cons_zero, Option.some.injEq] at h; subst h; exact ⟨_, by simp, hab⟩
    | succ k => simp only [List.getElem?_cons_succ] at h ⊢; exact hg k a h

/-- outcomes of a whole run correspond -/
def RelRun (mr : List IEnv × Except StepErr IEnv) (sr : List Spec.St × Spec.R Spec.St) (complete : Bool) : Prop :=
  Forall2 (fun (e' : IEnv) st' => Rel e'.see st') mr.1 sr.1 ∧
  match mr.2, sr.2 with
  | .ok e', .ok st' => complete = true ∧ Rel e'.see st' ∧ e'.pc = [] ∧ e'.tce = none
  | .error x, .ok _ => complete = false ∧ x = .script .BAD_OPCODE
  | .error x, .error y => errAbs x = y ∧ isAbnormal x = false
  | .ok _, .error _ => False

/-- The whole script: stepping operation by operation through the rest of the script refines the
    specification's evaluation of the instructions decoded from it, state by state -/
theorem runOps_refines (cx : Ctx) (tc : TapCtx) (cfg : Spec.Cfg) :
    ∀ (fuel : Nat) (e : IEnv) (st : Spec.St),
      e.tce = none → e.pc.length ≤ fuel → CfgRel cx e.see cfg → Rel e.see st →
      (e.see.sigversion = .TAPSCRIPT → e.see.execdata.weightInit = true) →
      RelRun (runOps cx tc fuel e)
        (Spec.evalInstrs cfg (Spec.decodePrefix fuel e.pc).1 e.see.opcodePos st) (Spec.decodePrefix fuel e.pc).2 := by
  intro fuel e st ht
  revert st
  refine runOps_induct cx tc (motive := fun fuel e r => ∀ st, e.pc.length ≤ fuel → CfgRel cx e.see cfg → Rel e.see st →
      (e.see.sigversion = .TAPSCRIPT → e.see.execdata.weightInit = true) →
      RelRun r (Spec.evalInstrs cfg (Spec.decodePrefix fuel e.pc).1 e.see.opcodePos st) (Spec.decodePrefix fuel e.pc).2)
    ?_ ?_ ?_ fuel e ht
  · intro n e ht h0 st hlen hc h hw
    have hpc : e.pc = [] := h0.elim (fun hn => List.length_eq_zero_iff.mp (by omega)) id
    cases n <;> simp [hpc, Spec.decodePrefix, Spec.evalInstrs, RelRun, h, ht, Forall2.nil]
  · intro n e x ht hpc hm st hlen hc h hw
    rw [decodePrefix_succ n e.pc hpc]
    cases hdec : Spec.decodeOne e.pc with
    | none =>
      rw [step_none (getOp_none_of_decodeOne hdec)] at hm
      cases hm
      simp [Spec.evalInstrs, RelRun, Forall2.nil]
    | some p =>
      have hsr := step_refines cx cfg e.see st e.pc p.1 p.2 hc h hw hdec
      rw [hm] at hsr
      simp only [Spec.evalInstrs]
      cases hs : Spec.execInstr cfg p.1 p.2 e.see.opcodePos st with
      | error y => rw [hs] at hsr; simpa [RelRun, RelStep, Forall2.nil] using hsr
      | ok st' => rw [hs] at hsr; simp [RelStep] at hsr
  · intro n e r ht hpc hm hlt ih st hlen hc h hw
    rw [decodePrefix_succ n e.pc hpc]
    cases hdec : Spec.decodeOne e.pc with
    | none => rw [step_none (getOp_none_of_decodeOne hdec)] at hm; cases hm
    | some p =>
      have hsr := step_refines cx cfg e.see st e.pc p.1 p.2 hc h hw hdec
      rw [hm] at hsr
      simp only [Spec.evalInstrs]
      cases hs : Spec.execInstr cfg p.1 p.2 e.see.opcodePos st with
      | error y => rw [hs] at hsr; simp [RelStep] at hsr
      | ok st' =>
        rw [hs] at hsr
        obtain ⟨hrel', hpc'⟩ := hsr
        -- `Rel` does not look at the opcode position
        have hrel1 : Rel (afterOp e r).see st' := { hrel' with }
        -- the next state keeps the configuration and the initialised budget; its opcode position is the next one
        have hfr := step_frame hm
        have hwi := step_weightInit cx e.see e.pc r hm
        simp only [SEE.frame, Prod.mk.injEq] at hfr
        obtain ⟨_, hfl, hfs, hfm, hfz, hfp, hfk, hfo⟩ := hfr
        have hih := ih st' (by show r.2.length ≤ n; omega) (cfgRel_of_frame hc hfl hfs hfm hfz hfp hfk)
          hrel1 (by show r.1.sigversion = _ → r.1.execdata.weightInit = true; rw [hfs, hwi]; exact hw)
        rw [show (afterOp e r).see.opcodePos = e.see.opcodePos + 1 by show r.1.opcodePos + 1 = _; rw [hfo],
          show (afterOp e r).pc = p.2 from hpc'] at hih
        exact ⟨Forall2.cons hrel1 hih.1, hih.2⟩

end Btcdeb.Refine
