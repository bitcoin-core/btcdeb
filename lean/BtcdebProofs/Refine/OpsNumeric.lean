/-
  Refinement Model ≈ Spec for OP_CODESEPARATOR, the hashes, the conditionals, the numeric opcodes and the
  lock-time checks.
-/
import BtcdebProofs.Refine.Basic
namespace Btcdeb.Refine
open Btcdeb Model

theorem refines_OP_CODESEPARATOR : OpRefines .OP_CODESEPARATOR := by
  op_start .OP_CODESEPARATOR
  exact sizeCheck_rel { h with codeFrom := rfl, codesep := rfl }

theorem refines_OP_RIPEMD160 : OpRefines .OP_RIPEMD160 := by
  op_start .OP_RIPEMD160
  rcases hst : st.stack with _ | ⟨a, s⟩ <;> simp [h.stack, hst]
  exact sizeCheck_rel (h.setStack (by simp [hc.ripemd160]))

theorem refines_OP_SHA1 : OpRefines .OP_SHA1 := by
  op_start .OP_SHA1
  rcases hst : st.stack with _ | ⟨a, s⟩ <;> simp [h.stack, hst]
  exact sizeCheck_rel (h.setStack (by simp [hc.sha1]))

theorem refines_OP_SHA256 : OpRefines .OP_SHA256 := by
  op_start .OP_SHA256
  rcases hst : st.stack with _ | ⟨a, s⟩ <;> simp [h.stack, hst]
  exact sizeCheck_rel (h.setStack (by simp [hc.sha256]))

theorem refines_OP_HASH160 : OpRefines .OP_HASH160 := by
  op_start .OP_HASH160
  rcases hst : st.stack with _ | ⟨a, s⟩ <;> simp [h.stack, hst]
  exact sizeCheck_rel (h.setStack (by simp [hc.sha256, hc.ripemd160]))

theorem refines_OP_HASH256 : OpRefines .OP_HASH256 := by
  op_start .OP_HASH256
  rcases hst : st.stack with _ | ⟨a, s⟩ <;> simp [h.stack, hst]
  exact sizeCheck_rel (h.setStack (by simp [hc.sha256]))

theorem refines_OP_ELSE : OpRefines .OP_ELSE := by
  op_start .OP_ELSE
  rw [condRel_isEmpty h.cond]
  rcases hst : st.cond with _ | ⟨a, s⟩ <;> simp
  exact sizeCheck_rel (h.setCond h.stack (condRel_toggle (hst ▸ h.cond)))

theorem refines_OP_ENDIF : OpRefines .OP_ENDIF := by
  op_start .OP_ENDIF
  rw [condRel_isEmpty h.cond]
  rcases hst : st.cond with _ | ⟨a, s⟩ <;> simp
  exact sizeCheck_rel (h.setCond h.stack (condRel_pop (hst ▸ h.cond)))

/-- the MINIMALIF test as the C++ writes it, on the length and the first byte, against the specification's -/
private theorem minimalIf_agree (x : Bytes) :
    (1 < x.length ∨ x.length = 1 ∧ ¬ byteAt x 0 = 1) ↔ (¬ x = [] ∧ ¬ x = [1]) := by
  rcases x with _ | ⟨b, _ | ⟨c, r⟩⟩
  · simp
  · have : (b = 1) ↔ b.toNat = 1 := by rw [← UInt8.toNat_inj]; rfl
    simp [byteAt, this]
  · simp

private theorem nested_if {α} (p q : Prop) [Decidable p] [Decidable q] (x y : α) :
    (if p then x else if q then x else y) = if p ∨ q then x else y := by
  by_cases hp : p <;> by_cases hq : q <;> simp [hp, hq]

/-- OP_IF and OP_NOTIF once both dispatches are evaluated; `neg` is the test `op == OP_NOTIF` -/
private theorem if_rel {cx : Ctx} {e : SEE} {cfg : Spec.Cfg} {st : Spec.St} (hc : CfgRel cx e cfg) (h : Rel e st)
    (fExec neg : Bool) :
    RelOut
      (if fExec then do
        if e.stack.length < 1 then fail .UNBALANCED_CONDITIONAL
        let vch ← top e.stack 1
        if e.sigversion == .TAPSCRIPT then
          if vch.length > 1 || (vch.length == 1 && byteAt vch 0 != 1) then fail .TAPSCRIPT_MINIMALIF
        if e.sigversion == .WITNESS_V0 && hasFlag e.flags Flag.MINIMALIF then
          if vch.length > 1 then fail .MINIMALIF
          if vch.length == 1 && byteAt vch 0 != 1 then fail .MINIMALIF
        let st ← pop e.stack
        sizeCheck { e with stack := st, cond := e.cond.pushBack (if neg then !castToBool vch else castToBool vch) }
      else sizeCheck { e with cond := e.cond.pushBack false })
      (if fExec then
        match st.stack with
        | x :: s =>
          if cfg.sigversion == .TAPSCRIPT && !(x == [] || x == [1]) then .error .TAPSCRIPT_MINIMALIF
          else if cfg.sigversion == .WITNESS_V0 && hasFlag cfg.flags Flag.MINIMALIF && !(x == [] || x == [1]) then
            .error .MINIMALIF
          else Spec.checkSize { st with stack := s, cond := (if neg then !Spec.toBool x else Spec.toBool x) :: st.cond }
        | _ => .error .UNBALANCED_CONDITIONAL
      else Spec.checkSize { st with cond := false :: st.cond }) := by
  cases fExec
  · exact sizeCheck_rel (h.setCond h.stack (condRel_push h.cond false))
  · rw [hc.sv, hc.flags]
    generalize (e.sigversion == SigVersion.TAPSCRIPT) = t
    generalize (e.sigversion == SigVersion.WITNESS_V0 && hasFlag e.flags Flag.MINIMALIF) = w
    rcases hst : st.stack with _ | ⟨a, s⟩ <;> simp [h.stack, hst]
    simp only [nested_if, minimalIf_agree]
    by_cases hP : (¬a = [] ∧ ¬a = [1]) <;> cases t <;> cases w <;> simp [hP, castToBool_eq_toBool] <;>
      exact sizeCheck_rel (h.setCond rfl (condRel_push h.cond _))

theorem refines_OP_IF : OpRefines .OP_IF := by
  intro cx cfg e st fExec pc hc h hw
  exact if_rel hc h fExec false

theorem refines_OP_NOTIF : OpRefines .OP_NOTIF := by
  intro cx cfg e st fExec pc hc h hw
  exact if_rel hc h fExec true

theorem boolNum_decide (p : Prop) [Decidable p] : boolNum (decide p) = if p then 1 else 0 := by
  by_cases h : p <;> simp [boolNum, h]

theorem unaryNum_eq (op : Opcode) (n : Int) : unaryNum op n = Spec.unary op n := by
  unfold unaryNum Spec.unary
  split
  · rfl                                                   -- OP_1ADD: `n + 1` both
  · rfl                                                   -- OP_1SUB: `n - 1` both
  · rfl                                                   -- OP_NEGATE: `-n` both
  · show (if n < 0 then -n else n) = (n.natAbs : Int)     -- OP_ABS
    split <;> omega
  · show boolNum (n == 0) = if n = 0 then 1 else 0        -- OP_NOT
    exact boolNum_decide (n = 0)
  · split                                                 -- OP_0NOTEQUAL, the last alternative of both
    iterate 5 exact absurd rfl (by assumption)
    show boolNum (n != 0) = if n = 0 then 0 else 1
    by_cases h : n = 0 <;> simp [boolNum, h]

theorem refines_unary {op : Opcode} (hu : Spec.isUnary op = true) : OpRefines op := by
  intro cx cfg e st fExec pc hc h hw
  rw [execOpcode_unary hu, execOp_unary hu, hc.flags, ← hc.rm, default_num_size]
  rcases hst : st.stack with _ | ⟨a, s⟩ <;> simp [h.stack, hst]
  refine relOut_num fun n _ => ?_
  exact sizeCheck_rel (h.setStack (by simp [unaryNum_eq, Spec.encodeNum]))

theorem binaryNum_eq (op : Opcode) (a b : Int) : binaryNum op a b = Spec.binary op a b := by
  unfold binaryNum Spec.binary
  split
  · rfl                                                                   -- OP_ADD: `a + b` both
  · rfl                                                                   -- OP_SUB: `a - b` both
  · show boolNum (a != 0 && b != 0) = if a ≠ 0 ∧ b ≠ 0 then 1 else 0      -- OP_BOOLAND
    by_cases ha : a = 0 <;> by_cases hb : b = 0 <;> simp [boolNum, ha, hb]
  · show boolNum (a != 0 || b != 0) = if a ≠ 0 ∨ b ≠ 0 then 1 else 0      -- OP_BOOLOR
    by_cases ha : a = 0 <;> by_cases hb : b = 0 <;> simp [boolNum, ha, hb]
  · exact boolNum_decide (a = b)                                          -- OP_NUMEQUAL
  · exact boolNum_decide (a = b)                                          -- OP_NUMEQUALVERIFY
  · show boolNum (a != b) = if a ≠ b then 1 else 0                        -- OP_NUMNOTEQUAL
    by_cases h : a = b <;> simp [boolNum, h]
  · exact boolNum_decide (a < b)                                          -- OP_LESSTHAN
  · exact boolNum_decide (a > b)                                          -- OP_GREATERTHAN
  · exact boolNum_decide (a ≤ b)                                          -- OP_LESSTHANOREQUAL
  · exact boolNum_decide (a ≥ b)                                          -- OP_GREATERTHANOREQUAL
  · show (if a < b then a else b) = min a b                               -- OP_MIN
    split <;> omega
  · rw [show (if a > b then a else b) = max a b by split <;> omega]       -- OP_MAX, the last alternative of both
    split
    iterate 12 exact absurd rfl (by assumption)
    rfl
private theorem castToBool_boolNum (c : Bool) : castToBool (serialize (boolNum c)) = c := by
  cases c
  · simp [boolNum, serialize, castToBool]
  · simp [boolNum, show serialize 1 = [1] from Proofs.C18.serialize_small 1 (by decide), castToBool]

theorem refines_binary {op : Opcode} (hb : Spec.isBinary op = true) : OpRefines op := by
  intro cx cfg e st fExec pc hc h hw
  rw [execOpcode_binary hb, execOp_binary hb, hc.flags, ← hc.rm, default_num_size]
  rcases hst : st.stack with _ | ⟨b, _ | ⟨a, s⟩⟩ <;> simp [h.stack, hst]
  refine relOut_num fun n _ => ?_
  refine relOut_num fun m _ => ?_
  by_cases hv : op = .OP_NUMEQUALVERIFY
  · subst hv
    rw [show binaryNum .OP_NUMEQUALVERIFY n m = boolNum (n == m) from rfl, castToBool_boolNum]
    by_cases hnm : n = m <;> simp [hnm, Spec.binary]
    exact sizeCheck_rel (h.setStack rfl)
  · simp [hv]
    exact sizeCheck_rel (h.setStack (by simp [binaryNum_eq, Spec.encodeNum]))

theorem refines_OP_WITHIN : OpRefines .OP_WITHIN := by
  op_start .OP_WITHIN
  rw [hc.flags, ← hc.rm, default_num_size]
  rcases hst : st.stack with _ | ⟨c, _ | ⟨b, _ | ⟨a, s⟩⟩⟩ <;> simp [h.stack, hst]
  refine relOut_num fun n _ => ?_
  refine relOut_num fun m _ => ?_
  refine relOut_num fun k _ => ?_
  exact sizeCheck_rel (h.setStack (by simp [Spec.ofBool, vchTrue, vchFalse]))

theorem refines_OP_CHECKLOCKTIMEVERIFY : OpRefines .OP_CHECKLOCKTIMEVERIFY := by
  op_start .OP_CHECKLOCKTIMEVERIFY
  rw [hc.flags, ← hc.rm, hc.checkLockTime]
  by_cases hf : hasFlag e.flags Flag.CHECKLOCKTIMEVERIFY = true <;> simp [hf]
  · rcases hst : st.stack with _ | ⟨a, s⟩ <;> simp [h.stack, hst]
    refine relOut_num fun n _ => ?_
    by_cases hn : n < 0 <;> by_cases hk : cx.checkLockTime n = false <;> simp [hn, hk]
    exact sizeCheck_rel h
  · exact sizeCheck_rel h

private theorem csv_flag (m : Nat) : (m &&& Gen.SEQUENCE_LOCKTIME_DISABLE_FLAG != 0) = m.testBit 31 :=
  and_two_pow_ne_zero m 31

theorem refines_OP_CHECKSEQUENCEVERIFY : OpRefines .OP_CHECKSEQUENCEVERIFY := by
  op_start .OP_CHECKSEQUENCEVERIFY
  simp only [csv_flag]
  rw [hc.flags, ← hc.rm, hc.checkSequence]
  by_cases hf : hasFlag e.flags Flag.CHECKSEQUENCEVERIFY = true <;> simp [hf]
  · rcases hst : st.stack with _ | ⟨a, s⟩ <;> simp [h.stack, hst]
    refine relOut_num fun n _ => ?_
    by_cases hn : n < 0
    · simp [hn]
    · by_cases hb : n.toNat.testBit 31 = true
      · simp [hn, hb]                         -- the disable flag (bit 31) is set: the opcode is a no-op
        exact sizeCheck_rel h
      · by_cases hk : cx.checkSequence n = false
        · simp [hn, hb, hk]
        · simp [hn, hb, hk]
          exact sizeCheck_rel h
  · exact sizeCheck_rel h

end Btcdeb.Refine
