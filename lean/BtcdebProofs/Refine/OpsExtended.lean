/-
  Refinement Model ≈ Spec for the fifteen re-enabled ("disabled") opcodes: `StepExtended` against
  `Spec.execExtended`.
-/
import BtcdebProofs.Refine.Basic
namespace Btcdeb.Refine
open Btcdeb Model

@[simp] private theorem ok_map {α β} (f : α → β) (a : α) : f <$> (Except.ok a : M α) = .ok (f a) := rfl
@[simp] private theorem err_map {α β} (f : α → β) (x : StepErr) : f <$> (Except.error x : M α) = .error x := rfl

def ExtRefines (op : Opcode) : Prop :=
  ∀ {e : SEE} {st : Spec.St}, Rel e st → RelOut (stepExtended e op) (Spec.execExtended e.requireMinimal op st)

theorem refines_extended {op : Opcode} (hd : Spec.disabled op = true) (H : ExtRefines op) : OpRefines op := by
  intro cx cfg e st fExec pc hc h hw
  rw [execOpcode_extended hd, execOp_extended hd, hc.flags, ← hc.rm]
  exact H h

theorem refines_OP_CAT : OpRefines .OP_CAT := refines_extended rfl <| by
  intro e st h
  unfold stepExtended Spec.execExtended
  rcases hst : st.stack with _ | ⟨a, _ | ⟨b, s⟩⟩ <;> simp [h.stack, hst]
  by_cases hb : 520 < b.length + a.length <;> simp [hb]
  exact h.setStack (by simp)

theorem refines_OP_INVERT : OpRefines .OP_INVERT := refines_extended rfl <| by
  intro e st h
  unfold stepExtended Spec.execExtended
  rcases hst : st.stack with _ | ⟨a, s⟩ <;> simp [h.stack, hst]
  exact h.setStack (by simp)

theorem bytewise_eq_zipWith (f : UInt8 → UInt8 → UInt8) (a b : Bytes) :
    bytewise f a b = List.zipWith f a b := by
  induction a generalizing b with
  | nil => simp [bytewise]
  | cons x xs ih =>
    cases b with
    | nil => simp [bytewise]
    | cons y ys => simp [bytewise, ih]

private theorem bitwise_rel {op : Opcode} (hop : op = .OP_AND ∨ op = .OP_OR ∨ op = .OP_XOR) : ExtRefines op := by
  intro e st h
  unfold stepExtended Spec.execExtended
  rcases hop with rfl | rfl | rfl <;>
    (rcases hst : st.stack with _ | ⟨a, _ | ⟨b, s⟩⟩ <;> simp [h.stack, hst, bytewise_eq_zipWith]
     by_cases hl : b.length = a.length <;> simp [hl]
     exact h.setStack (by simp))

theorem refines_OP_AND : OpRefines .OP_AND := refines_extended rfl (bitwise_rel (.inl rfl))
theorem refines_OP_OR : OpRefines .OP_OR := refines_extended rfl (bitwise_rel (.inr (.inl rfl)))
theorem refines_OP_XOR : OpRefines .OP_XOR := refines_extended rfl (bitwise_rel (.inr (.inr rfl)))

private theorem mul2_div2_rel {op : Opcode} (hop : op = .OP_2MUL ∨ op = .OP_2DIV) : ExtRefines op := by
  intro e st h
  unfold stepExtended Spec.execExtended
  rcases hop with rfl | rfl <;>
    (rcases hst : st.stack with _ | ⟨a, s⟩ <;> simp [h.stack, hst]
     refine relOut_num fun n _ => ?_
     exact h.setStack (by simp [Spec.encodeNum, Int.mul_comm]))

theorem refines_OP_2MUL : OpRefines .OP_2MUL := refines_extended rfl (mul2_div2_rel (.inl rfl))
theorem refines_OP_2DIV : OpRefines .OP_2DIV := refines_extended rfl (mul2_div2_rel (.inr rfl))

-- the substring opcodes: the model's case distinctions are those of `take` and `drop` at `Int.toNat`

private theorem take_toNat (b : Bytes) (n : Int) :
    (if n < (b.length : Int) then b.take n.toNat else b) = b.take n.toNat := by
  split
  · rfl
  · rw [List.take_of_length_le]; omega

private theorem drop_toNat (b : Bytes) (n : Int) : (if 0 < n then b.drop n.toNat else b) = b.drop n.toNat := by
  split
  · rfl
  · rw [show n.toNat = 0 by omega, List.drop_zero]

private theorem drop_sub_toNat (b : Bytes) (n : Int) :
    (if n < (b.length : Int) then b.drop (b.length - n.toNat) else b) = b.drop (b.length - n.toNat) := by
  split
  · rfl
  · rw [show b.length - n.toNat = 0 by omega, List.drop_zero]

theorem refines_OP_LEFT : OpRefines .OP_LEFT := refines_extended rfl <| by
  intro e st h
  unfold stepExtended Spec.execExtended
  rcases hst : st.stack with _ | ⟨a, _ | ⟨b, s⟩⟩ <;> simp [h.stack, hst]
  refine relOut_num fun n _ => ?_
  by_cases hg : n < 0 ∨ (b.length : Int) < n <;> simp [hg]
  rw [take_toNat]
  exact h.setStack (by simp)

theorem refines_OP_RIGHT : OpRefines .OP_RIGHT := refines_extended rfl <| by
  intro e st h
  unfold stepExtended Spec.execExtended
  rcases hst : st.stack with _ | ⟨a, _ | ⟨b, s⟩⟩ <;> simp [h.stack, hst]
  refine relOut_num fun n _ => ?_
  by_cases hg : n < 0 ∨ (b.length : Int) < n <;> simp [hg]
  rw [drop_sub_toNat]
  exact h.setStack (by simp)

theorem refines_OP_SUBSTR : OpRefines .OP_SUBSTR := refines_extended rfl <| by
  intro e st h
  unfold stepExtended Spec.execExtended
  rcases hst : st.stack with _ | ⟨a, _ | ⟨b, _ | ⟨c, s⟩⟩⟩ <;> simp [h.stack, hst]
  refine relOut_num fun nb _ => ?_
  by_cases hb : nb < 0 <;> simp [hb]
  refine relOut_num fun n _ => ?_
  by_cases hg : n < 0 ∨ (c.length : Int) < nb + n <;> simp [hg]
  rw [drop_toNat, take_toNat]
  exact h.setStack (by simp)

-- arithmetic: the model computes in `int64_t` and tests the result; 5-byte operands are below 2^39 (`num_bound`),
-- so only the product and the left shift can leave the range

private theorem inInt64_eq (v : Int) : Model.inInt64 v = Spec.inInt64 v := by
  unfold Model.inInt64 Spec.inInt64 int64Min int64Max; rfl

private theorem num_bound {v : Bytes} {rm : Bool} {a : Int} (h : num v rm 5 = .ok a) : a.natAbs < 2 ^ 39 := by
  rw [Proofs.C18.num_eq] at h
  split at h
  · cases h
  · split at h <;> cases h
    rw [← Proofs.C18.decode_spec]
    exact Proofs.C18.decode_bound v 5 (by omega)

private theorem inInt64_small {r : Int} (h : r.natAbs < 2 ^ 39) : Model.inInt64 r = true := by
  unfold Model.inInt64 int64Min int64Max
  simp only [Bool.and_eq_true, decide_eq_true_eq]
  omega

theorem refines_OP_MUL : OpRefines .OP_MUL := refines_extended rfl <| by
  intro e st h
  unfold stepExtended Spec.execExtended
  rcases hst : st.stack with _ | ⟨y, _ | ⟨x, s⟩⟩ <;> simp [h.stack, hst]
  refine relOut_num fun a _ => ?_
  refine relOut_num fun b _ => ?_
  rw [inInt64_eq]
  cases hi : Spec.inInt64 (a * b) <;> simp [Spec.encodeNum]
  exact h.setStack (by simp)

theorem refines_OP_DIV : OpRefines .OP_DIV := refines_extended rfl <| by
  intro e st h
  unfold stepExtended Spec.execExtended
  rcases hst : st.stack with _ | ⟨y, _ | ⟨x, s⟩⟩ <;> simp [h.stack, hst]
  refine relOut_num fun a h1 => ?_
  refine relOut_num fun b _ => ?_
  by_cases hz : b = 0 <;> simp [hz]
  have hr : Model.inInt64 (a.tdiv b) = true :=
    inInt64_small (Nat.lt_of_le_of_lt (Int.natAbs_tdiv_le_natAbs a b) (num_bound h1))
  simp [hr, Spec.encodeNum]
  exact h.setStack (by simp)

theorem refines_OP_MOD : OpRefines .OP_MOD := refines_extended rfl <| by
  intro e st h
  unfold stepExtended Spec.execExtended
  rcases hst : st.stack with _ | ⟨y, _ | ⟨x, s⟩⟩ <;> simp [h.stack, hst]
  refine relOut_num fun a h1 => ?_
  refine relOut_num fun b _ => ?_
  by_cases hz : b = 0 <;> simp [hz]
  have hr : Model.inInt64 (a.tmod b) = true := by
    apply inInt64_small
    rw [Int.natAbs_tmod]
    exact Nat.lt_of_le_of_lt (Nat.mod_le _ _) (num_bound h1)
  simp [hr, Spec.encodeNum]
  exact h.setStack (by simp)

theorem refines_OP_LSHIFT : OpRefines .OP_LSHIFT := refines_extended rfl <| by
  intro e st h
  unfold stepExtended Spec.execExtended
  rcases hst : st.stack with _ | ⟨y, _ | ⟨x, s⟩⟩ <;> simp [h.stack, hst]
  refine relOut_num fun a _ => ?_
  refine relOut_num fun b _ => ?_
  by_cases hn : b < 0 <;> simp [hn]
  by_cases h64 : 64 ≤ b <;> simp [h64]
  · by_cases ha0 : a = 0 <;> simp [ha0, Spec.encodeNum, show Model.inInt64 0 = true from rfl]
    exact h.setStack (by simp)
  · rw [inInt64_eq]
    cases hi : Spec.inInt64 (a * 2 ^ b.toNat) <;> simp [Spec.encodeNum]
    exact h.setStack (by simp)

theorem refines_OP_RSHIFT : OpRefines .OP_RSHIFT := refines_extended rfl <| by
  intro e st h
  unfold stepExtended Spec.execExtended
  rcases hst : st.stack with _ | ⟨y, _ | ⟨x, s⟩⟩ <;> simp [h.stack, hst]
  refine relOut_num fun a h1 => ?_
  refine relOut_num fun b _ => ?_
  by_cases hn : b < 0 <;> simp [hn]
  by_cases h64 : 64 ≤ b <;> simp [h64]
  · have hr : Model.inInt64 (if a < 0 then -1 else 0) = true := by
      split <;> rfl
    simp [hr, Spec.encodeNum]
    exact h.setStack (by simp)
  · have hr : Model.inInt64 (a / 2 ^ b.toNat) = true :=
      inInt64_small (Nat.lt_of_le_of_lt (Int.natAbs_ediv_le_natAbs a _) (num_bound h1))
    simp [hr, Spec.encodeNum]
    exact h.setStack (by simp)

end Btcdeb.Refine
