/-
  Assembly of the refinement lemmas: every opcode of the `switch`, by its class or on its own.
-/
import BtcdebProofs.Refine.OpsStack
import BtcdebProofs.Refine.OpsNumeric
import BtcdebProofs.Refine.OpsExtended
import BtcdebProofs.Refine.OpsChecksig
import BtcdebProofs.Refine.OpsMultisig
namespace Btcdeb.Refine
open Btcdeb Model

/-- the `switch (opcode)` of `StepScript` refines the specification's `execOp`, for every opcode -/
theorem execOpcode_refines (op : Opcode) : OpRefines op := by
  cases op with
  | OP_0 => exact refines_bad (fun _ _ _ _ => rfl) (fun _ _ _ _ _ => rfl)
  | OP_PUSHDATA1 => exact refines_bad (fun _ _ _ _ => rfl) (fun _ _ _ _ _ => rfl)
  | OP_PUSHDATA2 => exact refines_bad (fun _ _ _ _ => rfl) (fun _ _ _ _ _ => rfl)
  | OP_PUSHDATA4 => exact refines_bad (fun _ _ _ _ => rfl) (fun _ _ _ _ _ => rfl)
  | OP_1NEGATE => exact refines_smallInt rfl
  | OP_RESERVED => exact refines_bad (fun _ _ _ _ => rfl) (fun _ _ _ _ _ => rfl)
  | OP_1 => exact refines_smallInt rfl
  | OP_2 => exact refines_smallInt rfl
  | OP_3 => exact refines_smallInt rfl
  | OP_4 => exact refines_smallInt rfl
  | OP_5 => exact refines_smallInt rfl
  | OP_6 => exact refines_smallInt rfl
  | OP_7 => exact refines_smallInt rfl
  | OP_8 => exact refines_smallInt rfl
  | OP_9 => exact refines_smallInt rfl
  | OP_10 => exact refines_smallInt rfl
  | OP_11 => exact refines_smallInt rfl
  | OP_12 => exact refines_smallInt rfl
  | OP_13 => exact refines_smallInt rfl
  | OP_14 => exact refines_smallInt rfl
  | OP_15 => exact refines_smallInt rfl
  | OP_16 => exact refines_smallInt rfl
  | OP_NOP => exact refines_OP_NOP
  | OP_VER => exact refines_bad (fun _ _ _ _ => rfl) (fun _ _ _ _ _ => rfl)
  | OP_IF => exact refines_OP_IF
  | OP_NOTIF => exact refines_OP_NOTIF
  | OP_VERIF => exact refines_bad (fun _ _ _ _ => rfl) (fun _ _ _ _ _ => rfl)
  | OP_VERNOTIF => exact refines_bad (fun _ _ _ _ => rfl) (fun _ _ _ _ _ => rfl)
  | OP_ELSE => exact refines_OP_ELSE
  | OP_ENDIF => exact refines_OP_ENDIF
  | OP_VERIFY => exact refines_OP_VERIFY
  | OP_RETURN => exact refines_OP_RETURN
  | OP_TOALTSTACK => exact refines_OP_TOALTSTACK
  | OP_FROMALTSTACK => exact refines_OP_FROMALTSTACK
  | OP_2DROP => exact refines_OP_2DROP
  | OP_2DUP => exact refines_OP_2DUP
  | OP_3DUP => exact refines_OP_3DUP
  | OP_2OVER => exact refines_OP_2OVER
  | OP_2ROT => exact refines_OP_2ROT
  | OP_2SWAP => exact refines_OP_2SWAP
  | OP_IFDUP => exact refines_OP_IFDUP
  | OP_DEPTH => exact refines_OP_DEPTH
  | OP_DROP => exact refines_OP_DROP
  | OP_DUP => exact refines_OP_DUP
  | OP_NIP => exact refines_OP_NIP
  | OP_OVER => exact refines_OP_OVER
  | OP_PICK => exact refines_OP_PICK
  | OP_ROLL => exact refines_OP_ROLL
  | OP_ROT => exact refines_OP_ROT
  | OP_SWAP => exact refines_OP_SWAP
  | OP_TUCK => exact refines_OP_TUCK
  | OP_CAT => exact refines_OP_CAT
  | OP_SUBSTR => exact refines_OP_SUBSTR
  | OP_LEFT => exact refines_OP_LEFT
  | OP_RIGHT => exact refines_OP_RIGHT
  | OP_SIZE => exact refines_OP_SIZE
  | OP_INVERT => exact refines_OP_INVERT
  | OP_AND => exact refines_OP_AND
  | OP_OR => exact refines_OP_OR
  | OP_XOR => exact refines_OP_XOR
  | OP_EQUAL => exact refines_OP_EQUAL
  | OP_EQUALVERIFY => exact refines_OP_EQUALVERIFY
  | OP_RESERVED1 => exact refines_bad (fun _ _ _ _ => rfl) (fun _ _ _ _ _ => rfl)
  | OP_RESERVED2 => exact refines_bad (fun _ _ _ _ => rfl) (fun _ _ _ _ _ => rfl)
  | OP_1ADD => exact refines_unary rfl
  | OP_1SUB => exact refines_unary rfl
  | OP_2MUL => exact refines_OP_2MUL
  | OP_2DIV => exact refines_OP_2DIV
  | OP_NEGATE => exact refines_unary rfl
  | OP_ABS => exact refines_unary rfl
  | OP_NOT => exact refines_unary rfl
  | OP_0NOTEQUAL => exact refines_unary rfl
  | OP_ADD => exact refines_binary rfl
  | OP_SUB => exact refines_binary rfl
  | OP_MUL => exact refines_OP_MUL
  | OP_DIV => exact refines_OP_DIV
  | OP_MOD => exact refines_OP_MOD
  | OP_LSHIFT => exact refines_OP_LSHIFT
  | OP_RSHIFT => exact refines_OP_RSHIFT
  | OP_BOOLAND => exact refines_binary rfl
  | OP_BOOLOR => exact refines_binary rfl
  | OP_NUMEQUAL => exact refines_binary rfl
  | OP_NUMEQUALVERIFY => exact refines_binary rfl
  | OP_NUMNOTEQUAL => exact refines_binary rfl
  | OP_LESSTHAN => exact refines_binary rfl
  | OP_GREATERTHAN => exact refines_binary rfl
  | OP_LESSTHANOREQUAL => exact refines_binary rfl
  | OP_GREATERTHANOREQUAL => exact refines_binary rfl
  | OP_MIN => exact refines_binary rfl
  | OP_MAX => exact refines_binary rfl
  | OP_WITHIN => exact refines_OP_WITHIN
  | OP_RIPEMD160 => exact refines_OP_RIPEMD160
  | OP_SHA1 => exact refines_OP_SHA1
  | OP_SHA256 => exact refines_OP_SHA256
  | OP_HASH160 => exact refines_OP_HASH160
  | OP_HASH256 => exact refines_OP_HASH256
  | OP_CODESEPARATOR => exact refines_OP_CODESEPARATOR
  | OP_CHECKSIG => exact refines_OP_CHECKSIG
  | OP_CHECKSIGVERIFY => exact refines_OP_CHECKSIGVERIFY
  | OP_CHECKMULTISIG => exact refines_OP_CHECKMULTISIG
  | OP_CHECKMULTISIGVERIFY => exact refines_OP_CHECKMULTISIGVERIFY
  | OP_NOP1 => exact refines_nopN rfl
  | OP_CHECKLOCKTIMEVERIFY => exact refines_OP_CHECKLOCKTIMEVERIFY
  | OP_CHECKSEQUENCEVERIFY => exact refines_OP_CHECKSEQUENCEVERIFY
  | OP_NOP4 => exact refines_nopN rfl
  | OP_NOP5 => exact refines_nopN rfl
  | OP_NOP6 => exact refines_nopN rfl
  | OP_NOP7 => exact refines_nopN rfl
  | OP_NOP8 => exact refines_nopN rfl
  | OP_NOP9 => exact refines_nopN rfl
  | OP_NOP10 => exact refines_nopN rfl
  | OP_CHECKSIGADD => exact refines_OP_CHECKSIGADD
  | PUSHN n => exact refines_bad (fun _ _ _ _ => rfl) (fun _ _ _ _ _ => rfl)
  | UNKNOWN n => exact refines_bad (fun _ _ _ _ => rfl) (fun _ _ _ _ _ => rfl)

end Btcdeb.Refine
