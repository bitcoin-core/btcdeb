/-
  One whole `StepScript(env, pc)` of the model against one instruction of the specification.  What `StepScript` tests
  itself before the opcode switch comes first: disabled opcodes, minimal pushes, the operation count.
-/
import BtcdebProofs.Refine.All
namespace Btcdeb.Refine
open Btcdeb Model

theorem isDisabled_eq (op : Opcode) : isDisabledOpcode op = Spec.disabled op := by
  cases op <;> rfl

theorem checkMinimalPush_eq (data : Bytes) (opcode : Nat) : checkMinimalPush data opcode = Spec.minimalPush opcode data := by
  unfold checkMinimalPush Spec.minimalPush
  cases data with
  | nil => simp [Op.OP_0, Bool.beq_eq_decide_eq]
  | cons b rest =>
    cases rest with
    | nil =>
      simp only [List.length_cons, List.length_nil, List.headD_cons]
      by_cases h1 : 1 ≤ b.toNat ∧ b.toNat ≤ 16
      · simp [h1]
      · by_cases h2 : b.toNat = 0x81
        · simp [h2]
        · simp only [Nat.reduceAdd] at *
          simp [h2]
          by_cases h3 : 1 ≤ b.toNat <;> by_cases h4 : b.toNat ≤ 16 <;> simp_all [Bool.beq_eq_decide_eq]
    | cons c rest2 =>
      simp only [List.length_cons]
      simp [Op.OP_PUSHDATA1, Op.OP_PUSHDATA2, Bool.beq_eq_decide_eq]

theorem countOp_rel {cx : Ctx} {e : SEE} {cfg : Spec.Cfg} {st : Spec.St} (hc : CfgRel cx e cfg) (h : Rel e st) (n : Nat) :
    RelOut (Model.countOp e n) (Spec.countOp cfg n st) := by
  unfold Model.countOp Spec.countOp
  rw [hc.sv, ← h.opCount]
  have h201 : Gen.MAX_OPS_PER_SCRIPT = Spec.maxOpsPerScript := by decide
  rw [h201]
  by_cases h1 : (e.sigversion == SigVersion.BASE || e.sigversion == SigVersion.WITNESS_V0) = true
  · by_cases h2 : n > 0x60
    · simp only [h1, h2, if_true, Bool.true_and, decide_true]
      split
      · simp
      · simp
        exact { h with opCount := rfl }
    · simp only [h1, h2, if_false, if_true, Bool.true_and, decide_false, Bool.false_eq_true]
      simpa using h
  · simp only [h1, Bool.false_eq_true, if_false, Bool.false_and]
    simpa using h

/-- the six fields of the environment that `CfgRel` reads are all in `SEE.frame`, which no operation changes (Lemmas/Frame.lean) -/
theorem cfgRel_of_frame {cx : Ctx} {e e' : SEE} {cfg : Spec.Cfg} (hc : CfgRel cx e cfg) (hf : e'.flags = e.flags)
    (hsv : e'.sigversion = e.sigversion) (hrm : e'.requireMinimal = e.requireMinimal)
    (hz : e'.allowDisabled = e.allowDisabled) (hpm : e'.pretendMap = e.pretendMap)
    (hpk : e'.pretendKeys = e.pretendKeys) : CfgRel cx e' cfg :=
  { hc with flags := by rw [hf]; exact hc.flags, sv := by rw [hsv]; exact hc.sv, z := by rw [hz]; exact hc.z,
            rm := by rw [hrm, hf]; exact hc.rm, pretendKeys := by rw [hpk]; exact hc.pretendKeys,
            pretendPair := by rw [hpk, hpm]; exact hc.pretendPair }

/-- outcome relation for a whole step: related states and the same next position, or the same error -/
def RelStep (m : M (SEE × Bytes)) (s : Spec.R Spec.St) (after : Bytes) : Prop :=
  match m, s with
  | .ok (e', pc'), .ok st' => Rel e' st' ∧ pc' = after
  | .error x, .error y => errAbs x = y ∧ isAbnormal x = false
  | _, _ => False

theorem relStep_iff {m : M (SEE × Bytes)} {s : Spec.R Spec.St} {after : Bytes} :
    RelStep m s after ↔ RelRes (fun r st' => Rel r.1 st' ∧ r.2 = after) m s := by
  cases m <;> cases s <;> exact Iff.rfl

theorem relStep_of_relOut {m : M SEE} {s : Spec.R Spec.St} (after : Bytes) (h : RelOut m s) :
    RelStep (m >>= fun e' => pure (e', after)) s after := by
  rw [relStep_iff, ← bind_pure s]
  exact (relOut_iff.mp h).bind fun _ _ _ _ hr => ⟨hr, rfl⟩

/-- One step: `StepScript(env, pc)` on a position where the specification decodes instruction `i`
    refines the specification's execution of `i` -/
theorem step_refines (cx : Ctx) (cfg : Spec.Cfg) (e : SEE) (st : Spec.St) (pc : Bytes) (i : Spec.Instr) (after : Bytes)
    (hc : CfgRel cx e cfg) (h : Rel e st) (hw : e.sigversion = .TAPSCRIPT → e.execdata.weightInit = true)
    (hdec : Spec.decodeOne pc = some (i, after)) :
    RelStep (step cx e pc) (Spec.execInstr cfg i after e.opcodePos st) after := by
  obtain ⟨g, hg, rfl, rfl⟩ : ∃ g, getOp pc = some g ∧ i = ⟨g.opcode, g.data⟩ ∧ after = g.rest :=
    ⟨_, getOp_of_decodeOne hdec, rfl, rfl⟩
  · rw [step_eq hg]
    unfold Spec.execInstr
    have h520 : Gen.MAX_SCRIPT_ELEMENT_SIZE = Spec.maxElementSize := by decide
    rw [h520]
    by_cases hsz : g.data.length > Spec.maxElementSize
    · simp [hsz, relStep_iff]
    · simp only [hsz, if_false]
      rw [relStep_iff]
      refine (relOut_iff.mp (countOp_rel hc h g.opcode)).bind fun e1 st1 hm _ hrel1 => relStep_iff.mp ?_
      -- counting changes nothing but `nOpCount`
      obtain ⟨m, he1⟩ := countOp_ok_cases hm
      have hc1 : CfgRel cx e1 cfg := by rw [he1]; exact cfgRel_of_frame hc rfl rfl rfl rfl rfl rfl
      have hpos : e1.opcodePos = e.opcodePos := by rw [he1]
      have hw1 : e1.sigversion = .TAPSCRIPT → e1.execdata.weightInit = true := by rw [he1]; exact hw
      have hexec : e.cond.allTrue = st.cond.all id := condRel_allTrue h.cond
      rw [hc1.rm, ← hc1.z, ← hc1.sv, ← hc1.flags, ← isDisabled_eq, hexec]
      by_cases hd : (!cfg.allowDisabled && isDisabledOpcode (Opcode.ofNat g.opcode)) = true
      · simp [hd, relStep_iff]
      · simp only [hd, Bool.false_eq_true, if_false]
        by_cases hcs : (Opcode.ofNat g.opcode == Opcode.OP_CODESEPARATOR && cfg.sigversion == SigVersion.BASE &&
            hasFlag cfg.flags Flag.CONST_SCRIPTCODE) = true
        · simp [hcs, relStep_iff]
        · simp only [hcs, Bool.false_eq_true, if_false]
          have hpd : Op.OP_PUSHDATA4 = 0x4e := rfl
          by_cases hp : (st.cond.all id && decide (g.opcode ≤ 0x4e)) = true
          · simp only [hpd, hp, if_true]
            rw [checkMinimalPush_eq]
            by_cases hmin : (hasFlag cfg.flags Flag.MINIMALDATA && !Spec.minimalPush g.opcode g.data) = true
            · simp [hmin, relStep_iff]
            · simp only [hmin, Bool.false_eq_true, if_false]
              refine relStep_of_relOut _ (sizeCheck_rel ?_)
              exact { hrel1 with stack := by simp [hrel1.stack] }
          · simp only [hpd, hp, Bool.false_eq_true, if_false]
            have hif : (Op.OP_IF = 0x63) ∧ (Op.OP_ENDIF = 0x68) := ⟨rfl, rfl⟩
            rw [hif.1, hif.2]
            by_cases hx : (st.cond.all id || decide (0x63 ≤ g.opcode) && decide (g.opcode ≤ 0x68)) = true
            · simp only [hx, if_true]
              apply relStep_of_relOut
              have := execOpcode_refines (Opcode.ofNat g.opcode) cx cfg e1 st1 (st.cond.all id) g.rest hc1 hrel1 hw1
              rw [hpos] at this
              exact this
            · simp only [hx, Bool.false_eq_true, if_false]
              apply relStep_of_relOut
              exact sizeCheck_rel hrel1

end Btcdeb.Refine
