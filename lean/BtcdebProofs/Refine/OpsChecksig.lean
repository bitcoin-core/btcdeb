/-
  Refinement Model ≈ Spec for OP_CHECKSIG, OP_CHECKSIGVERIFY and OP_CHECKSIGADD: one signature check
  (`EvalChecksig` against `Spec.checkSig`, by signature version), then the three opcodes around it.
-/
import BtcdebProofs.Refine.Encodings
import BtcdebProofs.Refine.FindAndDelete
namespace Btcdeb.Refine
open Btcdeb Model

@[simp] private theorem ok_map {α β} (f : α → β) (a : α) : f <$> (Except.ok a : M α) = .ok (f a) := rfl
@[simp] private theorem err_map {α β} (f : α → β) (x : StepErr) : f <$> (Except.error x : M α) = .error x := rfl

@[simp] private theorem isAbnormal_script (x : ScriptError) : isAbnormal (.script x) = false := rfl
@[simp] private theorem errAbs_script (x : ScriptError) : errAbs (.script x) = x := rfl
@[simp] private theorem isAbnormal_exc (x : String) : isAbnormal (.exc x) = false := rfl
@[simp] private theorem errAbs_exc (x : String) : errAbs (.exc x) = .UNKNOWN_ERROR := rfl

abbrev RelChecksigOut (e : SEE) : M (Bool × ExecData) → Spec.R (Bool × Spec.St) → Prop :=
  RelRes fun r r' => r.1 = r'.1 ∧ Rel { e with execdata := r.2 } r'.2

private theorem pairListed_keyListed (cfg : Spec.Cfg) (sig key : Bytes) (h : Spec.pairListed cfg sig key = true) :
    Spec.keyListed cfg key = true := by
  unfold Spec.pairListed at h
  unfold Spec.keyListed
  rw [List.any_eq_true]
  have := List.contains_iff_mem.mp h
  exact ⟨(sig, key), this, by simp⟩

private theorem mock_eq {cx : Ctx} {e : SEE} {cfg : Spec.Cfg} (hc : CfgRel cx e cfg) (sig key : Bytes) :
    (e.pretendKeys.contains key && pretendHas e.pretendMap sig key) = Spec.mockHit cfg sig key := by
  unfold Spec.mockHit
  by_cases hk : e.pretendKeys.contains key = true
  · rw [hk, Bool.true_and]; exact hc.pretendPair sig key hk
  · have hk' : e.pretendKeys.contains key = false := by simpa using hk
    rw [hk', Bool.false_and]
    cases hp : Spec.pairListed cfg sig key
    · rfl
    · have := pairListed_keyListed cfg sig key hp
      rw [← hc.pretendKeys key, hk'] at this
      cases this

private theorem rel_execdata {e : SEE} {st : Spec.St} (h : Rel e st) (ed : ExecData) (w : Int)
    (hcs : ed.codesepPos = st.codesepPos) (hwl : ed.weightLeft = w) (hwi : ed.weightInit = st.weightInit) :
    Rel { e with execdata := ed } { st with weightLeft := w } :=
  { h with codesep := hcs.symm, weight := hwl.symm, weightInit := hwi.symm }

private theorem weight_const : (Gen.VALIDATION_WEIGHT_PER_SIGOP_PASSED : Int) = 50 := by decide

private theorem pretap_tail {e : SEE} {st : Spec.St} (h : Rel e st) {m1 m2 : M Unit} {s1 s2 : Spec.R Unit}
    (r1 : RelUnit m1 s1) (r2 : RelUnit m2 s2) (ok nf : Bool) (sig : Bytes) :
    RelChecksigOut e
      (do
        let ok ← (do
          m1
          m2
          if !ok && nf && sig.length != 0 then fail .SIG_NULLFAIL
          pure ok : M Bool)
        pure (ok, e.execdata))
      (do
        s1
        s2
        if !ok && nf && !sig.isEmpty then .error .SIG_NULLFAIL
        .ok (ok, st)) := by
  have hne : (sig.length != 0) = !sig.isEmpty := by cases sig <;> simp
  rw [hne]
  simp only [bind_assoc]
  refine (relUnit_iff.mp r1).bind fun _ _ _ _ _ => (relUnit_iff.mp r2).bind fun _ _ _ _ _ => ?_
  -- both encoding checks have passed: the NULLFAIL test, the same on both sides, decides
  by_cases hn : (!ok && nf && !sig.isEmpty) = true <;> simp only [hn, if_true, Bool.false_eq_true, if_false]
  · exact ⟨rfl, rfl⟩
  · exact ⟨rfl, h⟩

theorem evalChecksig_rel {cx : Ctx} {e : SEE} {cfg : Spec.Cfg} {st : Spec.St}
    (hc : CfgRel cx e cfg) (h : Rel e st)
    (hw : e.sigversion = .TAPSCRIPT → e.execdata.weightInit = true) (sig key : Bytes) :
    RelChecksigOut e (evalChecksig cx e sig key) (Spec.checkSig cfg st sig key) := by
  unfold evalChecksig Spec.checkSig
  rw [mock_eq hc, hc.sv]
  by_cases hm : Spec.mockHit cfg sig key = true
  · simp only [hm, if_true]
    exact ⟨rfl, h⟩
  · simp only [hm]
    have hse := checkSignatureEncoding_rel cx e cfg hc sig
    have hke := checkPubKeyEncoding_rel cx e cfg hc key
    -- BASE (the only version that deletes the signature from the script code), WITNESS_V0, TAPROOT, and TAPSCRIPT, where
    -- `hw` meets the `assert` on the signature budget and the Schnorr check sees the execution data already charged (`ed`)
    cases hsv : e.sigversion
    · simp only [Bool.false_eq_true, if_false]
      unfold evalChecksigPreTapscript
      simp only [hsv, ← findAndDelete_eq, ← pushData_eq, hc.flags, h.codeFrom, hc.ecdsa, beq_self_eq_true, if_true] at hke ⊢
      by_cases hf : (decide ((findAndDelete e.pbegincodehash (pushData sig)).snd > 0) &&
                  hasFlag e.flags Flag.CONST_SCRIPTCODE) = true
      · simp only [hf, if_true]
        simp [fail]
      · simp only [hf]
        exact pretap_tail h hse hke _ _ sig
    · simp only [Bool.false_eq_true, if_false]
      unfold evalChecksigPreTapscript
      have hwb : (SigVersion.WITNESS_V0 == SigVersion.BASE) = false := by decide
      simp only [hsv, hc.flags, h.codeFrom, hc.ecdsa, hwb, Bool.false_eq_true, if_false] at hke ⊢
      exact pretap_tail h hse hke _ _ sig
    · simp only [Bool.false_eq_true, if_false]
      have hs := hc.schnorr sig key .TAPROOT e.execdata
      rw [← h.codesep] at hs
      rcases (relUnit_iff.mp hs).cases with ⟨⟨⟩, ⟨⟩, h1, h2, -⟩ | ⟨x, h1, h2, h3⟩
      · rw [h1, h2]; exact ⟨rfl, h⟩
      · rw [h1, h2]
        simp [h3]
    · simp only [Bool.false_eq_true, if_false]
      unfold evalChecksigTapscript
      have hwi := hw hsv
      have hkl : (key.length == 0) = key.isEmpty := by cases key <;> simp
      simp only [hsv, hc.flags, weight_const, h.weight, hkl]
      generalize hed : ({ e.execdata with weightLeft := e.execdata.weightLeft - 50 } : ExecData) = ed
      have hcs : ed.codesepPos = st.codesepPos := by rw [← hed, h.codesep]
      have hwl : ed.weightLeft = e.execdata.weightLeft - 50 := by rw [← hed]
      have hwi' : ed.weightInit = st.weightInit := by rw [← hed, h.weightInit]
      have hs := hc.schnorr sig key .TAPSCRIPT ed
      rw [hcs] at hs
      simp only [hwi, Bool.not_true, Bool.false_eq_true, if_false]
      cases hsig : sig.isEmpty
      · simp only [Bool.not_false, if_true]
        by_cases hlt : e.execdata.weightLeft - 50 < 0
        · simp [hlt]
        · simp only [hlt, if_false]
          cases hk : key.isEmpty
          · by_cases h32 : key.length = 32
            · rcases (relUnit_iff.mp hs).cases with ⟨⟨⟩, ⟨⟩, h1, h2, -⟩ | ⟨x, h1, h2, h3⟩
              · simp [h32, h1, h2]
                exact rel_execdata h ed _ hcs hwl hwi'
              · simp [h32, h1, h2, h3]
            · simp [h32]
              cases hasFlag e.flags Flag.DISCOURAGE_UPGRADABLE_PUBKEYTYPE
              · simp
                exact rel_execdata h ed _ hcs hwl hwi'
              · simp
          · simp
      · simp only [Bool.not_true, Bool.false_eq_true, if_false]
        cases hk : key.isEmpty
        · by_cases h32 : key.length = 32
          · simp [h32]
            exact h
          · simp [h32]
            cases hasFlag e.flags Flag.DISCOURAGE_UPGRADABLE_PUBKEYTYPE
            · simp
              exact h
            · simp
        · simp

theorem refines_OP_CHECKSIG : OpRefines .OP_CHECKSIG := by
  op_start .OP_CHECKSIG
  rcases hst : st.stack with _ | ⟨key, _ | ⟨sig, s⟩⟩ <;> simp [h.stack, hst]
  rcases (evalChecksig_rel hc h hw sig key).cases with ⟨⟨ok, ed⟩, ⟨_, st'⟩, h1, h2, ⟨⟨⟩, h3⟩⟩ | ⟨x, h1, h2, h3⟩ <;>
    rw [h1, h2] <;> simp [h3]
  exact sizeCheck_rel (h3.setStack (by simp [Spec.ofBool, vchTrue, vchFalse]))

theorem refines_OP_CHECKSIGVERIFY : OpRefines .OP_CHECKSIGVERIFY := by
  op_start .OP_CHECKSIGVERIFY
  rcases hst : st.stack with _ | ⟨key, _ | ⟨sig, s⟩⟩ <;> simp [h.stack, hst]
  rcases (evalChecksig_rel hc h hw sig key).cases with ⟨⟨ok, ed⟩, ⟨_, st'⟩, h1, h2, ⟨⟨⟩, h3⟩⟩ | ⟨x, h1, h2, h3⟩ <;>
    rw [h1, h2] <;> simp [h3]
  cases ok <;> simp
  exact sizeCheck_rel (h3.setStack rfl)

theorem refines_OP_CHECKSIGADD : OpRefines .OP_CHECKSIGADD := by
  op_start .OP_CHECKSIGADD
  rw [hc.sv, hc.flags, ← hc.rm, default_num_size]
  by_cases hsv : e.sigversion = .BASE ∨ e.sigversion = .WITNESS_V0 <;> simp [hsv]
  rcases hst : st.stack with _ | ⟨key, _ | ⟨nb, _ | ⟨sig, s⟩⟩⟩ <;> simp [h.stack, hst]
  refine relOut_num fun n _ => ?_
  rcases (evalChecksig_rel hc h hw sig key).cases with ⟨⟨ok, ed⟩, ⟨_, st'⟩, h1, h2, ⟨⟨⟩, h3⟩⟩ | ⟨x, h1, h2, h3⟩ <;>
    rw [h1, h2] <;> simp [h3]
  exact sizeCheck_rel (h3.setStack (by simp [Spec.encodeNum, boolNum]))

end Btcdeb.Refine
