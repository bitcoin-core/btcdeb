/-
  Refinement Model ≈ Spec, the common part: the abstraction relations (`Rel` for states, `CfgRel` for configuration and
  checker, `RelRes R` for outcomes, `RelOut` being `RelRes Rel`: `relOut_iff`), what `OpRefines op` asks of one opcode, and
  how the model's primitives (vector stacks, `CScriptNum`, `CastToBool`, the compressed condition stack) read through `Rel`.
-/
import Btcdeb
import BtcdebProofs.Refine.Equations
import BtcdebProofs.Properties.C18
namespace Btcdeb.Refine
open Btcdeb Model

/-- position (counted from the outermost level) of the first `false` in a condition list given innermost-first -/
def firstFalseOuter (l : List Bool) : Option Nat := l.reverse.findIdx? (fun b => !b)

/-- the compressed condition stack represents the list `l` (innermost first) -/
def CondRel (c : CondStack) (l : List Bool) : Prop :=
  c.size = l.length ∧ c.firstFalse = firstFalseOuter l ∧ (∀ p, c.firstFalse = some p → p < c.size)

/-- abstraction relation between the model environment and the specification state -/
structure Rel (e : SEE) (st : Spec.St) : Prop where
  stack : e.stack = st.stack.reverse
  alt : e.altstack = st.alt.reverse
  cond : CondRel e.cond st.cond
  opCount : st.opCount = e.nOpCount
  codeFrom : st.codeFrom = e.pbegincodehash
  codesep : st.codesepPos = e.execdata.codesepPos
  weight : st.weightLeft = e.execdata.weightLeft
  weightInit : st.weightInit = e.execdata.weightInit

/-- the specification's view of a failure of the model -/
def errAbs : StepErr → ScriptError
  | .script e => e
  | .exc _ => .UNKNOWN_ERROR
  | .abnormal _ => .UNKNOWN_ERROR

/-- the step ended by an assertion failure, a trap or undefined behaviour (not by an error code or a C++ exception) -/
def isAbnormal : StepErr → Bool
  | .abnormal _ => true
  | _ => false

/-- outcomes correspond: success with related states, or the same script error
    (a C++ exception is `SCRIPT_ERR_UNKNOWN_ERROR`), never an abnormal termination -/
def RelOut (m : M SEE) (s : Spec.R Spec.St) : Prop :=
  match m, s with
  | .ok e', .ok st' => Rel e' st'
  | .error x, .error y => errAbs x = y ∧ isAbnormal x = false
  | _, _ => False

@[simp] theorem relOut_ok (e : SEE) (st : Spec.St) : RelOut (.ok e) (.ok st) ↔ Rel e st := Iff.rfl
@[simp] theorem relOut_pure (e : SEE) (st : Spec.St) : RelOut (pure e) (.ok st) ↔ Rel e st := Iff.rfl
@[simp] theorem relOut_pure' (e : SEE) (st : Spec.St) : RelOut (pure e) (pure st) ↔ Rel e st := Iff.rfl
@[simp] theorem relOut_fail (x y : ScriptError) : RelOut (fail x) (.error y) ↔ x = y := by
  simp [RelOut, fail, errAbs, isAbnormal]
@[simp] theorem relOut_err (x : StepErr) (y : ScriptError) :
    RelOut (.error x) (.error y) ↔ (errAbs x = y ∧ isAbnormal x = false) := Iff.rfl
@[simp] theorem relOut_ok_err (e : SEE) (y : ScriptError) : RelOut (.ok e) (.error y) ↔ False := Iff.rfl
@[simp] theorem relOut_err_ok (x : StepErr) (st : Spec.St) : RelOut (.error x) (.ok st) ↔ False := Iff.rfl

@[simp] theorem fail_bind {α β} (x : ScriptError) (f : α → M β) : (fail x >>= f) = fail x := rfl
@[simp] theorem err_bind {α β} (x : StepErr) (f : α → M β) : ((Except.error x : M α) >>= f) = .error x := rfl
@[simp] theorem ok_bind {α β} (a : α) (f : α → M β) : ((Except.ok a : M α) >>= f) = f a := rfl
@[simp] theorem specErr_bind {α β} (x : ScriptError) (f : α → Spec.R β) : ((Except.error x : Spec.R α) >>= f) = .error x := rfl
@[simp] theorem specOk_bind {α β} (a : α) (f : α → Spec.R β) : ((Except.ok a : Spec.R α) >>= f) = f a := rfl

theorem relOut_error_bind {α β} {x : StepErr} {y : ScriptError} (hxy : errAbs x = y) (ha : isAbnormal x = false)
    (f : α → M SEE) (g : β → Spec.R Spec.St) : RelOut (Except.error x >>= f) (Except.error y >>= g) := ⟨hxy, ha⟩

theorem relOut_fail_bind {α β} (x : ScriptError) (f : α → M SEE) (g : β → Spec.R Spec.St) :
    RelOut (fail x >>= f) (Except.error x >>= g) := relOut_error_bind rfl rfl f g

-- vector primitives on `xs ++ [.., b, a]` (top of the stack last): the form `simp` gives `(a :: b :: s).reverse`

/-- `stacktop(-k)` within the part of the stack that is written out: `simp` settles the two side conditions on a
    literal `l` and reads the element off -/
@[simp] theorem top_append (xs l : List Bytes) {k : Nat} (h0 : 0 < k) (hk : k ≤ l.length) :
    top (xs ++ l) k = .ok (l[l.length - k]'(by omega)) := by
  unfold top
  rw [if_neg (by simp; omega)]
  have : (xs ++ l).length - k = xs.length + (l.length - k) := by simp; omega
  rw [this, List.getElem?_append_right (by omega), Nat.add_sub_cancel_left, List.getElem?_eq_getElem (by omega)]

theorem top1 (xs : List Bytes) (a : Bytes) : top (xs ++ [a]) 1 = .ok a := top_append xs [a] Nat.one_pos (Nat.le_refl 1)

@[simp] theorem pop_append_cons (xs : List Bytes) (a : Bytes) (l : List Bytes) :
    pop (xs ++ a :: l) = .ok (xs ++ (a :: l).dropLast) := by
  simp [pop]

theorem pop_snoc (xs : List Bytes) (a : Bytes) : pop (xs ++ [a]) = .ok xs := by
  simp

/-- settles the model's guards `if stack.size() < k` on a stack in the normal form `xs ++ [.., b, a]`, whose length `simp`
    writes `xs.length + k` -/
@[simp] theorem add_lt_self_false (n k : Nat) : (n + k < k) ↔ False := by
  simp

theorem top_reverse (l : List Bytes) (k : Nat) (h : k < l.length) : top l.reverse (k + 1) = .ok l[k] := by
  rw [← List.nil_append l.reverse, top_append _ _ (Nat.succ_pos k) (by simp; omega), List.getElem_reverse]
  congr 2; simp; omega

theorem top_reverse_of_getElem? {l : List Bytes} {k : Nat} {v : Bytes} (h : l[k]? = some v) :
    top l.reverse (k + 1) = .ok v := by
  obtain ⟨hk, rfl⟩ := List.getElem?_eq_some_iff.mp h
  exact top_reverse l k hk

theorem eraseFromEnd_reverse (l : List Bytes) (k : Nat) (h : k < l.length) :
    eraseFromEnd l.reverse (k + 1) = (l.eraseIdx k).reverse := by
  unfold eraseFromEnd
  rw [List.eraseIdx_eq_take_drop_succ, List.eraseIdx_eq_take_drop_succ, List.reverse_append,
    List.take_reverse, List.drop_reverse]
  have h1 : l.length - (l.reverse.length - (k + 1)) = k + 1 := by simp; omega
  have h2 : l.length - (l.reverse.length - (k + 1) + 1) = k := by simp; omega
  rw [h1, h2]

theorem sizeCheck_rel {e : SEE} {st : Spec.St} (h : Rel e st) : RelOut (sizeCheck e) (Spec.checkSize st) := by
  unfold sizeCheck Spec.checkSize
  have h1 : e.stack.length = st.stack.length := by rw [h.stack]; simp
  have h2 : e.altstack.length = st.alt.length := by rw [h.alt]; simp
  have hc : Gen.MAX_STACK_SIZE = Spec.maxStackSize := by decide
  rw [h1, h2, hc]
  split
  · simp
  · simpa using h

theorem Rel.setStack {e : SEE} {st : Spec.St} (h : Rel e st) {a b : List Bytes} (hab : a = b.reverse) :
    Rel { e with stack := a } { st with stack := b } := { h with stack := hab }

theorem Rel.setStacks {e : SEE} {st : Spec.St} (h : Rel e st) {a b c d : List Bytes} (hab : a = b.reverse)
    (hcd : c = d.reverse) : Rel { e with stack := a, altstack := c } { st with stack := b, alt := d } :=
  { h with stack := hab, alt := hcd }

theorem Rel.setCond {e : SEE} {st : Spec.St} (h : Rel e st) {a b : List Bytes} {c : CondStack} {l : List Bool}
    (hab : a = b.reverse) (hc : CondRel c l) : Rel { e with stack := a, cond := c } { st with stack := b, cond := l } :=
  { h with stack := hab, cond := hc }

/-- unit-valued outcomes (checks) correspond -/
def RelUnit (m : M Unit) (s : Spec.R Unit) : Prop :=
  match m, s with
  | .ok (), .ok () => True
  | .error x, .error y => errAbs x = y ∧ isAbnormal x = false
  | _, _ => False

/-- outcomes of a computation of the model and one of the specification correspond: results related by `R`, or the
    same script error (a C++ exception being UNKNOWN_ERROR), the model's never abnormal.  `RelOut` is `RelRes Rel`,
    `RelUnit` is `RelRes` of the trivial relation, `RelStep` adds the next position. -/
def RelRes {α β} (R : α → β → Prop) (m : M α) (s : Spec.R β) : Prop :=
  match m, s with
  | .ok a, .ok b => R a b
  | .error x, .error y => errAbs x = y ∧ isAbnormal x = false
  | _, _ => False

namespace RelRes
variable {α β : Type} {R : α → β → Prop}
@[simp] theorem ok_ok (a : α) (b : β) : RelRes R (.ok a) (.ok b) ↔ R a b := Iff.rfl
@[simp] theorem pure_ok (a : α) (b : β) : RelRes R (pure a) (.ok b) ↔ R a b := Iff.rfl
@[simp] theorem error_error (x : StepErr) (y : ScriptError) :
    RelRes R (.error x) (.error y) ↔ (errAbs x = y ∧ isAbnormal x = false) := Iff.rfl
@[simp] theorem fail_error (x y : ScriptError) : RelRes R (fail x) (.error y) ↔ x = y :=
  and_iff_left rfl
@[simp] theorem ok_error (a : α) (y : ScriptError) : RelRes R (.ok a) (.error y) ↔ False := Iff.rfl
@[simp] theorem error_ok (x : StepErr) (b : β) : RelRes R (.error x) (.ok b) ↔ False := Iff.rfl
end RelRes

theorem relOut_iff {m : M SEE} {s : Spec.R Spec.St} : RelOut m s ↔ RelRes Rel m s := by
  cases m <;> cases s <;> exact Iff.rfl

theorem relUnit_iff {m : M Unit} {s : Spec.R Unit} : RelUnit m s ↔ RelRes (fun _ _ => True) m s := by
  cases m <;> cases s <;> exact Iff.rfl

theorem RelRes.bind {α β γ δ} {R : α → β → Prop} {Q : γ → δ → Prop} {m : M α} {s : Spec.R β} {f : α → M γ}
    {g : β → Spec.R δ} (h : RelRes R m s) (hf : ∀ a b, m = .ok a → s = .ok b → R a b → RelRes Q (f a) (g b)) :
    RelRes Q (m >>= f) (s >>= g) := by
  cases m <;> cases s
  · exact h
  · exact h.elim
  · exact h.elim
  · exact hf _ _ rfl rfl h

theorem RelRes.bind_eq {α γ δ} {Q : γ → δ → Prop} {m : M α} {s : Spec.R α} {f : α → M γ} {g : α → Spec.R δ}
    (h : RelRes Eq m s) (hf : ∀ a, RelRes Q (f a) (g a)) : RelRes Q (m >>= f) (s >>= g) :=
  h.bind fun a _ _ _ hab => hab ▸ hf a

theorem RelRes.bind_out {α β} {R : α → β → Prop} {m : M α} {s : Spec.R β} {f : α → M SEE} {g : β → Spec.R Spec.St}
    (h : RelRes R m s) (hf : ∀ a b, R a b → RelOut (f a) (g b)) : RelOut (m >>= f) (s >>= g) :=
  relOut_iff.mpr (h.bind fun a b _ _ r => relOut_iff.mp (hf a b r))

theorem RelRes.cases {α β} {R : α → β → Prop} {m : M α} {s : Spec.R β} (h : RelRes R m s) :
    (∃ a b, m = .ok a ∧ s = .ok b ∧ R a b) ∨
    (∃ x, m = .error x ∧ s = .error (errAbs x) ∧ isAbnormal x = false) := by
  cases m <;> cases s
  · exact .inr ⟨_, rfl, by rw [h.1], h.2⟩
  · exact h.elim
  · exact h.elim
  · exact .inl ⟨_, _, rfl, rfl, h⟩

/-- configuration of the specification = configuration and external world of the model -/
structure CfgRel (cx : Ctx) (e : SEE) (cfg : Spec.Cfg) : Prop where
  flags : cfg.flags = e.flags
  sv : cfg.sigversion = e.sigversion
  z : cfg.allowDisabled = e.allowDisabled
  rm : e.requireMinimal = hasFlag e.flags Flag.MINIMALDATA
  sha256 : cfg.oracle.sha256 = cx.sha256
  ripemd160 : cfg.oracle.ripemd160 = cx.ripemd160
  sha1 : cfg.oracle.sha1 = cx.sha1
  checkLowS : cfg.oracle.checkLowS = cx.checkLowS
  checkLockTime : cfg.oracle.checkLockTime = cx.checkLockTime
  checkSequence : cfg.oracle.checkSequence = cx.checkSequence
  ecdsa : cfg.oracle.ecdsa = cx.checkECDSA
  schnorr : ∀ sig key sv ed, RelUnit (cx.checkSchnorr sig key sv ed) (cfg.oracle.schnorr sig key sv ed.codesepPos)
  /-- the mock-signature tables denote the listed pairs (holds for what `--pretend-valid` parsing builds from every
      well-formed list: Properties/C11 `parse_gives_CfgRel_clauses`) -/
  pretendKeys : ∀ key, e.pretendKeys.contains key = Spec.keyListed cfg key
  pretendPair : ∀ sig key, e.pretendKeys.contains key = true →
    pretendHas e.pretendMap sig key = Spec.pairListed cfg sig key

/-- the refinement statement for one opcode of the `switch`.  The third hypothesis is the precondition of
    `EvalChecksigTapscript`'s `assert(execdata.m_validation_weight_left_init)`: a tapscript session has its
    signature budget initialised (every step keeps it so: `step_weightInit`, Lemmas/EdFlags.lean) -/
def OpRefines (op : Opcode) : Prop :=
  ∀ (cx : Ctx) (cfg : Spec.Cfg) (e : SEE) (st : Spec.St) (fExec : Bool) (pc : Bytes),
    CfgRel cx e cfg → Rel e st →
    (e.sigversion = .TAPSCRIPT → e.execdata.weightInit = true) →
    RelOut (execOpcode cx e op fExec pc) (Spec.execOp cfg op fExec pc e.opcodePos st)

set_option hygiene false in
/-- opening of the proof of `OpRefines op` for an opcode of the final `match` of `Spec.execOp`: introduce the
    hypotheses (`hc : CfgRel`, `h : Rel`, `hw`) and evaluate the dispatch of both interpreters on `op` -/
macro "op_start " op:term : tactic =>
  `(tactic| (intro cx cfg e st fExec pc hc h hw
             unfold Spec.execOp
             simp only [classifiers_of_other $op rfl, ↓reduceIte, Bool.false_eq_true]
             dsimp only [execOpcode]))

theorem num_rel (v : Bytes) (rm : Bool) (k : Nat) : RelRes Eq (num v rm k) (Spec.numOf rm k v) := by
  unfold num scriptNum Spec.numOf
  rw [← Proofs.C18.minimalOk_eq_minimalNum, ← Proofs.C18.decode_spec]
  by_cases h1 : v.length > k
  · simp [h1, errAbs, isAbnormal]
  · by_cases h2 : (rm && !minimalOk v) = true <;> simp [h1, h2, errAbs, isAbnormal]

theorem relOut_num {v : Bytes} {rm : Bool} {k : Nat} {f : Int → M SEE} {g : Int → Spec.R Spec.St}
    (h : ∀ n, num v rm k = .ok n → RelOut (f n) (g n)) : RelOut (num v rm k >>= f) (Spec.numOf rm k v >>= g) :=
  relOut_iff.mpr ((num_rel v rm k).bind fun n _ hn _ hnm => hnm ▸ relOut_iff.mp (h n hn))

theorem default_num_size : Gen.DEFAULT_MAX_NUM_SIZE = 4 := by decide

theorem castToBool_eq_toBool (b : Bytes) : castToBool b = Spec.toBool b := by
  induction b with
  | nil => rfl
  | cons x xs ih =>
    cases xs with
    | nil =>
      simp only [castToBool, Spec.toBool]
      have : (x == 0) = (x.toNat == 0) := by
        rw [Bool.eq_iff_iff]; simp [← UInt8.toNat_inj]
      have h2 : (x == 0x80) = (x.toNat == 0x80) := by
        rw [Bool.eq_iff_iff]; simp [← UInt8.toNat_inj]
      rw [this, h2]
      cases h3 : (x.toNat == 0) <;> cases h4 : (x.toNat == 0x80) <;> simp_all
    | cons y ys =>
      simp only [castToBool, Spec.toBool]
      rw [ih]
      have : (x != 0) = (x.toNat != 0) := by
        rw [Bool.eq_iff_iff]; simp [← UInt8.toNat_inj]
      rw [this]
      cases h : (x.toNat != 0) <;> simp

theorem condRel_empty : CondRel {} [] := by
  simp [CondRel, firstFalseOuter]

theorem condRel_nil {c : CondStack} (h : CondRel c []) : c = {} := by
  obtain ⟨h1, h2, _⟩ := h
  cases c with
  | mk size ff =>
    simp only [List.length_nil] at h1
    simp only [firstFalseOuter, List.reverse_nil, List.findIdx?_nil] at h2
    subst h1; subst h2; rfl

theorem condRel_isEmpty {c : CondStack} {l : List Bool} (h : CondRel c l) : c.empty = l.isEmpty := by
  obtain ⟨h1, _, _⟩ := h
  unfold CondStack.empty
  cases l <;> simp_all

theorem condRel_allTrue {c : CondStack} {l : List Bool} (h : CondRel c l) : c.allTrue = l.all id := by
  rw [Bool.eq_iff_iff]
  simp [CondStack.allTrue, h.2.1, firstFalseOuter]

theorem firstFalseOuter_cons (f : Bool) (l : List Bool) :
    firstFalseOuter (f :: l) = (firstFalseOuter l).or (if f then none else some l.length) := by
  unfold firstFalseOuter
  rw [List.reverse_cons, List.findIdx?_append]
  cases f <;> simp [List.findIdx?_cons]

theorem firstFalseOuter_lt {l : List Bool} {p : Nat} (h : firstFalseOuter l = some p) : p < l.length := by
  unfold firstFalseOuter at h
  rw [List.findIdx?_eq_some_iff_findIdx_eq] at h
  simpa using h.1

theorem CondRel.of_eq {c : CondStack} {l : List Bool} (h1 : c.size = l.length) (h2 : c.firstFalse = firstFalseOuter l) :
    CondRel c l :=
  ⟨h1, h2, fun _ hp => h1 ▸ firstFalseOuter_lt (h2 ▸ hp)⟩

theorem condRel_push {c : CondStack} {l : List Bool} (h : CondRel c l) (f : Bool) :
    CondRel (c.pushBack f) (f :: l) := by
  obtain ⟨h1, h2, _⟩ := h
  refine CondRel.of_eq (by simp [CondStack.pushBack, h1]) ?_
  rw [firstFalseOuter_cons, ← h2]
  unfold CondStack.pushBack
  cases hc : c.firstFalse <;> cases f <;> simp [h1]

theorem condRel_pop {c : CondStack} {b : Bool} {l : List Bool} (h : CondRel c (b :: l)) :
    CondRel c.popBack l := by
  obtain ⟨h1, h2, _⟩ := h
  simp only [List.length_cons] at h1
  rw [firstFalseOuter_cons] at h2
  have hsz : c.size - 1 = l.length := by omega
  refine CondRel.of_eq (by simp [CondStack.popBack, hsz]) ?_
  unfold CondStack.popBack
  simp only [hsz]
  cases hf : firstFalseOuter l with
  | none =>
    rw [hf] at h2
    cases b <;> simp_all
  | some p =>
    have hlt := firstFalseOuter_lt hf
    rw [hf] at h2; simp at h2
    rw [h2]
    have : (some p == some l.length) = false := by simp; omega
    simp [this]

theorem condRel_toggle {c : CondStack} {b : Bool} {l : List Bool} (h : CondRel c (b :: l)) :
    CondRel c.toggleTop ((!b) :: l) := by
  obtain ⟨h1, h2, _⟩ := h
  simp only [List.length_cons] at h1
  rw [firstFalseOuter_cons] at h2
  have hsz : c.size - 1 = l.length := by omega
  cases hf : firstFalseOuter l with
  | some p =>
    -- a level further out is false: toggling the innermost one changes nothing
    have hlt := firstFalseOuter_lt hf
    rw [hf] at h2; simp at h2
    have hne : (p == c.size - 1) = false := by simp; omega
    have htog : c.toggleTop = c := by
      unfold CondStack.toggleTop; rw [h2]; simp only [hne]; rfl
    rw [htog]
    refine CondRel.of_eq (by simp [h1]) ?_
    rw [firstFalseOuter_cons, hf]; simp [h2]
  | none =>
    rw [hf] at h2; simp at h2
    cases b <;> simp at h2 <;> refine CondRel.of_eq ?_ ?_ <;> unfold CondStack.toggleTop <;> rw [h2] <;>
      simp [h1, firstFalseOuter_cons, hf]

end Btcdeb.Refine
