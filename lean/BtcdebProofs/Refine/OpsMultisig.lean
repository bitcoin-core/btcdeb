/-
  Refinement Model ≈ Spec for OP_CHECKMULTISIG / OP_CHECKMULTISIGVERIFY.  The model's branch is cut after its
  argument checks (`msModel`, `msTail`); its two loops are `Spec.deleteAll` and `Spec.matchSigs`; everything
  else is index arithmetic on the stack shape `(nk :: keys ++ ns :: sigs ++ dummy :: s4).reverse`.
  `Spec.execMultisig` asks for the dummy element before any signature work, as Bitcoin Core and the model do.
-/
import BtcdebProofs.Refine.Encodings
import BtcdebProofs.Refine.FindAndDelete
namespace Btcdeb.Refine
open Btcdeb Model

/-- body of the FindAndDelete `for` loop of OP_CHECKMULTISIG -/
def fadBody (e : SEE) (E : List Bytes) (base : Nat) (k : Nat) (s : Bytes) : M (ForInStep Bytes) := do
  let sig ← top E (base + k)
  if (e.sigversion == SigVersion.BASE) = true then
    if (decide ((findAndDelete s (pushData sig)).snd > 0) && hasFlag e.flags Flag.CONST_SCRIPTCODE) = true then do
      fail ScriptError.SIG_FINDANDDELETE
      pure (ForInStep.yield (findAndDelete s (pushData sig)).fst)
    else pure (ForInStep.yield (findAndDelete s (pushData sig)).fst)
  else pure (ForInStep.yield s)

private theorem top_seg_cons {E : List Bytes} {i : Nat} {x : Bytes} {xs : List Bytes}
    (h : ∀ k (hk : k < (x :: xs).length), top E (i + k) = .ok (x :: xs)[k]) :
    top E i = .ok x ∧ ∀ k (hk : k < xs.length), top E (i + 1 + k) = .ok xs[k] :=
  ⟨h 0 (Nat.zero_lt_succ _), fun k hk => by
    rw [Nat.add_assoc, Nat.add_comm 1 k]; exact h (k + 1) (Nat.succ_lt_succ hk)⟩

private theorem fadLoop {cx : Ctx} {e : SEE} {cfg : Spec.Cfg} (hc : CfgRel cx e cfg)
    (E : List Bytes) (base : Nat) :
    ∀ (sigs : List Bytes) (s0 : Nat) (code : Bytes),
      (∀ k (h : k < sigs.length), top E (base + s0 + k) = .ok sigs[k]) →
      RelRes Eq (forIn (List.range' s0 sigs.length 1) code (fadBody e E base)) (Spec.deleteAll cfg sigs code) := by
  intro sigs
  induction sigs with
  | nil => intro s0 code _; simp [Spec.deleteAll]
  | cons sig sigs ih =>
    intro s0 code hidx
    obtain ⟨h0, hrest⟩ := top_seg_cons hidx
    rw [List.length_cons, List.range'_succ, List.forIn_cons]
    have hsv : (cfg.sigversion == SigVersion.BASE) = (e.sigversion == SigVersion.BASE) := by rw [hc.sv]
    have hbody : fadBody e E base s0 code =
        (if (e.sigversion == SigVersion.BASE) = true then
          if (decide ((Spec.findAndDelete code (Spec.pushOf sig)).snd > 0) && hasFlag e.flags Flag.CONST_SCRIPTCODE) = true
          then fail ScriptError.SIG_FINDANDDELETE
          else .ok (ForInStep.yield (Spec.findAndDelete code (Spec.pushOf sig)).fst)
        else .ok (ForInStep.yield code)) := by
      unfold fadBody
      rw [h0]
      simp only [ok_bind, findAndDelete_eq, pushData_eq, fail_bind]
      rfl
    rw [hbody]
    simp only [Spec.deleteAll, hsv, hc.flags]
    by_cases hb : (e.sigversion == SigVersion.BASE) = true
    · rw [if_pos hb, if_pos hb]
      by_cases hf : (decide ((Spec.findAndDelete code (Spec.pushOf sig)).snd > 0) && hasFlag e.flags Flag.CONST_SCRIPTCODE) = true
      · rw [if_pos hf, if_pos hf]; simp
      · rw [if_neg hf, if_neg hf]; exact ih _ _ hrest
    · rw [if_neg hb, if_neg hb]; exact ih _ _ hrest

private theorem contains_map_snd (l : List (Bytes × Bytes)) (key : Bytes) :
    (l.map (·.2)).contains key = l.any (fun p => p.2 == key) := by
  induction l with
  | nil => rfl
  | cons p l ih =>
    simp only [List.map_cons, List.contains_cons, List.any_cons, ih]
    congr 1
    rw [Bool.eq_iff_iff]; simp only [beq_iff_eq]; exact eq_comm

private theorem msLoop {cx : Ctx} {e : SEE} {cfg : Spec.Cfg} (hc : CfgRel cx e cfg)
    (code : Bytes) (E : List Bytes) :
    ∀ (keys sigs : List Bytes) (isig ikey : Nat),
      (∀ k (h : k < sigs.length), top E (isig + k) = .ok sigs[k]) →
      (∀ k (h : k < keys.length), top E (ikey + k) = .ok keys[k]) →
      RelRes Eq (multisigLoop cx e code E sigs.length keys.length isig ikey) (Spec.matchSigs cfg code sigs keys) := by
  intro keys
  induction keys with
  | nil =>
    intro sigs isig ikey _ _
    cases sigs with
    | nil => simp [multisigLoop, Spec.matchSigs]
    | cons s ss => simp [multisigLoop, Spec.matchSigs]
  | cons key keys ih =>
    intro sigs isig ikey hsig hkey
    cases sigs with
    | nil => simp [multisigLoop, Spec.matchSigs]
    | cons sig sigs =>
      obtain ⟨h0, hsrest⟩ := top_seg_cons hsig
      obtain ⟨hk0, hkrest⟩ := top_seg_cons hkey
      simp only [List.length_cons, multisigLoop, Spec.matchSigs, h0, hk0, ok_bind]
      -- after `sig` has been checked against `key`, whatever the answer `ok`: the key is used up, the signature only if `ok`
      have hK : ∀ ok : Bool, RelRes Eq
          (if (if ok = true then sigs.length else sigs.length + 1) > keys.length then pure false
           else multisigLoop cx e code E (if ok = true then sigs.length else sigs.length + 1) keys.length
             (if ok = true then isig + 1 else isig) (ikey + 1))
          (if (if ok = true then sigs else sig :: sigs).length > keys.length then Except.ok false
           else Spec.matchSigs cfg code (if ok = true then sigs else sig :: sigs) keys) := by
        intro ok
        cases ok
        · simp only [Bool.false_eq_true, if_false, List.length_cons]
          by_cases hgt : sigs.length + 1 > keys.length
          · rw [if_pos hgt, if_pos hgt]; exact rfl
          · rw [if_neg hgt, if_neg hgt]
            exact ih (sig :: sigs) isig (ikey + 1) hsig hkrest
        · simp only [if_true]
          by_cases hgt : sigs.length > keys.length
          · rw [if_pos hgt, if_pos hgt]; exact rfl
          · rw [if_neg hgt, if_neg hgt]
            exact ih sigs (isig + 1) (ikey + 1) hsrest hkrest
      by_cases hp : e.pretendKeys.contains key = true
      · rw [if_pos hp, if_pos (by rw [← hc.pretendKeys key]; exact hp), hc.pretendPair sig key hp]
        exact RelRes.bind_eq (m := pure _) (s := pure _) rfl hK
      · rw [if_neg hp, if_neg (by rw [← hc.pretendKeys key]; exact hp)]
        refine (relUnit_iff.mp (checkSignatureEncoding_rel cx e cfg hc sig)).bind fun _ _ _ _ _ =>
          (relUnit_iff.mp (checkPubKeyEncoding_rel cx e cfg hc key)).bind fun _ _ _ _ _ => ?_
        refine RelRes.bind_eq ?_ hK
        rw [hc.ecdsa, hc.sv]; exact rfl

private theorem shape_key (nk ns dummy : Bytes) (keys sigs s4 : List Bytes) (k : Nat) (h : k < keys.length) :
    top (nk :: (keys ++ ns :: (sigs ++ dummy :: s4))).reverse (2 + k) = .ok keys[k] := by
  have : 2 + k = (k + 1) + 1 := by omega
  rw [this]
  apply top_reverse_of_getElem?
  rw [List.getElem?_cons_succ, List.getElem?_append_left h, List.getElem?_eq_getElem h]

private theorem shape_sig (nk ns dummy : Bytes) (keys sigs s4 : List Bytes) (k : Nat) (h : k < sigs.length) :
    top (nk :: (keys ++ ns :: (sigs ++ dummy :: s4))).reverse (2 + keys.length + 1 + k) = .ok sigs[k] := by
  have : 2 + keys.length + 1 + k = ((keys.length + (k + 1)) + 1) + 1 := by omega
  rw [this]
  apply top_reverse_of_getElem?
  rw [List.getElem?_cons_succ, List.getElem?_append_right (by omega)]
  have : keys.length + (k + 1) - keys.length = k + 1 := by omega
  rw [this, List.getElem?_cons_succ, List.getElem?_append_left h, List.getElem?_eq_getElem h]

private theorem shape_take (nk ns dummy : Bytes) (keys sigs s4 : List Bytes) (E : List Bytes)
    (hE : E = (nk :: (keys ++ ns :: (sigs ++ dummy :: s4))).reverse) :
    E.take (E.length - (2 + keys.length + 1 + sigs.length - 1)) = s4.reverse ++ [dummy] := by
  subst hE
  rw [List.length_reverse, ← List.reverse_drop]
  have : 2 + keys.length + 1 + sigs.length - 1 = (keys.length + (sigs.length + 1)) + 1 := by omega
  rw [this, List.drop_succ_cons, ← List.drop_drop, List.drop_left, ← List.drop_drop]
  simp

private theorem shape_sigs (nk ns dummy : Bytes) (keys sigs s4 : List Bytes) (E : List Bytes)
    (hE : E = (nk :: (keys ++ ns :: (sigs ++ dummy :: s4))).reverse) :
    (E.take (E.length - (2 + keys.length))).drop (E.length - (2 + keys.length + 1 + sigs.length - 1)) = sigs.reverse := by
  have hlen : E.length = keys.length + sigs.length + s4.length + 3 := by rw [hE]; simp; omega
  rw [hlen]
  have hlen2 : (nk :: (keys ++ ns :: (sigs ++ dummy :: s4))).length = keys.length + sigs.length + s4.length + 3 := by
    simp; omega
  subst hE
  rw [← hlen2, ← List.reverse_drop, hlen2]
  have : 2 + keys.length = (keys.length + 1) + 1 := by omega
  rw [this, List.drop_succ_cons, ← List.drop_drop, List.drop_left]
  simp only [List.drop_succ_cons, List.drop_zero, List.reverse_append, List.reverse_cons]
  have h2 : keys.length + sigs.length + s4.length + 3 - (keys.length + 1 + 1 + 1 + sigs.length - 1)
      = (s4.reverse ++ [dummy]).length := by
    simp; omega
  rw [h2, List.drop_left]

/-- the model after the three stack-size checks -/
def msTail (cx : Ctx) (e : SEE) (verify : Bool) (nKeys nSigs : Nat) : M SEE := do
  let st := e.stack
  let nOpCount := e.nOpCount + nKeys
  let isig := 2 + nKeys + 1
  let i := 2 + nKeys + 1 + nSigs
  let mut scriptCode := e.pbegincodehash
  for k in [0:nSigs] do
    let sig ← top st (isig + k)
    if e.sigversion == .BASE then
      let (sc, found) := findAndDelete scriptCode (pushData sig)
      scriptCode := sc
      if found > 0 && hasFlag e.flags Flag.CONST_SCRIPTCODE then fail .SIG_FINDANDDELETE
  let fSuccess ← multisigLoop cx e scriptCode st nSigs nKeys isig 2
  let sigs := (st.take (st.length - (2 + nKeys))).drop (st.length - (i - 1))
  if !fSuccess && hasFlag e.flags Flag.NULLFAIL && sigs.any (fun s => s.length != 0) then fail .SIG_NULLFAIL
  let st := st.take (st.length - (i - 1))
  if st.length < 1 then fail .INVALID_STACK_OPERATION
  let dummy ← top st 1
  if hasFlag e.flags Flag.NULLDUMMY && dummy.length != 0 then fail .SIG_NULLDUMMY
  let st ← pop st
  if verify then
    if fSuccess then sizeCheck { e with stack := st, nOpCount := nOpCount } else fail .CHECKMULTISIGVERIFY
  else sizeCheck { e with stack := st ++ [if fSuccess then vchTrue else vchFalse], nOpCount := nOpCount }

def msModel (cx : Ctx) (e : SEE) (verify : Bool) : M SEE := do
  let st := e.stack
  if e.sigversion == .TAPSCRIPT then fail .TAPSCRIPT_CHECKMULTISIG
  if st.length < 1 then fail .INVALID_STACK_OPERATION
  let nKeys := getint (← num (← top st 1) e.requireMinimal)
  if nKeys < 0 || nKeys > (Gen.MAX_PUBKEYS_PER_MULTISIG : Int) then fail .PUBKEY_COUNT
  let nKeys := nKeys.toNat
  let nOpCount := e.nOpCount + nKeys
  if nOpCount > Gen.MAX_OPS_PER_SCRIPT then fail .OP_COUNT
  let i := 2 + nKeys
  if st.length < i then fail .INVALID_STACK_OPERATION
  let nSigs := getint (← num (← top st i) e.requireMinimal)
  if nSigs < 0 || nSigs > (nKeys : Int) then fail .SIG_COUNT
  let nSigs := nSigs.toNat
  let i := i + 1 + nSigs
  if st.length < i then fail .INVALID_STACK_OPERATION
  msTail cx e verify nKeys nSigs

theorem execOpcode_CHECKMULTISIG (cx e fExec pc) : execOpcode cx e .OP_CHECKMULTISIG fExec pc = msModel cx e false := rfl
theorem execOpcode_CHECKMULTISIGVERIFY (cx e fExec pc) :
    execOpcode cx e .OP_CHECKMULTISIGVERIFY fExec pc = msModel cx e true := rfl

/-- the specification after its stack checks -/
private def specTail (cfg : Spec.Cfg) (verify : Bool) (st : Spec.St) (keys sigs s3 : List Bytes) (opCount : Nat) :
    Spec.R Spec.St := do
  let code ← Spec.deleteAll cfg sigs st.codeFrom
  let ok ← Spec.matchSigs cfg code sigs keys
  if !ok && hasFlag cfg.flags Flag.NULLFAIL && sigs.any (fun s => !s.isEmpty) then .error .SIG_NULLFAIL
  match s3 with
  | [] => .error .INVALID_STACK_OPERATION
  | dummy :: s4 =>
    if hasFlag cfg.flags Flag.NULLDUMMY && !dummy.isEmpty then .error .SIG_NULLDUMMY
    if verify then
      if ok then Spec.checkSize { st with stack := s4, opCount := opCount } else .error .CHECKMULTISIGVERIFY
    else Spec.checkSize { st with stack := Spec.ofBool ok :: s4, opCount := opCount }

private theorem tail_rel {cx : Ctx} {e : SEE} {cfg : Spec.Cfg} {st : Spec.St}
    (hc : CfgRel cx e cfg) (h : Rel e st) (verify : Bool) (nk ns dummy : Bytes) (keys sigs s3 s4 : List Bytes)
    (K N : Nat) (hK : keys.length = K) (hN : sigs.length = N) (hs3 : s3 = dummy :: s4)
    (hst : st.stack = nk :: (keys ++ ns :: (sigs ++ s3))) :
    RelOut (msTail cx e verify K N) (specTail cfg verify st keys sigs s3 (st.opCount + K)) := by
  subst hK hN hs3
  have hE : e.stack = (nk :: (keys ++ ns :: (sigs ++ dummy :: s4))).reverse := by rw [h.stack, hst]
  unfold msTail specTail
  simp only [Std.Legacy.Range.forIn_eq_forIn_range', Std.Legacy.Range.size, Nat.sub_zero, Nat.add_sub_cancel, Nat.div_one]
  have hsig : ∀ k (hk : k < sigs.length), top e.stack (2 + keys.length + 1 + k) = .ok sigs[k] := by
    intro k hk; rw [hE]; exact shape_sig nk ns dummy keys sigs s4 k hk
  have hkey : ∀ k (hk : k < keys.length), top e.stack (2 + k) = .ok keys[k] := by
    intro k hk; rw [hE]; exact shape_key nk ns dummy keys sigs s4 k hk
  refine RelRes.bind_out (R := Eq)
    (m := forIn (List.range' 0 sigs.length) e.pbegincodehash (fadBody e e.stack (2 + keys.length + 1))) ?_ fun code _ hcode => ?_
  · rw [h.codeFrom]; exact fadLoop hc e.stack _ sigs 0 _ hsig
  · subst hcode
    refine (msLoop hc code e.stack keys sigs _ 2 hsig hkey).bind_out fun ok _ hok => ?_
    subst hok
    rw [shape_sigs nk ns dummy keys sigs s4 e.stack hE, shape_take nk ns dummy keys sigs s4 e.stack hE]
    simp only [List.any_reverse, hc.flags, top1, pop_snoc, ok_bind]
    have hany : (fun s : Bytes => s.length != 0) = (fun s => !s.isEmpty) := by
      funext s; cases s <;> rfl
    have hd : (dummy.length != 0) = !dummy.isEmpty := by cases dummy <;> rfl
    have c2 : ¬ ((s4.reverse ++ [dummy]).length < 1) := by simp
    rw [hany, hd, if_neg c2]
    by_cases c1 : (!ok && hasFlag e.flags Flag.NULLFAIL && sigs.any fun s => !s.isEmpty) = true
    · rw [if_pos c1, if_pos c1]; simp
    · rw [if_neg c1, if_neg c1]
      by_cases c3 : (hasFlag e.flags Flag.NULLDUMMY && !dummy.isEmpty) = true
      · simp only [if_pos c3]; simp
      · simp only [if_neg c3]
        have hop : st.opCount + keys.length = e.nOpCount + keys.length := by rw [h.opCount]
        cases verify <;> cases ok <;> simp only [Bool.false_eq_true, if_false, if_true]
        · exact sizeCheck_rel { h with stack := by simp [Spec.ofBool, vchFalse], opCount := hop }
        · exact sizeCheck_rel { h with stack := by simp [Spec.ofBool, vchTrue], opCount := hop }
        · simp
        · exact sizeCheck_rel { h with stack := rfl, opCount := hop }

private theorem ms_refines {cx : Ctx} {e : SEE} {cfg : Spec.Cfg} {st : Spec.St}
    (hc : CfgRel cx e cfg) (h : Rel e st) (verify : Bool) :
    RelOut (msModel cx e verify) (Spec.execMultisig cfg (hasFlag cfg.flags Flag.MINIMALDATA) verify st) := by
  unfold msModel Spec.execMultisig
  have hsv : (cfg.sigversion == .TAPSCRIPT) = (e.sigversion == .TAPSCRIPT) := by rw [hc.sv]
  have hmp : Gen.MAX_PUBKEYS_PER_MULTISIG = Spec.maxPubkeysPerMultisig := by decide
  have hmo : Gen.MAX_OPS_PER_SCRIPT = Spec.maxOpsPerScript := by decide
  rw [hsv]
  by_cases ht : (e.sigversion == SigVersion.TAPSCRIPT) = true
  · rw [if_pos ht, if_pos ht]; exact relOut_fail_bind _ _ _
  · rw [if_neg ht, if_neg ht]
    have hs := h.stack
    rcases hst : st.stack with _ | ⟨nk, s1⟩
    · rw [if_pos (by rw [hs, hst]; decide)]; exact relOut_error_bind (β := Spec.St) rfl rfl _ .ok
    · have hlen : e.stack.length = s1.length + 1 := by rw [hs, hst]; simp
      have c1 : ¬ (e.stack.length < 1) := by omega
      have htop1 : top e.stack 1 = .ok nk := by rw [hs, hst]; simp
      rw [if_neg c1, htop1, hc.rm, ← hc.flags, ← h.opCount, hmp, hmo]
      simp only [ok_bind]
      rw [default_num_size]
      refine relOut_num fun n _ => ?_
      generalize hKdef : (getint n).toNat = K
      by_cases c2 : (decide (getint n < 0) || decide (getint n > ↑Spec.maxPubkeysPerMultisig)) = true
      · rw [if_pos c2, if_pos c2]; exact relOut_fail_bind _ _ _
      · rw [if_neg c2, if_neg c2]
        by_cases c3 : st.opCount + K > Spec.maxOpsPerScript
        · rw [if_pos c3, if_pos c3]; exact relOut_fail_bind _ _ _
        · rw [if_neg c3, if_neg c3]
          -- the model tests the size of the whole stack (`stack.size() < i`), the specification the length of what is left of it
          by_cases c4 : s1.length < K + 1
          · rw [if_pos (by omega : e.stack.length < 2 + K), if_pos c4]; exact relOut_fail_bind _ _ _
          · rw [if_neg (by omega : ¬ e.stack.length < 2 + K), if_neg c4]
            rcases hdrop : List.drop K s1 with _ | ⟨ns, s2⟩
            · have := congrArg List.length hdrop
              simp at this; omega
            · simp only []
              have hs2len : s1.length = K + 1 + s2.length := by
                have := congrArg List.length hdrop
                simp at this; omega
              have hns : (nk :: s1)[K + 1]? = some ns := by
                rw [List.getElem?_cons_succ]
                have := congrArg (fun l => l[0]?) hdrop
                simpa [List.getElem?_drop] using this
              have htop2 : top e.stack (2 + K) = .ok ns := by
                rw [hs, hst, show 2 + K = (K + 1) + 1 by omega]
                exact top_reverse_of_getElem? hns
              rw [htop2]
              simp only [ok_bind]
              refine relOut_num fun m _ => ?_
              generalize hNdef : (getint m).toNat = N
              by_cases c5 : (decide (getint m < 0) || decide (getint m > ↑K)) = true
              · rw [if_pos c5, if_pos c5]; exact relOut_fail_bind _ _ _
              · rw [if_neg c5, if_neg c5]
                by_cases c6 : s2.length < N + 1
                · rw [if_pos (by omega : e.stack.length < 2 + K + 1 + N), if_pos c6]; exact relOut_fail_bind _ _ _
                · rw [if_neg (by omega : ¬ e.stack.length < 2 + K + 1 + N), if_neg c6]
                  rcases hd3 : List.drop N s2 with _ | ⟨dummy, s4⟩
                  · have := congrArg List.length hd3
                    simp at this; omega
                  · have hst' : st.stack = nk :: (List.take K s1 ++ ns :: (List.take N s2 ++ List.drop N s2)) := by
                      rw [List.take_append_drop, ← hdrop, List.take_append_drop, hst]
                    have := tail_rel hc h verify nk ns dummy (List.take K s1) (List.take N s2)
                      (List.drop N s2) s4 K N (by simp; omega) (by simp; omega) hd3 hst'
                    rw [hd3] at this
                    exact this

theorem refines_OP_CHECKMULTISIG : OpRefines .OP_CHECKMULTISIG := by
  intro cx cfg e st fExec pc hc h hw
  rw [execOpcode_CHECKMULTISIG]
  exact ms_refines hc h false

theorem refines_OP_CHECKMULTISIGVERIFY : OpRefines .OP_CHECKMULTISIGVERIFY := by
  intro cx cfg e st fExec pc hc h hw
  rw [execOpcode_CHECKMULTISIGVERIFY]
  exact ms_refines hc h true

end Btcdeb.Refine
