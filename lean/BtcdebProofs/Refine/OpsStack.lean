/-
  Refinement Model ≈ Spec for constants, NOPs, stack-manipulation opcodes, OP_EQUAL(VERIFY) and the
  opcodes of the `default: BAD_OPCODE` branch.
-/
import BtcdebProofs.Refine.Basic
namespace Btcdeb.Refine
open Btcdeb Model

theorem refines_smallInt {op : Opcode} {n : Int} (hn : Spec.smallInt op = some n) : OpRefines op := by
  intro cx cfg e st fExec pc hc h hw
  rw [execOpcode_smallInt hn, execOp_smallInt hn]
  exact sizeCheck_rel (h.setStack (by simp [h.stack, Spec.encodeNum]))

theorem refines_nopN {op : Opcode} (hn : Spec.isNopN op = true) : OpRefines op := by
  intro cx cfg e st fExec pc hc h hw
  rw [execOpcode_nopN hn, execOp_nopN hn, hc.flags]
  split
  · simp
  · exact sizeCheck_rel h

theorem refines_bad {op : Opcode} (hm : ∀ cx e fExec pc, execOpcode cx e op fExec pc = fail .BAD_OPCODE)
    (hs : ∀ cfg ex after pos st, Spec.execOp cfg op ex after pos st = .error .BAD_OPCODE) : OpRefines op := by
  intro cx cfg e st fExec pc hc h hw
  rw [hm, hs]
  simp

theorem refines_OP_NOP : OpRefines .OP_NOP := by
  op_start .OP_NOP
  exact sizeCheck_rel h

theorem refines_OP_RETURN : OpRefines .OP_RETURN := by
  op_start .OP_RETURN
  simp

theorem refines_OP_VERIFY : OpRefines .OP_VERIFY := by
  op_start .OP_VERIFY
  rcases hst : st.stack with _ | ⟨a, s⟩ <;> simp [h.stack, hst, castToBool_eq_toBool]
  split
  · exact sizeCheck_rel (h.setStack rfl)
  · simp

theorem refines_OP_TOALTSTACK : OpRefines .OP_TOALTSTACK := by
  op_start .OP_TOALTSTACK
  rcases hst : st.stack with _ | ⟨a, s⟩ <;> simp [h.stack, hst]
  exact sizeCheck_rel (h.setStacks rfl (by simp [h.alt]))

theorem refines_OP_FROMALTSTACK : OpRefines .OP_FROMALTSTACK := by
  op_start .OP_FROMALTSTACK
  rcases hst : st.alt with _ | ⟨a, s⟩ <;> simp [h.alt, hst]
  exact sizeCheck_rel (h.setStacks (by simp [h.stack]) rfl)

theorem refines_OP_2DROP : OpRefines .OP_2DROP := by
  op_start .OP_2DROP
  rcases hst : st.stack with _ | ⟨a, _ | ⟨b, s⟩⟩ <;> simp [h.stack, hst]
  exact sizeCheck_rel (h.setStack rfl)

theorem refines_OP_2DUP : OpRefines .OP_2DUP := by
  op_start .OP_2DUP
  rcases hst : st.stack with _ | ⟨a, _ | ⟨b, s⟩⟩ <;> simp [h.stack, hst]
  exact sizeCheck_rel (h.setStack (by simp))

theorem refines_OP_3DUP : OpRefines .OP_3DUP := by
  op_start .OP_3DUP
  rcases hst : st.stack with _ | ⟨a, _ | ⟨b, _ | ⟨c, s⟩⟩⟩ <;> simp [h.stack, hst]
  exact sizeCheck_rel (h.setStack (by simp))

theorem refines_OP_IFDUP : OpRefines .OP_IFDUP := by
  op_start .OP_IFDUP
  rcases hst : st.stack with _ | ⟨a, s⟩ <;> simp [h.stack, hst, castToBool_eq_toBool]
  exact sizeCheck_rel (h.setStack (by split <;> simp))

theorem refines_OP_DEPTH : OpRefines .OP_DEPTH := by
  op_start .OP_DEPTH
  exact sizeCheck_rel (h.setStack (by simp [h.stack, Spec.encodeNum]))

theorem refines_OP_DROP : OpRefines .OP_DROP := by
  op_start .OP_DROP
  rcases hst : st.stack with _ | ⟨a, s⟩ <;> simp [h.stack, hst]
  exact sizeCheck_rel (h.setStack rfl)

theorem refines_OP_DUP : OpRefines .OP_DUP := by
  op_start .OP_DUP
  rcases hst : st.stack with _ | ⟨a, s⟩ <;> simp [h.stack, hst]
  exact sizeCheck_rel (h.setStack (by simp))

theorem refines_OP_OVER : OpRefines .OP_OVER := by
  op_start .OP_OVER
  rcases hst : st.stack with _ | ⟨a, _ | ⟨b, s⟩⟩ <;> simp [h.stack, hst]
  exact sizeCheck_rel (h.setStack (by simp))

theorem refines_OP_SIZE : OpRefines .OP_SIZE := by
  op_start .OP_SIZE
  rcases hst : st.stack with _ | ⟨a, s⟩ <;> simp [h.stack, hst]
  exact sizeCheck_rel (h.setStack (by simp [Spec.encodeNum]))

theorem refines_OP_EQUAL : OpRefines .OP_EQUAL := by
  op_start .OP_EQUAL
  rcases hst : st.stack with _ | ⟨a, _ | ⟨b, s⟩⟩ <;> simp [h.stack, hst]
  exact sizeCheck_rel (h.setStack (by simp [Spec.ofBool, vchTrue, vchFalse]))

theorem refines_OP_EQUALVERIFY : OpRefines .OP_EQUALVERIFY := by
  op_start .OP_EQUALVERIFY
  rcases hst : st.stack with _ | ⟨a, _ | ⟨b, s⟩⟩ <;> simp [h.stack, hst]
  split
  · exact sizeCheck_rel (h.setStack rfl)
  · simp

theorem refines_OP_NIP : OpRefines .OP_NIP := by
  op_start .OP_NIP
  rcases hst : st.stack with _ | ⟨a, _ | ⟨b, s⟩⟩ <;> simp [h.stack, hst]
  exact sizeCheck_rel (h.setStack (by simpa using eraseFromEnd_reverse (a :: b :: s) 1 (by simp)))

theorem refines_OP_2OVER : OpRefines .OP_2OVER := by
  op_start .OP_2OVER
  rcases hst : st.stack with _ | ⟨a, _ | ⟨b, _ | ⟨c, _ | ⟨d, s⟩⟩⟩⟩ <;> simp [h.stack, hst]
  exact sizeCheck_rel (h.setStack (by simp))

theorem refines_OP_2ROT : OpRefines .OP_2ROT := by
  op_start .OP_2ROT
  rcases hst : st.stack with _ | ⟨a, _ | ⟨b, _ | ⟨c, _ | ⟨d, _ | ⟨x, _ | ⟨y, s⟩⟩⟩⟩⟩⟩ <;> simp [h.stack, hst]
  refine sizeCheck_rel (h.setStack ?_)
  have hd : List.drop (s.length + 2) (s.reverse ++ [y, x, d, c, b, a]) = [d, c, b, a] := by
    rw [List.drop_append]; simp
  simp [hd]

theorem refines_OP_2SWAP : OpRefines .OP_2SWAP := by
  op_start .OP_2SWAP
  rcases hst : st.stack with _ | ⟨a, _ | ⟨b, _ | ⟨c, _ | ⟨d, s⟩⟩⟩⟩ <;> simp [h.stack, hst]
  exact sizeCheck_rel (h.setStack (by simp))

theorem refines_OP_ROT : OpRefines .OP_ROT := by
  op_start .OP_ROT
  rcases hst : st.stack with _ | ⟨a, _ | ⟨b, _ | ⟨c, s⟩⟩⟩ <;> simp [h.stack, hst]
  exact sizeCheck_rel (h.setStack (by simp))

theorem refines_OP_SWAP : OpRefines .OP_SWAP := by
  op_start .OP_SWAP
  rcases hst : st.stack with _ | ⟨a, _ | ⟨b, s⟩⟩ <;> simp [h.stack, hst]
  exact sizeCheck_rel (h.setStack (by simp))

theorem refines_OP_TUCK : OpRefines .OP_TUCK := by
  op_start .OP_TUCK
  rcases hst : st.stack with _ | ⟨a, _ | ⟨b, s⟩⟩ <;> simp [h.stack, hst]
  exact sizeCheck_rel (h.setStack (by simp))

/-- OP_PICK and OP_ROLL once both dispatches are evaluated; `roll` is the test `op == OP_ROLL` -/
private theorem pick_roll_rel {cx : Ctx} {e : SEE} {cfg : Spec.Cfg} {st : Spec.St} (hc : CfgRel cx e cfg) (h : Rel e st)
    (roll : Bool) :
    RelOut
      (do
        if e.stack.length < 2 then fail .INVALID_STACK_OPERATION
        let v ← top e.stack 1
        let n := getint (← num v e.requireMinimal)
        let stk ← pop e.stack
        if n < 0 || n ≥ (stk.length : Int) then fail .INVALID_STACK_OPERATION
        let vch ← top stk (n.toNat + 1)
        let stk := if roll then eraseFromEnd stk (n.toNat + 1) else stk
        sizeCheck { e with stack := stk ++ [vch] })
      (match st.stack with
      | nb :: x0 :: s => do
        let n := getint (← Spec.numOf (hasFlag cfg.flags Flag.MINIMALDATA) 4 nb)
        let body := x0 :: s
        if n < 0 || n ≥ body.length then .error .INVALID_STACK_OPERATION
        match body[n.toNat]? with
        | some v =>
          if roll then Spec.checkSize { st with stack := v :: body.eraseIdx n.toNat }
          else Spec.checkSize { st with stack := v :: body }
        | none => .error .INVALID_STACK_OPERATION
      | _ => .error .INVALID_STACK_OPERATION) := by
  rcases hst : st.stack with _ | ⟨nb, _ | ⟨x0, s⟩⟩
  · simp [h.stack, hst]
  · simp [h.stack, hst]
  · have hs' : e.stack = (x0 :: s).reverse ++ [nb] := by simp [h.stack, hst]
    obtain ⟨body, hb⟩ : ∃ body, body = x0 :: s := ⟨_, rfl⟩
    simp only [hs']
    rw [← hb]
    have hbl : ¬ ((body.reverse ++ [nb]).length < 2) := by simp [hb]
    simp only [hbl, if_false, top1, pop_snoc, ok_bind, List.length_reverse]
    rw [hc.flags, ← hc.rm, default_num_size]
    refine relOut_num fun n _ => ?_
    by_cases hn : getint n < 0 ∨ (body.length : Int) ≤ getint n
    · simp [hn]
    · have hk : (getint n).toNat < body.length := by omega
      cases roll <;>
        simp [hn, top_reverse _ _ hk, List.getElem?_eq_getElem hk, eraseFromEnd_reverse _ _ hk] <;>
        exact sizeCheck_rel (h.setStack (by simp))

theorem refines_OP_PICK : OpRefines .OP_PICK := by
  intro cx cfg e st fExec pc hc h hw
  exact pick_roll_rel hc h false

theorem refines_OP_ROLL : OpRefines .OP_ROLL := by
  intro cx cfg e st fExec pc hc h hw
  exact pick_roll_rel hc h true

end Btcdeb.Refine
