/-
  `Model.findAndDelete` (transcription of Bitcoin Core's `FindAndDelete` loop) computes the same
  function as the structural specification `Spec.findAndDelete`.
-/
import BtcdebProofs.Lemmas.Instr
namespace Btcdeb.Refine
open Btcdeb Model

theorem deleteAt_succ_noprefix (fuel : Nat) (pat s : Bytes) (hp : pat ≠ []) (hn : pat.isPrefixOf s = false) :
    Spec.deleteAt (fuel + 1) pat s =
      match instrLen s with
      | none => (s, 0)
      | some t => (s.take t ++ (Spec.deleteAt fuel pat (s.drop t)).1, (Spec.deleteAt fuel pat (s.drop t)).2) := by
  have hp' : pat.isEmpty = false := by cases pat <;> simp at hp ⊢
  cases s with
  | nil => simp [Spec.deleteAt, instrLen, hp', hn]
  | cons b rest =>
    simp only [Spec.deleteAt, instrLen, hp', hn, Bool.false_eq_true, if_false]
    by_cases h1 : b.toNat ≤ 0x4e
    · simp only [h1, if_true]
      by_cases h2 : rest.length < Spec.pushLenBytes b.toNat
      · simp only [h2, if_true]
      · simp only [h2, if_false]
        generalize (if Spec.pushLenBytes b.toNat = 0 then b.toNat
          else leValue (List.take (Spec.pushLenBytes b.toNat) rest)) = n
        by_cases h3 : (b :: rest).length < 1 + Spec.pushLenBytes b.toNat + n <;> simp only [h3, if_true, if_false]
    · simp only [h1, if_false]
      rfl

theorem deleteAt_succ_prefix (fuel : Nat) (pat s : Bytes) (hp : pat ≠ []) (hn : pat.isPrefixOf s = true) :
    Spec.deleteAt (fuel + 1) pat s =
      ((Spec.deleteAt fuel pat (s.drop pat.length)).1, (Spec.deleteAt fuel pat (s.drop pat.length)).2 + 1) := by
  have hp' : pat.isEmpty = false := by cases pat <;> simp at hp ⊢
  simp [Spec.deleteAt, hp', hn]

/-- unfolding of the model's loop body without the dependent `match h :` -/
theorem findAndDeleteGo_eq (b pc acc : Bytes) (found : Nat) :
    findAndDeleteGo b pc acc found =
      match getOp (skipMatches b pc found).1 with
      | none => (acc ++ (skipMatches b pc found).1, (skipMatches b pc found).2)
      | some g => findAndDeleteGo b g.rest
          (acc ++ (skipMatches b pc found).1.take ((skipMatches b pc found).1.length - g.rest.length))
          (skipMatches b pc found).2 := by
  rw [findAndDeleteGo]
  split <;> rename_i h <;> simp [h]

theorem findAndDeleteGo_spec (b : Bytes) (hb : b ≠ []) :
    ∀ (fuel : Nat) (pc : Bytes), pc.length < fuel → ∀ (acc : Bytes) (n : Nat),
      findAndDeleteGo b pc acc n = (acc ++ (Spec.deleteAt fuel b pc).1, n + (Spec.deleteAt fuel b pc).2) := by
  intro fuel
  induction fuel with
  | zero => intro pc hf; cases hf
  | succ f ih =>
    intro pc hf acc n
    have hpos : 0 < b.length := List.length_pos_iff.mpr hb
    by_cases hpre : b.isPrefixOf pc = true
    · -- one occurrence of the pattern is skipped
      have hle : b.length ≤ pc.length := (List.isPrefixOf_iff_prefix.mp hpre).length_le
      have hsk : skipMatches b pc n = skipMatches b (pc.drop b.length) (n + 1) := by
        rw [skipMatches]; simp [hpre, hb]
      have hgo : findAndDeleteGo b pc acc n = findAndDeleteGo b (pc.drop b.length) acc (n + 1) := by
        rw [findAndDeleteGo_eq, findAndDeleteGo_eq b (pc.drop b.length), hsk]
      rw [hgo, deleteAt_succ_prefix f b pc hb hpre]
      rw [ih (pc.drop b.length) (by simp only [List.length_drop]; omega) acc (n + 1)]
      simp only [Prod.mk.injEq, true_and]; omega
    · -- no occurrence here: parse one instruction
      have hpre' : b.isPrefixOf pc = false := Bool.eq_false_iff.mpr hpre
      have hsk : skipMatches b pc n = (pc, n) := by
        rw [skipMatches]; simp [hpre']
      rw [findAndDeleteGo_eq, hsk, deleteAt_succ_noprefix f b pc hb hpre']
      simp only
      cases hg : getOp pc with
      | none =>
        rw [instrLen_eq, ← getOp_decodeOne, hg]
        simp
      | some g =>
        obtain ⟨t, ht, ht0, htl, hrest⟩ := getOp_some hg
        rw [ht]
        simp only
        rw [ih g.rest (by rw [hrest]; simp only [List.length_drop]; omega)]
        have ht' : pc.length - g.rest.length = t := by rw [hrest]; simp only [List.length_drop]; omega
        rw [ht', hrest, List.append_assoc]

theorem findAndDelete_eq (s b : Bytes) : Model.findAndDelete s b = Spec.findAndDelete s b := by
  unfold Model.findAndDelete Spec.findAndDelete
  cases b with
  | nil => simp [Spec.deleteAt]
  | cons x xs =>
    simp only [List.isEmpty_cons, Bool.false_eq_true, if_false]
    rw [findAndDeleteGo_spec (x :: xs) (by simp) (s.length + 1) s (by omega) [] 0]
    simp

end Btcdeb.Refine
