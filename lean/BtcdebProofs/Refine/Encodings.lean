/-
  Refinement Model ≈ Spec for the signature / public-key encoding checks and the push encoding.
-/
import BtcdebProofs.Refine.Basic
namespace Btcdeb.Refine
open Btcdeb Model

private theorem byteAt_nil (i : Nat) : byteAt [] i = 0 := by simp [byteAt]
private theorem byteAt_cons_zero (a : UInt8) (s : Bytes) : byteAt (a :: s) 0 = a.toNat := by simp [byteAt]
private theorem byteAt_cons_succ (a : UInt8) (s : Bytes) (i : Nat) : byteAt (a :: s) (i + 1) = byteAt s i := by
  simp [byteAt]
private theorem byteAt_take (l : Bytes) (k i : Nat) (h : i < k) : byteAt (l.take k) i = byteAt l i := by
  simp [byteAt, h]
private theorem byteAt_drop (s : Bytes) (o i : Nat) : byteAt (s.drop o) i = byteAt s (o + i) := by
  simp [byteAt, List.getElem?_drop]

theorem isCompressedOrUncompressed_eq (k : Bytes) :
    isCompressedOrUncompressedPubKey k = Spec.isCompressedOrUncompressed k := by
  unfold isCompressedOrUncompressedPubKey Spec.isCompressedOrUncompressed
  rcases k with _ | ⟨h, t⟩
  · simp
  · simp only [byteAt_cons_zero, List.length_cons]
    rw [Bool.eq_iff_iff]
    by_cases h4 : h.toNat = 4 <;> by_cases h2 : h.toNat = 2 <;> by_cases h3 : h.toNat = 3 <;>
      simp [h4, h2, h3] <;> omega

theorem isCompressed_eq (k : Bytes) : isCompressedPubKey k = Spec.isCompressed k := by
  unfold isCompressedPubKey Spec.isCompressed
  rcases k with _ | ⟨h, t⟩
  · simp
  · simp only [byteAt_cons_zero, List.length_cons]
    rw [Bool.eq_iff_iff]
    simp
    constructor <;> intro h <;> simp [h]

theorem pushData_eq (b : Bytes) : pushData b = Spec.pushOf b := by
  unfold pushData Spec.pushOf
  have : Op.OP_PUSHDATA1 = 0x4c := by decide
  rw [this]

theorem isDefinedHashtype_eq (sig : Bytes) : isDefinedHashtypeSignature sig = Spec.definedHashtype sig := by
  unfold isDefinedHashtypeSignature Spec.definedHashtype
  have h1 : Gen.SIGHASH_ALL = 1 := by decide
  have h3 : Gen.SIGHASH_SINGLE = 3 := by decide
  rw [h1, h3]
  cases sig.getLast? with
  | none => rfl
  | some h =>
    simp only
    rw [Bool.eq_iff_iff]
    simp
    omega

/-- the integer rule of BIP66, as the index checks of the C++ -/
private theorem derInt_eq (b : Bytes) :
    Spec.derInt b = (b.length != 0 && decide (byteAt b 0 < 0x80) &&
      !(decide (b.length > 1) && byteAt b 0 == 0 && decide (byteAt b 1 < 0x80))) := by
  rcases b with _ | ⟨h, _ | ⟨h2, t⟩⟩
  · simp [Spec.derInt]
  · simp [Spec.derInt, byteAt_cons_zero]
  · rw [Bool.eq_iff_iff]; simp [Spec.derInt, byteAt_cons_zero, byteAt_cons_succ]

private theorem derInt_field (s : Bytes) (o l : Nat) (h : o + l ≤ s.length) :
    Spec.derInt ((s.drop o).take l) = (l != 0 && decide (byteAt s o < 0x80) &&
      !(decide (l > 1) && byteAt s o == 0 && decide (byteAt s (o + 1) < 0x80))) := by
  have hl : ((s.drop o).take l).length = l := by rw [List.length_take, List.length_drop]; omega
  rw [derInt_eq, hl]
  rcases l with _ | _ | l
  · rfl
  · rw [byteAt_take _ _ 0 (by omega), byteAt_drop]; simp
  · rw [byteAt_take _ _ 0 (by omega), byteAt_take _ _ 1 (by omega), byteAt_drop, byteAt_drop]; rfl

/-- the frame `30 len 02 lenR R 02 lenS S hashtype`, read at the offsets the C++ uses -/
private theorem strictDer_iff (sig : Bytes) :
    Spec.strictDer sig = true ↔
      9 ≤ sig.length ∧ sig.length ≤ 73 ∧ byteAt sig 0 = 0x30 ∧ byteAt sig 1 = sig.length - 3 ∧
      byteAt sig 3 + 5 < sig.length ∧ byteAt sig 3 + byteAt sig (byteAt sig 3 + 5) + 7 = sig.length ∧
      byteAt sig 2 = 2 ∧ Spec.derInt ((sig.drop 4).take (byteAt sig 3)) = true ∧
      byteAt sig (byteAt sig 3 + 4) = 2 ∧
      Spec.derInt ((sig.drop (byteAt sig 3 + 6)).take (byteAt sig (byteAt sig 3 + 5))) = true := by
  rcases sig with _ | ⟨t, _ | ⟨l, _ | ⟨t1, _ | ⟨lr, rest⟩⟩⟩⟩
  -- fewer than four bytes: the grammar computes to `false`, and `9 ≤ sig.length` fails
  iterate 4 exact ⟨nofun, fun h => absurd h.1 (by simp)⟩
  · unfold Spec.strictDer
    simp only [byteAt_cons_succ, byteAt_cons_zero, List.drop_succ_cons, List.drop_zero, List.length_cons]
    have e0 : byteAt (rest.drop lr.toNat) 0 = byteAt rest lr.toNat := byteAt_drop rest lr.toNat 0
    have e1 := byteAt_drop rest lr.toNat 1
    have e2 : rest.drop (lr.toNat + 2) = (rest.drop lr.toNat).drop 2 := by rw [List.drop_drop]
    have hlen := List.length_drop (i := lr.toNat) (l := rest)
    rcases hd : rest.drop lr.toNat with _ | ⟨t2, _ | ⟨ls, rest3⟩⟩ <;> rw [hd] at e0 e1 e2 hlen <;>
      simp only [List.length_nil, List.length_cons] at hlen
    -- no room for `02 lenS` after R: the C++ has stopped at `5 + lenR >= size`
    · simp only [Bool.and_false, Bool.false_eq_true, false_iff]
      rintro ⟨_, _, _, _, h, _⟩
      omega
    · simp only [Bool.and_false, Bool.false_eq_true, false_iff]
      rintro ⟨_, _, _, _, h, _⟩
      omega
    · simp only [byteAt_cons_zero, byteAt_cons_succ, List.drop_succ_cons, List.drop_zero] at e0 e1 e2
      rw [← e0, ← e1, e2]
      have a1 : min lr.toNat rest.length = lr.toNat := by omega
      have a2 : lr.toNat + 5 < rest.length + 1 + 1 + 1 + 1 := by omega
      have a3 : (ls.toNat + 1 = rest3.length) = (lr.toNat + ls.toNat + 7 = rest.length + 1 + 1 + 1 + 1) :=
        propext (by omega)
      simp only [Bool.and_eq_true, decide_eq_true_eq, List.length_take, a1, a2, a3, true_and, and_assoc]
      -- the same nine tests; the C++ makes the length test of S before it looks at R
      exact ⟨fun ⟨h1, h2, h3, h4, h5, h6, h7, h8, h9⟩ => ⟨h1, h2, h3, h4, h8, h5, h6, h7, h9⟩,
        fun ⟨h1, h2, h3, h4, h8, h5, h6, h7, h9⟩ => ⟨h1, h2, h3, h4, h5, h6, h7, h8, h9⟩⟩

theorem isValidSignatureEncoding_eq (sig : Bytes) : isValidSignatureEncoding sig = Spec.strictDer sig := by
  rw [Bool.eq_iff_iff, strictDer_iff]
  unfold isValidSignatureEncoding
  simp only [Nat.add_comm 5]
  -- `simp` turns the `if`-chain of the C++ into the conjunction of its tests: the first seven are those of `strictDer_iff`, in
  -- its order, and become hypotheses; `hR` and `hS` place R and S inside `sig`, where `derInt_field` reads the integer rule
  simp
  intro _ _ _ _ hR hS _
  rw [derInt_field sig 4 _ (by omega), derInt_field sig _ _ (by omega)]
  simp [and_assoc, Nat.add_assoc]

theorem checkSignatureEncoding_rel (cx : Ctx) (e : SEE) (cfg : Spec.Cfg) (hc : CfgRel cx e cfg) (sig : Bytes) :
    RelUnit (checkSignatureEncoding cx sig e.flags) (Spec.sigEncodingOk cfg sig) := by
  unfold checkSignatureEncoding Spec.sigEncodingOk
  rw [hc.flags, hc.checkLowS, isValidSignatureEncoding_eq, isDefinedHashtype_eq]
  by_cases hs : sig = []
  · subst hs; simp [relUnit_iff]
  · have h1 : (sig.length == 0) = false := by simpa using hs
    have h2 : sig.isEmpty = false := by simpa using hs
    simp only [h1, h2, Bool.false_eq_true, if_false]
    by_cases hD : ((hasFlag e.flags Flag.DERSIG || hasFlag e.flags Flag.LOW_S || hasFlag e.flags Flag.STRICTENC) &&
        !Spec.strictDer sig) = true
    · rw [if_pos hD, if_pos hD]; exact ⟨rfl, rfl⟩
    · -- `IsLowDERSignature` tests the encoding once more: under LOW_S that test has just been passed
      have hL : ¬ (hasFlag e.flags Flag.LOW_S && !Spec.strictDer sig) = true := by
        intro h
        simp only [Bool.and_eq_true, Bool.or_eq_true] at h hD
        exact hD ⟨.inl (.inr h.1), h.2⟩
      rw [if_neg hD, if_neg hD, if_neg hL]
      by_cases hW : (hasFlag e.flags Flag.LOW_S && !cx.checkLowS sig.dropLast) = true
      · rw [if_pos hW, if_pos hW]; exact ⟨rfl, rfl⟩
      · rw [if_neg hW, if_neg hW]
        by_cases hH : (hasFlag e.flags Flag.STRICTENC && !Spec.definedHashtype sig) = true
        · rw [if_pos hH, if_pos hH]; exact ⟨rfl, rfl⟩
        · rw [if_neg hH, if_neg hH]; trivial

theorem checkPubKeyEncoding_rel (cx : Ctx) (e : SEE) (cfg : Spec.Cfg) (hc : CfgRel cx e cfg) (key : Bytes) :
    RelUnit (checkPubKeyEncoding key e.flags e.sigversion) (Spec.keyEncodingOk cfg key) := by
  unfold checkPubKeyEncoding Spec.keyEncodingOk
  rw [hc.flags, hc.sv, isCompressedOrUncompressed_eq, isCompressed_eq]
  split
  · simp [relUnit_iff]
  · split
    · simp [relUnit_iff]
    · simp [relUnit_iff]

end Btcdeb.Refine
