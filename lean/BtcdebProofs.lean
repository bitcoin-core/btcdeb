import BtcdebProofs.Properties.Tables
import BtcdebProofs.Properties.C01
import BtcdebProofs.Properties.C04
import BtcdebProofs.Properties.C07
import BtcdebProofs.Properties.C08
import BtcdebProofs.Properties.C09
import BtcdebProofs.Properties.C10
import BtcdebProofs.Properties.C10Families
import BtcdebProofs.Properties.C10Num
import BtcdebProofs.Properties.C13
import BtcdebProofs.Properties.C13Amount
import BtcdebProofs.Properties.C13Txid
import BtcdebProofs.Properties.C16
import BtcdebProofs.Properties.C17
import BtcdebProofs.Properties.C17Laws
import BtcdebProofs.Properties.C18
import BtcdebProofs.Properties.C18Minimal
import BtcdebProofs.Properties.C18Ctor
import BtcdebProofs.Properties.C05
import BtcdebProofs.Properties.Sighash
import BtcdebProofs.Properties.C06
import BtcdebProofs.Properties.C11
import BtcdebProofs.Properties.C12
import BtcdebProofs.Properties.C14
import BtcdebProofs.Properties.C02
import BtcdebProofs.Properties.C03
import BtcdebProofs.Properties.C03Tx
import BtcdebProofs.Properties.C09Parse
import BtcdebProofs.Properties.C09Idem
import BtcdebProofs.Properties.C07Lexer
import BtcdebProofs.Properties.C15
import BtcdebProofs.Properties.C12Dual
import BtcdebProofs.Properties.C01Display
import BtcdebProofs.Properties.C15Kerl
import BtcdebProofs.Properties.C16Kerl
